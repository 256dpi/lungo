import Lungo.Model.Value
import Lungo.Model.Num
import Lungo.Model.Compare
import Lungo.Model.Json
import Lungo.Model.Access
import Lungo.Model.Arith
import Lungo.Model.Match
import Lungo.Model.Sort
import Lungo.Model.Apply
import Lungo.Model.Project
import Lungo.Model.Collection
import Lungo.Model.Txn
import Lungo.Model.Api
import Lungo.Model.Session
import Lungo.Model.Codec
import Lungo.Model.CatalogLite
import Lungo.Model.File
import Lungo.Spec.I64Ok
import Lungo.Spec.Query
import Lungo.Proofs.Order
import Lungo.Proofs.CompareLaws
import Lungo.Proofs.MatchLaws
import Lungo.Proofs.LeafLemma
import Lungo.Proofs.SpecAgree
import Lungo.Proofs.SpecAgreeRec
import Lungo.Proofs.MatchTotal
import Lungo.Proofs.Codec
import Lungo.Proofs.File
import Lungo.Props.C06
import Lungo.Props.C10
import Lungo.Props.C10Spec
import Lungo.Props.C12
import Lungo.Model.FS
import Lungo.Model.AtomicWrite
import Lungo.Model.CommitStore
import Lungo.Expected.AtomicWrite
import Lungo.Proofs.FS
import Lungo.Proofs.AtomicWrite
import Lungo.Proofs.AtomicWritePhases
import Lungo.Props.C05
import Lungo.Model.GridFS
import Lungo.Spec.Reader
import Lungo.Spec.Chunks
import Lungo.Proofs.GridFSChunks
import Lungo.Proofs.GridFSUpload
import Lungo.Proofs.GridFSLifecycle
import Lungo.Proofs.GridFSDownload
import Lungo.Props.C18
import Lungo.Proofs.ArithLaws
import Lungo.Proofs.AccessLaws
import Lungo.Proofs.ApplyLaws
import Lungo.Proofs.NoPanic
import Lungo.Proofs.NoPanic2
import Lungo.Props.C11
import Lungo.Proofs.SortLaws
import Lungo.Proofs.ProjectLaws
import Lungo.Proofs.ProjectPaths
import Lungo.Props.C13
import Lungo.Props.C14
import Lungo.Model.Conc
import Lungo.Model.StreamTS
import Lungo.Expected.Skeleton
import Lungo.Props.C04
import Lungo.Props.C09
import Lungo.Props.C16
import Lungo.Spec.IndexSpec
import Lungo.Tests.IndexFixtures
import Lungo.Proofs.IndexLaws
import Lungo.Proofs.IndexColl
import Lungo.Proofs.IndexReject
import Lungo.Proofs.CatStep
import Lungo.Proofs.CollEq
import Lungo.Proofs.IndexCat
import Lungo.Proofs.IndexMgmt
import Lungo.Props.C15
import Lungo.Props.C07
import Lungo.Spec.Replay
import Lungo.Proofs.BeqLaws
import Lungo.Proofs.OplogLaws
import Lungo.Proofs.OplogSteps
import Lungo.Proofs.ExpireLaws
import Lungo.Proofs.ReplayLaws
import Lungo.Proofs.UpdateDesc
import Lungo.Props.C08
import Lungo.Props.C19
import Lungo.Props.C20
import Lungo.Model.ApiFlow
import Lungo.Expected.ApiFlow
import Lungo.Props.C17
import Lungo.Proofs.FindLaws
import Lungo.Model.Own
import Lungo.Expected.TxnPrograms
import Lungo.Proofs.OwnHeap
import Lungo.Proofs.OwnSound
import Lungo.Proofs.OwnSoundStmt
import Lungo.Proofs.OwnRun
import Lungo.Proofs.OwnClosed
import Lungo.Proofs.OwnSys
import Lungo.Props.C02
import Lungo.Props.C03
import Lungo.Model.ConcOld
import Lungo.Spec.SeqDB
import Lungo.Proofs.SeqAbs
import Lungo.Proofs.SeqReads
import Lungo.Proofs.SeqInsert
import Lungo.Proofs.SeqDelete
import Lungo.Proofs.SeqMgmt
import Lungo.Proofs.SeqIndex
import Lungo.Proofs.SeqUpdate
import Lungo.Proofs.SeqReplace
import Lungo.Proofs.SeqBulk
import Lungo.Proofs.SeqHandles
import Lungo.Proofs.SeqExpire
import Lungo.Proofs.SeqOk
import Lungo.Props.C01
import Lungo.Model.AtomicSearch
import Lungo.Proofs.AtomicSearch
import Lungo.Proofs.AtomicSearchExpected
import Lungo.Proofs.RetainLaws
