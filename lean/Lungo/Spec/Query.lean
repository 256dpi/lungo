/-
  Lungo.Spec.Query — the declarative reference semantics of MongoDB query filters
  (DESIGN §8.1–8.3): candidates, leaves, per-operator predicates, the core domain.

  This file is the MEANING of "MongoDB's query semantics" in property C10. It is written
  over a small abstract syntax (`Cond`, `Entry`, `Filter`) obtained from a filter document
  by `parseFilter` (which succeeds exactly on the well-formed filters of §8.2(5)); every
  operator is a predicate over the *candidates* / *leaves* of a path, not a control flow.

  Shared with the model (and therefore NOT covered by the agreement theorem beyond the
  domain restrictions of §8.2(4)): the decoding of operator ARGUMENTS into numbers —
  `resolveTypes` (type aliases/numbers), `intArg` ($size), `modOperand` ($mod),
  `parseBitMask` ($bits* masks → positions), `bitAccessor` (bits of a leaf) — and the
  comparison `V.cmp` / classes `V.cls` (C12). Everything about paths, arrays, fan-out,
  missing vs null and the logical structure is defined here independently.

  Core Lean only (linked into the driver).
-/
import Lungo.Model.Match
namespace Lungo.Spec
open Lungo

/-! ### 8.1 paths, candidates, leaves -/

/-- a path segment that is a canonical decimal numeral (no sign, no leading zero) -/
def numeral (s : String) : Option Nat :=
  let cs := s.toList
  if cs.isEmpty || !cs.all Char.isDigit || (cs.length > 1 && cs.head? == some '0') then none
  else some (cs.foldl (fun n c => 10 * n + (c.toNat - 48)) 0)

/-- the element an index segment selects in an array, if it is an in-range index -/
def elemAt (xs : List V) (seg : String) : Option V :=
  match numeral seg with
  | some i => xs[i]?
  | none => none

/-- Candidates `(value, viaFanOut)` reached from `v` along `p` (`f`: already fanned out).
    Structural recursion on the path; the fan-out case is the DESIGN text with "the candidates
    of a document element for the same remaining path" unfolded once. -/
def candF : V → Path → Bool → List (V × Bool)
  | v, [], f => [(v, f)]
  | .doc fs, k :: rest, f =>
    match fs.lookup k with
    | some w => candF w rest f
    | none => []
  | .arr xs, k :: rest, f =>
    match elemAt xs k with
    | some x => candF x rest f
    | none => xs.flatMap fun x =>
        match x with
        | .doc fs => (match fs.lookup k with
                      | some w => candF w rest true
                      | none => [])
        | _ => []
  | _, _ :: _, _ => []

/-- §8.1 candidates -/
def cand (v : V) (p : Path) : List (V × Bool) := candF v p false

/-- does the path fan out over an array on its way through `v` (even if nothing is reached)? -/
def fans : V → Path → Bool
  | _, [] => false
  | .doc fs, k :: rest =>
    match fs.lookup k with
    | some w => fans w rest
    | none => false
  | .arr xs, k :: rest =>
    match elemAt xs k with
    | some x => fans x rest
    | none => true
  | _, _ :: _ => false

/-- does the path fan out at least twice (a fan-out below a fan-out)? -/
def fans2 : V → Path → Bool
  | _, [] => false
  | .doc fs, k :: rest =>
    match fs.lookup k with
    | some w => fans2 w rest
    | none => false
  | .arr xs, k :: rest =>
    match elemAt xs k with
    | some x => fans2 x rest
    | none => xs.any fun x =>
        match x with
        | .doc fs => (match fs.lookup k with
                      | some w => fans w rest
                      | none => false)
        | _ => false
  | _, _ :: _ => false

/-- a candidate that is an array contributes the array and each of its elements -/
def expand (c : V) : List V :=
  match c with
  | .arr xs => c :: xs
  | _ => [c]

/-- §8.1 leaves of a path below an arbitrary value -/
def leafsAt (v : V) (p : Path) : List V :=
  match cand v p with
  | [] => [.missing]
  | cs => cs.flatMap fun c => expand c.1

/-- §8.1 leaves -/
def leafs (d : Doc) (p : Path) : List V := leafsAt (.doc d) p

/-! ### abstract syntax of well-formed filters -/

inductive CmpOp where | eq | gt | gte | lt | lte
deriving Repr, DecidableEq

inductive BitsOp where | allSet | allClear | anySet | anyClear
deriving Repr, DecidableEq

mutual
/-- an expression operator applied to a path -/
inductive Cond where
  | cmp (o : CmpOp) (v : V)              -- literal / $eq / $gt / $gte / $lt / $lte
  | ne (v : V)
  | in_ (vs : List V)
  | nin (vs : List V)
  | exists_ (arg : V)
  | type (number : Bool) (ts : List Nat)
  | size (n : Int)
  | all (vs : List V)
  | mod (d r : Int)
  | bits (o : BitsOp) (positions : List Nat)
  | not (cs : List Cond)
  | elemOps (cs : List Cond)             -- {$elemMatch: {$gt: 1, …}}
  | elemFields (fcs : List FieldCond)    -- {$elemMatch: {b: 1, "c.d": {$lt: 2}}}
/-- a field entry: dotted path (as written) and the conjunction of its conditions -/
inductive FieldCond where
  | mk (key : String) (cs : List Cond)
end

mutual
inductive Entry where
  | field (fc : FieldCond)
  | and (fs : List Filter)
  | or (fs : List Filter)
  | nor (fs : List Filter)
  | schema (s : Doc)
/-- a filter document: the conjunction of its entries -/
inductive Filter where
  | mk (es : List Entry)
end

/-! ### 8.3 operator meanings -/

def CmpOp.rel : CmpOp → Ordering → Bool
  | .eq, o => o == .eq
  | .gt, o => o == .gt
  | .gte, o => o == .gt || o == .eq
  | .lt, o => o == .lt
  | .lte, o => o == .lt || o == .eq

/-- type-bracketed comparison of a leaf with the operand -/
def cmpHolds (o : CmpOp) (v l : V) : Bool := l.cls == v.cls && o.rel (V.cmp l v)

/-- leaf equals some member (equal values are of the same class) -/
def memberOf (vs : List V) (l : V) : Bool := vs.any fun v => V.cmp l v == .eq

/-- truthiness of the `$exists` argument: anything but false, null, numeric zero -/
def truthy (v : V) : Bool :=
  match v with
  | .bool b => b
  | .null => false
  | .i32 n => n != 0
  | .i64 n => n != 0
  | .f64 b => (match f64Val b with      -- ±0 is zero; NaN and the infinities are not
    | .fin q => q != 0
    | _ => true)
  | .dec h l => (match decVal h l with
    | .fin q => q != 0
    | _ => true)
  | _ => true

/-- a PRESENT leaf of one of the types -/
def typeHolds (number : Bool) (ts : List Nat) (l : V) : Bool :=
  !l.isMissing && ((number && l.cls == .number) || ts.contains l.typ)

/-- the integer a numeric leaf truncates to, if finite and in int64 range -/
def leafInt (l : V) : Option Int :=
  match l with
  | .i32 n => some n
  | .i64 n => some n
  | .f64 _ | .dec _ _ =>
    match l.numVal with
    | .fin q => if (i64Min : Rat) ≤ q ∧ q < (two63 : Rat) then some (ratTrunc q) else none
    | _ => none
  | _ => none

def modHolds (d r : Int) (l : V) : Bool :=
  match leafInt l with
  | some n => Int.tmod n d == r
  | none => false

def bitsHolds (o : BitsOp) (positions : List Nat) (l : V) : Bool :=
  match bitAccessor l with
  | none => false
  | some bit =>
    match o with
    | .allSet => positions.all bit
    | .allClear => positions.all (fun i => !bit i)
    | .anySet => positions.any bit
    | .anyClear => positions.any (fun i => !bit i)

def arrOfLength (n : Int) (c : V) : Bool :=
  match c with
  | .arr xs => (xs.length : Int) == n
  | _ => false

def elemsOf (c : V) : List V :=
  match c with
  | .arr xs => xs
  | _ => []

mutual
/-- does condition `c` hold for path `p` below `root`? -/
def holdsC (root : V) (p : Path) : Cond → Bool
  | .cmp o v => (leafsAt root p).any (cmpHolds o v)
  | .ne v => !(leafsAt root p).any (cmpHolds .eq v)
  | .in_ vs => (leafsAt root p).any (memberOf vs)
  | .nin vs => !(leafsAt root p).any (memberOf vs)
  | .exists_ arg => truthy arg == !(cand root p).isEmpty
  | .type number ts => (leafsAt root p).any (typeHolds number ts)
  | .size n => (cand root p).any fun c => arrOfLength n c.1
  | .all vs => !vs.isEmpty && vs.all fun v => (leafsAt root p).any fun l => V.cmp l v == .eq
  | .mod d r => (leafsAt root p).any (modHolds d r)
  | .bits o ps => (leafsAt root p).any (bitsHolds o ps)
  | .not cs => !holdsCs root p cs
  | .elemOps cs => (cand root p).any fun c => (elemsOf c.1).any fun x => holdsCs x [] cs
  | .elemFields fcs => (cand root p).any fun c => (elemsOf c.1).any fun x => x.isDoc && holdsFCs x fcs
/-- conjunction -/
def holdsCs (root : V) (p : Path) : List Cond → Bool
  | [] => true
  | c :: cs => holdsC root p c && holdsCs root p cs
def holdsFC (root : V) : FieldCond → Bool
  | .mk key cs => holdsCs root (splitPath key) cs
def holdsFCs (root : V) : List FieldCond → Bool
  | [] => true
  | fc :: r => holdsFC root fc && holdsFCs root r
end

def schemaHolds (sch : SchemaEval) (s d : Doc) : Res Bool :=
  match sch s d with
  | .ok _ => .ok true
  | .error .notMatched => .ok false
  | .error e => .error e

mutual
def holdsE (sch : SchemaEval) (d : Doc) : Entry → Res Bool
  | .field fc => .ok (holdsFC (.doc d) fc)
  | .and fs => allF sch d fs
  | .or fs => anyF sch d fs
  | .nor fs => (anyF sch d fs).map (!·)
  | .schema s => schemaHolds sch s d
def holdsEs (sch : SchemaEval) (d : Doc) : List Entry → Res Bool
  | [] => .ok true
  | e :: es =>
    match holdsE sch d e with
    | .ok true => holdsEs sch d es
    | r => r
def holdsF (sch : SchemaEval) (d : Doc) : Filter → Res Bool
  | .mk es => holdsEs sch d es
/-- left-to-right short-circuit conjunction -/
def allF (sch : SchemaEval) (d : Doc) : List Filter → Res Bool
  | [] => .ok true
  | f :: fs =>
    match holdsF sch d f with
    | .ok true => allF sch d fs
    | r => r
/-- left-to-right short-circuit disjunction -/
def anyF (sch : SchemaEval) (d : Doc) : List Filter → Res Bool
  | [] => .ok false
  | f :: fs =>
    match holdsF sch d f with
    | .ok false => anyF sch d fs
    | r => r
end

/-! ### parsing filter documents (well-formedness, §8.2(5)) -/

def optAll {α β} (f : α → Option β) : List α → Option (List β)
  | [] => some []
  | a :: r => match f a, optAll f r with
    | some b, some bs => some (b :: bs)
    | _, _ => none

def parseType (v : V) : Option Cond :=
  let operands : Option (List V) := match v with
    | .arr arr => if arr.isEmpty then none else some arr
    | _ => some [v]
  match operands with
  | none => none
  | some ops => match resolveTypes ops with
    | .ok (number, ts) => some (.type number ts)
    | .error _ => none

def parseSize (v : V) : Option Cond :=
  match intArg v with
  | .ok n => if n < 0 then none else some (.size n)
  | .error _ => none

def parseMod (v : V) : Option Cond :=
  match v with
  | .arr [a, b] =>
    match modOperand a, modOperand b with
    | .ok d, .ok r => if d == 0 then none else some (.mod d r)
    | _, _ => none
  | _ => none

def parseBits (o : BitsOp) (v : V) : Option Cond :=
  match parseBitMask v with
  | .ok ps => some (.bits o ps)
  | .error _ => none

/-- operators without sub-expressions -/
def parseLeaf (op : String) (v : V) : Option Cond :=
  match op with
  | "$eq" => some (.cmp .eq v)
  | "$gt" => some (.cmp .gt v)
  | "$gte" => some (.cmp .gte v)
  | "$lt" => some (.cmp .lt v)
  | "$lte" => some (.cmp .lte v)
  | "$ne" => some (.ne v)
  | "$in" => (match v with | .arr vs => some (.in_ vs) | _ => none)
  | "$nin" => (match v with | .arr vs => some (.nin vs) | _ => none)
  | "$exists" => some (.exists_ v)
  | "$type" => parseType v
  | "$size" => parseSize v
  | "$all" => (match v with | .arr vs => some (.all vs) | _ => none)
  | "$mod" => parseMod v
  | "$bitsAllSet" => parseBits .allSet v
  | "$bitsAllClear" => parseBits .allClear v
  | "$bitsAnySet" => parseBits .anySet v
  | "$bitsAnyClear" => parseBits .anyClear v
  | _ => none

mutual
/-- one expression operator `op: v` -/
def parseCond (op : String) (v : V) : Option Cond :=
  if op == "$not" then
    match v with
    | .doc (e :: es) => (parseConds (e :: es)).map .not
    | _ => none
  else if op == "$elemMatch" then
    match v with
    | .doc ((k, w) :: es) =>
      if isOpKey k then (parseConds ((k, w) :: es)).map .elemOps
      else (parseFieldConds ((k, w) :: es)).map .elemFields
    | _ => none
  else parseLeaf op v
/-- an operator document: every key an operator -/
def parseConds : List (String × V) → Option (List Cond)
  | [] => some []
  | (k, v) :: r =>
    if !isOpKey k then none else
    match parseCond k v, parseConds r with
    | some c, some cs => some (c :: cs)
    | _, _ => none
/-- the value of a field entry: an operator document or a literal -/
def parseFieldValue (v : V) : Option (List Cond) :=
  match v with
  | .doc ((k, w) :: es) =>
    if isOpKey k then parseConds ((k, w) :: es) else some [.cmp .eq v]
  | _ => some [.cmp .eq v]
/-- a document of field conditions only (the field form of `$elemMatch`) -/
def parseFieldConds : List (String × V) → Option (List FieldCond)
  | [] => some []
  | (k, v) :: r =>
    if isOpKey k then none else
    match parseFieldValue v, parseFieldConds r with
    | some cs, some fcs => some (.mk k cs :: fcs)
    | _, _ => none
end

mutual
def parseEntry (k : String) (v : V) : Option Entry :=
  if isOpKey k then
    if k == "$and" then
      match v with
      | .arr (x :: xs) => (parseFilters (x :: xs)).map .and
      | _ => none
    else if k == "$or" then
      match v with
      | .arr (x :: xs) => (parseFilters (x :: xs)).map .or
      | _ => none
    else if k == "$nor" then
      match v with
      | .arr (x :: xs) => (parseFilters (x :: xs)).map .nor
      | _ => none
    else if k == "$jsonSchema" then
      match v with
      | .doc s => some (.schema s)
      | _ => none
    else none
  else (parseFieldValue v).map fun cs => .field (.mk k cs)
def parseEntries : List (String × V) → Option (List Entry)
  | [] => some []
  | (k, v) :: r =>
    match parseEntry k v, parseEntries r with
    | some e, some es => some (e :: es)
    | _, _ => none
def parseFilters : List V → Option (List Filter)
  | [] => some []
  | .doc q :: r =>
    match parseEntries q, parseFilters r with
    | some es, some fs => some (.mk es :: fs)
    | _, _ => none
  | _ :: _ => none
end

/-- the abstract syntax of a well-formed filter document -/
def parseFilter (q : Doc) : Option Filter := (parseEntries q).map .mk

/-- `Spec.matches`: the truth value MongoDB's semantics give to filter document `q` on `d`;
    `none`-parse (ill-formed filter) is an error. -/
def «matches» (sch : SchemaEval) (d q : Doc) : Res Bool :=
  match parseFilter q with
  | some f => holdsF sch d f
  | none => .error .err

/-! ### 8.2 core domain -/

mutual
/-- (1) arrays hold scalars or documents, not arrays (and `missing`, which only denotes absence,
    is not a value: §8.1 "supported values") -/
def noNestedArrays : V → Bool
  | .doc fs => nnaFields fs
  | .arr xs => nnaElems xs
  | .missing => false
  | _ => true
def nnaFields : List (String × V) → Bool
  | [] => true
  | (_, v) :: r => noNestedArrays v && nnaFields r
def nnaElems : List V → Bool
  | [] => true
  | x :: r => !x.isArr && noNestedArrays x && nnaElems r
end

mutual
/-- (3) field names inside array elements are not decimal numerals -/
def noNumeralKeys : Bool → V → Bool
  | _, .doc fs => nnkFields false fs
  | _, .arr xs => nnkElems xs
  | _, _ => true
def nnkFields (inArr : Bool) : List (String × V) → Bool
  | [] => true
  | (k, v) :: r => !(inArr && (k.toList.all Char.isDigit)) && noNumeralKeys false v && nnkFields inArr r
def nnkElems : List V → Bool
  | [] => true
  | .doc fs :: r => nnkFields true fs && nnkElems r
  | x :: r => noNumeralKeys false x && nnkElems r
end

/-- the document part of the core domain -/
def coreDoc (d : Doc) : Bool := noNestedArrays (.doc d) && noNumeralKeys false (.doc d)

/-- a non-null scalar operand -/
def scalarOperand (v : V) : Bool :=
  match v with
  | .null | .missing | .arr _ | .doc _ => false
  | _ => true

def isRegex (v : V) : Bool :=
  match v with
  | .regex _ _ => true
  | _ => false

/-- path segments: non-empty, and a segment read as an index by lungo is a canonical numeral
    (and vice versa) -/
def segOK (s : String) : Bool := s != "" && parseIndex s == numeral s

def pathOK (p : Path) : Bool := !p.isEmpty && p.all segOK

/-- Two facts about `String.splitOn` that hold for every key but are not proved here; they are
    CHECKED instead (lungo evaluates `$elemMatch` on the virtual document `{item: x}` with the path
    `"item." ++ key`; the reference semantics evaluates `key` on `x`). -/
def itemSplitOK (key : String) : Bool :=
  splitPath "item" == ["item"] && splitPath ("item" ++ "." ++ key) == "item" :: splitPath key

def FieldCond.key : FieldCond → String
  | .mk k _ => k

/-- no type of the list is null (10) or array (4) -/
def scalarTypes (ts : List Nat) : Bool := !ts.contains 0x0A && !ts.contains 0x04

def isDec (v : V) : Bool :=
  match v with
  | .dec _ _ => true
  | _ => false

/-
  `ex` ("exclude the known deviation"): with `ex = false` the predicates below are the core domain
  of DESIGN §8.2. The real code (and the model) still DEVIATES from §8.3 at one kind of point
  inside that domain (observed on /repo by stream `specmatch`, recorded as a known finding):
   D3 `$size` below two fan-outs.
  `ex = true` removes exactly those points, which gives the domain on which agreement is PROVED.
  (Former deviations, all fixed in the code and now inside the proved domain: D1 `$type` null on
  absent fields, D2 `$exists` over fan-outs reaching only empty arrays, D4 `$elemMatch` field form
  on non-document elements, D5 `$all` over a fan-out with array-valued candidates, D6 Decimal128
  `$exists` arguments (decimal zero is falsy), D7 `$all` with array-valued members. `$all` is now
  literally the conjunction of the equality conditions of its members, so its restrictions are
  those of `$eq` on each member.)
-/
mutual
/-- restrictions (2) and (4) on one condition for path `p` below `root`; `fo`: the path fans out -/
def coreC (ex : Bool) (root : V) (p : Path) (fo : Bool) : Cond → Bool
  | .cmp _ v => !isRegex v && (!fo || scalarOperand v)
  | .ne v => !isRegex v && (!fo || scalarOperand v)
  | .in_ vs => vs.all (fun v => !isRegex v) && (!fo || vs.all scalarOperand)
  | .nin vs => vs.all (fun v => !isRegex v) && (!fo || vs.all scalarOperand)
  | .exists_ _ => true
  | .type _ ts => !fo || scalarTypes ts
  | .size _ => !ex || !fans2 root p
  | .all vs => vs.all (fun v => !isRegex v && !(match v with
                  | .doc ((k, _) :: _) => k == "$elemMatch"
                  | _ => false)) && (!fo || vs.all scalarOperand)
  | .mod _ _ => (leafsAt root p).all fun l => match l with | .dec _ _ => false | _ => true
  | .bits _ ps => ps.all (· < 64)
  | .not cs => coreCs ex root p fo cs
  | .elemOps cs => !fo && itemSplitOK "" && ((cand root p).flatMap fun c => elemsOf c.1).all fun x => coreCs ex x [] false cs
  | .elemFields fcs => !fo && fcs.all (fun fc => itemSplitOK fc.key) && ((cand root p).flatMap fun c => elemsOf c.1).all fun x => coreFCs ex x fcs
def coreCs (ex : Bool) (root : V) (p : Path) (fo : Bool) : List Cond → Bool
  | [] => true
  | c :: cs => coreC ex root p fo c && coreCs ex root p fo cs
def coreFC (ex : Bool) (root : V) : FieldCond → Bool
  | .mk key cs => pathOK (splitPath key) && coreCs ex root (splitPath key) (fans root (splitPath key)) cs
def coreFCs (ex : Bool) (root : V) : List FieldCond → Bool
  | [] => true
  | fc :: r => coreFC ex root fc && coreFCs ex root r
end

mutual
def coreE (ex : Bool) (d : Doc) : Entry → Bool
  | .field fc => coreFC ex (.doc d) fc
  | .and fs => coreFs ex d fs
  | .or fs => coreFs ex d fs
  | .nor fs => coreFs ex d fs
  | .schema _ => true
def coreEs (ex : Bool) (d : Doc) : List Entry → Bool
  | [] => true
  | e :: es => coreE ex d e && coreEs ex d es
def coreF (ex : Bool) (d : Doc) : Filter → Bool
  | .mk es => coreEs ex d es
def coreFs (ex : Bool) (d : Doc) : List Filter → Bool
  | [] => true
  | f :: fs => coreF ex d f && coreFs ex d fs
end

/-- why a pair is outside the core domain (`none` = inside) -/
def outsideX (ex : Bool) (d q : Doc) : Option String :=
  match parseFilter q with
  | none => some "ill-formed filter"
  | some f =>
    if !noNestedArrays (.doc d) then some "nested arrays"
    else if !noNumeralKeys false (.doc d) then some "numeral field name in array element"
    else if !coreF ex d f then some "operand/path restriction"
    else none

def outside (d q : Doc) : Option String := outsideX false d q

/-- §8.2: the core domain as a decidable test -/
def core (d q : Doc) : Bool := (outside d q).isNone

/-- the core domain minus the known deviation point D3: where agreement is proved -/
def coreProved (d q : Doc) : Bool := (outsideX true d q).isNone

end Lungo.Spec
