/- Axiom audit for C17 (compiled separately; not imported by the library). -/
import Lungo.Props.C17
import Lungo.Ties.ApiFlow
open Lungo.C17
#print axioms separation
#print axioms caller_writes_invisible
#print axioms args_unchanged
#print axioms separation_erase
#print axioms expected_flow_safe
#print axioms raw_result_leaks
#print axioms raw_entry_leaks
#print axioms raw_entry_modifies_args
#print axioms inv_call
#print axioms inv_step
#print axioms agree_call
#print axioms agree_step
#print axioms Lungo.tie_ApiFlow_apiFlow
#print axioms inv_init
#print axioms writeOne_length
#print axioms applyWrites_length
#print axioms rd_append_left
#print axioms inv_runFrom
#print axioms observe_write
#print axioms rd_append_right_eq
#print axioms rd_append_cases
#print axioms set_agree
#print axioms agree_observe
#print axioms agree_runFrom
#print axioms applyWrites_append
#print axioms call_safe
#print axioms safeCall_nodes
#print axioms Inv.append
#print axioms Agree.append
#print axioms safeCall_congr
