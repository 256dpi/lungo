import Lungo.Props.C19
open Lungo.C19
#print axioms get?_of_mem
#print axioms expire_spec
#print axioms expired_iff
#print axioms expire_iff
#print axioms non_date_untouched
#print axioms newer_date_untouched
#print axioms no_ttl_untouched
#print axioms expire_logs_deletes
#print axioms expire_noop_unchanged
#print axioms ttl_single_field
#print axioms columns_paths
#print axioms newIndex_key_plain
#print axioms newColl_ttl_plain
#print axioms createIndex_keeps_ttl_plain
