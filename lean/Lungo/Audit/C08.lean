import Lungo.Props.C08
open Lungo.C08
#print axioms nowrap_of_validated
#print axioms cutoff_nowrap
#print axioms clean_prefix_any
#print axioms clean_prefix
#print axioms clean_other_namespaces
#print axioms clean_noop_not_dirty
#print axioms removed_droppable
#print axioms clean_protects_min_size
#print axioms clean_protects_min_age
#print axioms clean_protects_min_age_nowrap
#print axioms clean_min_age_zero
#print axioms droppable_monotone
#print axioms clean_removes_all_droppable
#print axioms clean_enforces
#print axioms clean_enforces_age_nowrap
#print axioms clean_drops_prefix
#print axioms clean_monotone_now
#print axioms clean_antitone_sizes
#print axioms clean_idempotent_count
#print axioms clean_idempotent
#print axioms range_strict
#print axioms ids_strict_mono
#print axioms step_appends
#print axioms clean_keeps_strict
#print axioms silent_failed_call
#print axioms silent_clean_txn
#print axioms txn_unchanged_or_dirty
#print axioms silent_create
#print axioms silent_createIndex
#print axioms silent_dropIndex
#print axioms replace_modified_differs
#print axioms update_modified_differs
#print axioms silent_noop_replace
#print axioms silent_noop_update
#print axioms silent_noop_delete
#print axioms silent_failed_insert
#print axioms eventsBetween_adv
#print axioms adv_replay
#print axioms oplog_faithful_partial
#print axioms AllOK.head
#print axioms run_adv
#print axioms oplog_faithful_run_partial
#print axioms run_events_consecutive
#print axioms update_desc_sound_partial
#print axioms Lungo.cleanDropped_zero_of_ge
#print axioms clean_small_noop
#print axioms commit_eq_commitWith_when_small
#print axioms commitWith_clean_txn
#print axioms commitWith_spec
#print axioms commitWith_keeps_strict
