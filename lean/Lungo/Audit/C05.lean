/- Axiom audit for C05 (compiled separately; not imported by the library). -/
import Lungo.Props.C05
open Lungo.C05
#print axioms crash_old_or_new
#print axioms kill_old_or_new
#print axioms durable_after_return
#print axioms clean_run_ok
#print axioms fault_reports
#print axioms fault_reports_single
#print axioms rerun_after_fault
#print axioms rerun_after_crash
#print axioms visible_le_durable
#print axioms store_failure_recovers
#print axioms exS_holds
#print axioms neg_no_fsync
#print axioms neg_rename_before_fsync
#print axioms neg_no_dir_fsync
#print axioms neg_no_remove
#print axioms Lungo.FS.crashImage_crash
#print axioms interpUpTo_eq
#print axioms bound_eq
#print axioms master
#print axioms master_done
#print axioms cut_base
#print axioms run_post
#print axioms step_inv
#print axioms search_ce_sound
#print axioms search_ce_image
#print axioms no_rename_keeps_old
#print axioms fsInit_holds
#print axioms search_no_false_alarm
#print axioms search_expected_safe
