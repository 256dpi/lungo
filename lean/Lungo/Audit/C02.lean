/- Axiom audit for C02 (compiled separately; not imported by the library). -/
import Lungo.Props.C02
open Lungo.C02
#print axioms owned_sound
#print axioms op_error_preserves
#print axioms op_preserves_old_roots
#print axioms insert_loop
#print axioms bulk_loop
#print axioms items_checked
#print axioms item_effect
#print axioms insertMany_effect
#print axioms bulk_effect
#print axioms neg_no_clone
#print axioms neg_shared_set
#print axioms neg_assign_before_check
#print axioms neg_shared_item_clone
#print axioms Lungo.Expected.expected_owned
#print axioms Lungo.Expected.expected_args
#print axioms Lungo.Expected.bulk_args_not_cloned
#print axioms Lungo.Expected.collFootprint_ok
#print axioms Lungo.Expected.collApply_fresh
#print axioms failed_call_invisible
#print axioms failed_call_views
#print axioms failed_calls_run
