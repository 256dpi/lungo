import Lungo.Props.C09
open Lungo.StreamTS

#print axioms committed_ids
#print axioms oplog_suffix
#print axioms recv_enabled
#print axioms no_lost_wakeup
#print axioms no_lost_wakeup_event
#print axioms no_lost_wakeup_gap
#print axioms wake_by_ctx
#print axioms wake_by_engine_close
#print axioms engine_close_visit
#print axioms no_send_on_closed
#print axioms delivered_exact
#print axioms lost_position_explicit_partial
#print axioms lost_lookup_fails
#print axioms lost_error_truthful
#print axioms delivered_exact_ids
#print axioms no_skip
#print axioms delivered_in_order_once
#print axioms resume_next
#print axioms resume_first
#print axioms dropped_iff_last_delivered
#print axioms invalidate_on_drop
#print axioms nothing_after_drop
#print axioms invalidated_closed
#print axioms invalidated_stable
#print axioms nothing_after_close
#print axioms lost_position_explicit_fails_for_nil_last
#print axioms start_time_before_oplog_skips_silently
#print axioms single_consumer_needed
