/-
  Property C10 — "Query filters select exactly the documents MongoDB's semantics select":
  the LOGICAL LAWS, proved for every document, every filter value (well-formed or not: both
  sides then carry the same error) and every $jsonSchema evaluator `sch`.

  All equalities are in `Res Unit` (ok = matched, error notMatched = not matched, other
  errors propagate identically on both sides).
-/
import Lungo.Proofs.MatchLaws
namespace Lungo.C10
open Lungo

/-- `$nor` is the exact negation of `$or` (same argument, any argument). -/
theorem nor_is_not_or (sch : SchemaEval) (d : Doc) (pfx : String) (v : V) :
    mExpr sch d pfx "$nor" v true = negate (mExpr sch d pfx "$or" v true) := by
  unfold mExpr
  simp [isOpKey]

/-- `$ne` is the exact negation of `$eq`. -/
theorem ne_is_not_eq (sch : SchemaEval) (d : Doc) (path : String) (v : V) :
    mOp sch d "$ne" path v = negate (mOp sch d "$eq" path v) := by
  rw [mOp_leaf sch d "$ne" path v _ rfl, mOp_leaf sch d "$eq" path v _ rfl]

/-- `$nin` is the exact negation of `$in`. -/
theorem nin_is_not_in (sch : SchemaEval) (d : Doc) (path : String) (v : V) :
    mOp sch d "$nin" path v = negate (mOp sch d "$in" path v) := by
  rw [mOp_leaf sch d "$nin" path v _ rfl, mOp_leaf sch d "$in" path v _ rfl]

/-- `{p: {$not: e}}` is the exact negation of evaluating the expressions `e` on `p`. -/
theorem not_is_negation (sch : SchemaEval) (d : Doc) (path : String) (q : List (String × V)) (hq : q ≠ []) :
    mOp sch d "$not" path (.doc q) = negate (mProcess sch d q path false) :=
  mOp_not sch d path q hq

/-- `$and` is the short-circuit conjunction of its member filters. -/
theorem and_is_conj (sch : SchemaEval) (d : Doc) (pfx : String) (qs : List Doc) (hq : qs ≠ []) :
    mExpr sch d pfx "$and" (.arr (qs.map V.doc)) true = conj (qs.map fun q => mProcess sch d q "" true) := by
  unfold mExpr
  have : (qs.map V.doc).isEmpty = false := by cases qs <;> simp_all
  simp [isOpKey, this, mAndLoop_conj]

/-- `$or` is the short-circuit disjunction of its member filters. -/
theorem or_is_disj (sch : SchemaEval) (d : Doc) (pfx : String) (qs : List Doc) (hq : qs ≠ []) :
    mExpr sch d pfx "$or" (.arr (qs.map V.doc)) true = disj (qs.map fun q => mProcess sch d q "" true) :=
  mExpr_or_disj sch d pfx qs hq

/-- a filter document is the conjunction (`$and`) of its entries. -/
theorem doc_is_and (sch : SchemaEval) (d : Doc) (q : Doc) (hq : q ≠ []) :
    mProcess sch d q "" true
      = mExpr sch d "" "$and" (.arr ((q.map fun e => [e]).map V.doc)) true := by
  rw [and_is_conj sch d "" _ (by cases q <;> simp_all)]
  clear hq
  induction q with
  | nil => simp [mProcess, conj]
  | cons kv r ih =>
    obtain ⟨k, v⟩ := kv
    rw [mProcess]
    simp only [List.map_cons, conj]
    rw [mProcess]
    cases h : mExpr sch d "" k v true with
    | error e => simp
    | ok u => simp [mProcess, ih]

/-- `$in [v₁…vₙ]` is the disjunction of the equalities `$eq vᵢ` (type bracketing of `$eq` is
    implied by equality under `Compare`). -/
theorem in_is_disj_eq (sch : SchemaEval) (d : Doc) (path : String) (vs : List V) :
    mOp sch d "$in" path (.arr vs) = disj (vs.map fun v => mOp sch d "$eq" path v) := by
  have eq : ∀ v, mOp sch d "$eq" path v
      = toRes (unwindAny d path true false fun f => V.cmp f v == .eq) := fun v => by
    rw [mOp_leaf sch d "$eq" path v _ rfl, matchComp_toRes d path v rfl]
    exact congrArg toRes (unwindAny_congr _ _ _ _ _ _ fun f => bracket_eq f v)
  rw [mOp_leaf sch d "$in" path _ _ rfl, matchIn_bool, matchUnwind_toRes, unwindAny_any]
  simp only [eq]
  exact (disj_toRes _ vs).symm

/-- `$all [v₁…vₙ]` (n ≥ 1) is the short-circuit conjunction of the equalities `$eq vᵢ` — MongoDB's
    definition of `$all`; the empty `$all` matches nothing. -/
theorem all_is_conj_eq (sch : SchemaEval) (d : Doc) (path : String) (vs : List V) :
    mOp sch d "$all" path (.arr vs) =
      if vs.isEmpty then .error .notMatched else conj (vs.map fun v => mOp sch d "$eq" path v) := by
  rw [mOp_leaf sch d "$all" path _ _ rfl, matchAll, allLoop_conj]
  simp only [mOp_leaf sch d "$eq" path _ _ rfl]
  rfl

theorem ordering_ne_lt (o : Ordering) : (o != .lt) = (o == .gt || o == .eq) := by cases o <;> rfl
theorem ordering_ne_gt (o : Ordering) : (o != .gt) = (o == .lt || o == .eq) := by cases o <;> rfl

/-- `$gte` is `$gt` or `$eq`. -/
theorem gte_is_gt_or_eq (sch : SchemaEval) (d : Doc) (path : String) (v : V) :
    mOp sch d "$gte" path v = orRes (mOp sch d "$gt" path v) (mOp sch d "$eq" path v) := by
  rw [mOp_leaf sch d "$gte" path v _ rfl, mOp_leaf sch d "$gt" path v _ rfl, mOp_leaf sch d "$eq" path v _ rfl]
  exact matchComp_or d path v rfl rfl rfl fun f => by rw [ordering_ne_lt, Bool.and_or_distrib_left]

/-- `$lte` is `$lt` or `$eq`. -/
theorem lte_is_lt_or_eq (sch : SchemaEval) (d : Doc) (path : String) (v : V) :
    mOp sch d "$lte" path v = orRes (mOp sch d "$lt" path v) (mOp sch d "$eq" path v) := by
  rw [mOp_leaf sch d "$lte" path v _ rfl, mOp_leaf sch d "$lt" path v _ rfl, mOp_leaf sch d "$eq" path v _ rfl]
  exact matchComp_or d path v rfl rfl rfl fun f => by rw [ordering_ne_gt, Bool.and_or_distrib_left]

/-- Match never returns the internal NotMatched error: a filter either yields a truth value or a genuine error. -/
theorem match_total (sch : SchemaEval) (d q : Doc) : Match sch d q ≠ .error .notMatched := by
  unfold Match
  split <;> simp_all

-- non-vacuity (evaluated tests, not theorems): instances where the two sides are `ok` / `notMatched`, not errors
#guard (mExpr schemaUnmodelled [("a", .i32 1)] "" "$or" (.arr [.doc [("a", .i32 2)]]) true) matches .error .notMatched
#guard (mExpr schemaUnmodelled [("a", .i32 1)] "" "$nor" (.arr [.doc [("a", .i32 2)]]) true) matches .ok ()
#guard (mOp schemaUnmodelled [("a", .arr [.i32 1, .i64 2])] "$in" "a" (.arr [.f64 0x4000000000000000])) matches .ok ()
#guard (mOp schemaUnmodelled [("a", .arr [.i32 1, .i64 2])] "$gte" "a" (.dec 0x3040000000000000 2)) matches .ok ()
#guard (mOp schemaUnmodelled [("a", .str "x")] "$gte" "a" (.i32 0)) matches .error .notMatched
#guard (mOp schemaUnmodelled [("a", .arr [.i32 1, .i32 2])] "$all" "a" (.arr [.arr [.i32 1, .i32 2], .i32 1])) matches .ok ()
#guard (mOp schemaUnmodelled [("a", .arr [.i32 1, .i32 2])] "$all" "a" (.arr [.i32 1, .i32 3])) matches .error .notMatched

end Lungo.C10
