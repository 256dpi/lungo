/-
  Lungo.Props.C15 — "After any sequence of writes, index creations/drops, failed calls and
  transaction commits/aborts, each index of each collection contains exactly the collection's
  current documents (those matching its partial filter), each once …, so that the index behaves
  identically to one rebuilt from scratch over the same documents. Creating an index that already
  exists with the same definition is a no-op, creating a conflicting one fails, and dropping
  indexes never removes the _id index."

  Subject: the collection / transaction / driver-call model of Lungo/Model/{Collection,Txn,Api}.lean
  (mirroring bsonkit/{set,index}.go, mongokit/{index,collection}.go, transaction.go). Definitions:
  Lungo/Spec/IndexSpec.lean (`belongs`, `IndexCoherent`, `Coherent`, `IdsBelow`, `Inv`, `SysInv`,
  `sameEntries`, `rebuild`). Proofs: Lungo/Proofs/Index{Laws,Coll,Reject,Cat,Mgmt}.lean, Lungo/Proofs/CatStep.lean.

  `Coherent sch c` = identities of `c.docs` pairwise distinct ∧ for every index `(n, i)` of `c`
  (`IndexCoherent`):  cached columns = columns of the configured key;  the partial filter evaluates
  without error on every stored document;  every entry `(k, id)` is a key tuple `k ∈ tuples` of a
  stored, belonging document with identity `id` (⊆, even with syntactic equality of the tuple);
  every tuple of every stored belonging document has an entry with its identity (⊇, up to
  `tupleEq`);  no two entries with the same identity and `tupleEq` keys.
  Key order: the model keeps entries in insertion order and `Index.list` (model of `Index.List()`)
  sorts them; `index_list_exact` / `index_list_sorted` prove "each once and in key order".
  NOT covered here: reload from a file (C06), failed calls/aborts beyond "the state is unchanged"
  (the model's `Sys.step` returns the old state on error by construction; the clone discipline
  that makes this true in Go is C02's).
  No C12 law is needed for C15: coherence never uses transitivity of `Compare`.
-/
import Lungo.Proofs.IndexMgmt
import Lungo.Tests.IndexFixtures
namespace Lungo.C15
open Lungo

variable {sch : SchemaEval}

/-! ### The two inclusions of `Coherent`, as stated in the property -/

/-- ⊆ : every index entry is (a key tuple of) a current document that falls under the index. -/
theorem entries_sound {c : Coll} {n : String} {i : Index} (hc : Coherent sch c) (hm : (n, i) ∈ c.indexes)
    {k : List V} {id : Nat} (he : (k, id) ∈ i.entries) :
    ∃ sd ∈ c.docs, sd.id = id ∧ belongs sch i sd.doc ∧ ∃ t ∈ tuples i.columns sd.doc, tupleEq k t = true := by
  obtain ⟨x, hx, hid, hb, hk⟩ := (hc.2 n i hm).sound k id he
  exact ⟨x, hx, hid, hb, k, hk, tupleEq_refl k⟩

/-- ⊇ : every key tuple of every current document that falls under the index has an entry. -/
theorem entries_complete {c : Coll} {n : String} {i : Index} (hc : Coherent sch c) (hm : (n, i) ∈ c.indexes)
    {sd : SDoc} (hsd : sd ∈ c.docs) (hb : belongs sch i sd.doc) {t : List V}
    (ht : t ∈ tuples i.columns sd.doc) : ∃ k, (k, sd.id) ∈ i.entries ∧ tupleEq k t = true :=
  (hc.2 n i hm).complete sd hsd hb t ht

/-- "each once": no two entries with the same document and equal keys. -/
theorem entries_once {c : Coll} {n : String} {i : Index} (hc : Coherent sch c) (hm : (n, i) ∈ c.indexes) :
    i.entries.Pairwise fun e1 e2 => ¬ (e1.2 = e2.2 ∧ tupleEq e1.1 e2.1 = true) :=
  (hc.2 n i hm).nodup

/-- documents outside the partial filter have no entry -/
theorem nonmember_absent {c : Coll} {n : String} {i : Index} (hc : Coherent sch c) (hm : (n, i) ∈ c.indexes)
    {sd : SDoc} (hsd : sd ∈ c.docs) (hb : ¬ belongs sch i sd.doc) : ∀ k, (k, sd.id) ∉ i.entries := by
  intro k he
  obtain ⟨x, hx, hid, hbx, _⟩ := (hc.2 n i hm).sound k sd.id he
  have := ids_inj hc.1 x hx sd hsd hid
  subst this
  exact hb hbx

/-- "behaves identically to one rebuilt from scratch": a coherent index has the same entry set
    (up to `tupleEq` on keys) as `(newIndex i.config).build docs`, whenever that build succeeds;
    the rebuilt index is coherent for the same documents and has the same definition. -/
theorem coherent_rebuild {c : Coll} {n : String} {i j : Index} (hc : Coherent sch c)
    (hm : (n, i) ∈ c.indexes) (h : rebuild sch i c.docs = .ok (j, true)) :
    sameEntries i j ∧ IndexCoherent sch (· ∈ c.docs) j ∧ j.config = i.config ∧ j.columns = i.columns :=
  Lungo.coherent_rebuild hc hm h

/-- "each once": `i.list` (model of `Index.List()`: entries stably sorted by `keyLe i.columns`,
    identities deduplicated keeping the first) lists exactly the belonging documents, each once.
    Needs no well-formedness. -/
theorem index_list_exact {c : Coll} {n : String} {i : Index} (hc : Coherent sch c)
    (hm : (n, i) ∈ c.indexes) :
    i.list.Nodup ∧ ∀ id, id ∈ i.list ↔ ∃ sd ∈ c.docs, sd.id = id ∧ belongs sch i sd.doc := by
  refine ⟨nodup_dedupIds _, fun id => ?_⟩
  rw [mem_index_list]
  have hi := hc.2 n i hm
  constructor
  · rintro ⟨k, hk⟩
    obtain ⟨x, hx, hid, hb, _⟩ := hi.sound k id hk
    exact ⟨x, hx, hid, hb⟩
  · rintro ⟨sd, hsd, rfl, hb⟩
    -- a belonging document has at least one key tuple, hence an entry
    cases ht : tuples i.columns sd.doc with
    | nil => exact absurd ht (tuples_ne_nil _ _)
    | cons t r =>
      obtain ⟨k, hk, _⟩ := hi.complete sd hsd hb t (by rw [ht]; simp)
      exact ⟨k, hk⟩

/-- "… and in key order": `i.list` is the identity projection of a list `ks` of index entries that
    is ascending by key (`keyLe`, column-wise `Compare` with the columns' directions) and holds
    each listed document under its SMALLEST key. Uses the C12 order laws (sorting needs a total
    preorder), hence `DocsOk`. Among documents with equal smallest keys the order is the
    model's insertion order (Go: pointer order — not observable). -/
theorem index_list_sorted {c : Coll} {n : String} {i : Index} (hc : Coherent sch c)
    (hm : (n, i) ∈ c.indexes) (hok : DocsOk c.docs) :
    ∃ ks : List (List V × Nat), ks.map (·.2) = i.list ∧ (∀ e ∈ ks, e ∈ i.entries) ∧
      ks.Pairwise (fun a b => keyLe i.columns a.1 b.1 = true) ∧
      ∀ k id, (k, id) ∈ ks → ∀ k', (k', id) ∈ i.entries → keyLe i.columns k k' = true :=
  Lungo.index_list_sorted hc hm hok

/-- the btree scan order (all entries) is ascending by key -/
theorem index_scan_sorted {c : Coll} {n : String} {i : Index} (hc : Coherent sch c)
    (hm : (n, i) ∈ c.indexes) (hok : DocsOk c.docs) :
    i.scan.Pairwise (fun a b => keyLe i.columns a.1 b.1 = true) := scan_sorted hc hm hok

/-! ### Every collection method preserves coherence (and freshness of the identity counter) -/

theorem coherent_new (b : Bool) : Coherent sch (newColl b) := .new b

theorem coherent_insert {c c' : Coll} {d : Doc} {nu nu' : Nu} {sd : SDoc}
    (hc : Coherent sch c) (hb : IdsBelow c.docs nu.nextId)
    (h : c.insert sch d nu = .ok (c', sd, nu')) :
    Coherent sch c' ∧ IdsBelow c'.docs nu'.nextId := hc.insert hb h

theorem coherent_delete {c c' : Coll} {q : Doc} {sort : Option Doc} {skip limit : Int} {list : List SDoc}
    (hc : Coherent sch c) (h : c.delete sch q sort skip limit = .ok (c', list)) :
    Coherent sch c' ∧ (∀ n, IdsBelow c.docs n → IdsBelow c'.docs n) := hc.delete h

theorem coherent_replace {c : Coll} {q repl : Doc} {sort : Option Doc} {nu nu' : Nu} {res : CResult}
    (hc : Coherent sch c) (hb : IdsBelow c.docs nu.nextId)
    (h : c.replace sch q repl sort nu = .ok (res, nu')) :
    Coherent sch res.coll ∧ IdsBelow res.coll.docs nu'.nextId ∧ nu.nextId ≤ nu'.nextId := hc.replace hb h

/-- multi-update: all matched documents are removed from every index, then all successors added -/
theorem coherent_update {ac : ACtx} {c : Coll} {q u : Doc} {sort : Option Doc} {skip limit : Int}
    {filters : List Doc} {nu nu' : Nu} {res : CResult}
    (hc : Coherent ac.sch c) (hb : IdsBelow c.docs nu.nextId)
    (h : c.update ac q u sort skip limit filters nu = .ok (res, nu')) :
    Coherent ac.sch res.coll ∧ IdsBelow res.coll.docs nu'.nextId ∧ nu.nextId ≤ nu'.nextId := hc.update hb h

theorem coherent_upsert {ac : ACtx} {c c' : Coll} {q : Doc} {repl update : Option Doc} {filters : List Doc}
    {nu nu' : Nu} {sd : SDoc} (hc : Coherent ac.sch c) (hb : IdsBelow c.docs nu.nextId)
    (h : c.upsert ac q repl update filters nu = .ok (c', sd, nu')) :
    Coherent ac.sch c' ∧ IdsBelow c'.docs nu'.nextId := by
  obtain ⟨doc, h⟩ := upsert_spec h
  exact hc.insert hb h

/-- index build: the new index is coherent for all current documents -/
theorem coherent_createIndex {c c' : Coll} {name name' : String} {config : IndexConfig}
    (hc : Coherent sch c) (h : c.createIndex sch name config = .ok (c', name')) :
    Coherent sch c' ∧ c'.docs = c.docs := hc.createIndex h

theorem coherent_dropIndex {c c' : Coll} {name : String} {dropped : List String}
    (hc : Coherent sch c) (h : c.dropIndex name = .ok (c', dropped)) :
    Coherent sch c' ∧ c'.docs = c.docs := hc.dropIndex h

/-- On a coherent collection the removal phase of delete (and update) cannot fail:
    "unable to remove document from index" is unreachable once the documents are selected. -/
theorem delete_never_fails {c : Coll} {q : Doc} {sort : Option Doc} {skip limit : Int} {list : List SDoc}
    (hc : Coherent sch c) (hsel : selectDocs sch c q sort skip limit = .ok list) :
    ∃ c', c.delete sch q sort skip limit = .ok (c', list) := delete_ok hc hsel

/-! ### Index management clauses -/

/-- Creating an index whose name exists with an `Equal` definition returns the collection
    unchanged. `nm` is the effective name: the given one, or the generated one if it is empty. -/
theorem create_same_is_noop {c : Coll} {name nm : String} {config : IndexConfig} {i : Index}
    (hn : (if name == "" then config.name else .ok name) = .ok nm)
    (hl : c.indexes.lookup nm = some i) (he : config.equal i.config = true) :
    c.createIndex sch name config = .ok (c, nm) := Lungo.create_same_is_noop hn hl he

/-- Creating an index under an existing name with another definition fails (no silent replace). -/
theorem create_conflict_fails {c : Coll} {name nm : String} {config : IndexConfig} {i : Index}
    (hn : (if name == "" then config.name else .ok name) = .ok nm)
    (hl : c.indexes.lookup nm = some i) (he : config.equal i.config = false) :
    c.createIndex sch name config = .error .err := by
  have hany : c.indexes.any (·.1 == nm) = true :=
    List.any_eq_true.mpr ⟨(nm, i), lookup_mem hl, by simp⟩
  simp only [createIndex_eq, hn, Res.ok_bind, lookup_shape, hl, Option.map_some, Option.any_some, he,
    Bool.false_eq_true, ↓reduceIte, createNew_eq, shape_any, hany]
  split <;> rfl

/-- Creating an index whose key equals the key of an existing index of another name fails. -/
theorem create_same_key_fails {c : Coll} {name nm : String} {config : IndexConfig}
    (hn : (if name == "" then config.name else .ok name) = .ok nm)
    (hl : c.indexes.lookup nm = none)
    (hk : ∃ n' i, (n', i) ∈ c.indexes ∧ V.cmp (.doc config.key) (.doc i.config.key) = .eq) :
    c.createIndex sch name config = .error .err := by
  obtain ⟨n', i, hm, hc⟩ := hk
  have hany : (c.indexes.any fun x => (V.doc config.key).cmp (V.doc x.snd.config.key) == Ordering.eq) = true :=
    List.any_eq_true.mpr ⟨(n', i), hm, by simp [hc]⟩
  simp only [createIndex_eq, hn, Res.ok_bind, lookup_shape, hl, Option.map_none, Option.any_none,
    Bool.false_eq_true, ↓reduceIte, createNew_eq, shape_any, hany]

/-- After any successful dropIndex (by name, or all with "") every `_id_` entry is still there;
    dropping `_id_` by name fails. -/
theorem drop_spares_id {c c' : Coll} {name : String} {dropped : List String}
    (h : c.dropIndex name = .ok (c', dropped)) :
    (∀ i, ("_id_", i) ∈ c.indexes → ("_id_", i) ∈ c'.indexes) ∧ name ≠ "_id_" :=
  ⟨dropIndex_keeps_id h, (dropIndex_spec h).2.1⟩

theorem drop_id_fails (c : Coll) : c.dropIndex "_id_" = .error .err := by
  unfold Coll.dropIndex
  simp

/-- a successful drop by name removes exactly the indexes of that name -/
theorem drop_by_name {c c' : Coll} {name : String} {dropped : List String} (hne : name ≠ "")
    (h : c.dropIndex name = .ok (c', dropped)) :
    c'.indexes = c.indexes.filter (·.1 != name) ∧ dropped = [name] := by
  obtain ⟨_, _, p, hi, _, h1, _⟩ := dropIndex_spec h
  obtain ⟨rfl, _, hd⟩ := h1 hne
  exact ⟨hi, hd⟩

/-! ### Catalog level: the invariant holds in every reachable state

  `Inv sch cat nextId` (Spec/IndexSpec.lean): every namespace coherent ∧ all identities below
  `nextId` ∧ the oplog namespace present and index-free ∧ `_id_` (with its fixed definition)
  present in every namespace but the oplog. -/

/-- `Good sch false` is `Inv` -/
theorem good_false_iff {cat : Catalog} {n : Nat} : Good sch false cat n ↔ Inv sch cat n :=
  ⟨fun g => g.1, good_of_inv⟩

theorem inv_init : SysInv sch Sys.init := (SysGood.init (uq := false)).1

/-- each driver call (`Sys.step`: Begin → transaction method → Commit) preserves the invariant;
    a failed call does not change the state at all (`Sys.step` returns no new state). -/
theorem inv_step {s s' : Sys} {c : Call} {oids : List V} {r : Reply} (hi : SysInv sch s)
    (e : Sys.step sch s c oids = .ok (s', r)) : SysInv sch s' :=
  (SysGood.step (good_of_inv hi) e).1

/-- one driver call executed on ANY transaction (a fresh one over the committed catalog, or a
    session's open transaction) preserves the invariant of the transaction's catalog -/
theorem inv_runCall {t t' : Txn} {nu nu' : Nu} {c : Call} {r : Reply}
    (hi : Inv sch t.catalog nu.nextId) (e : runCall sch t nu c = .ok (t', nu', r)) :
    Inv sch t'.catalog nu'.nextId ∧ nu.nextId ≤ nu'.nextId :=
  (runCall_steps e).inv hi

theorem sgood_false_iff {s : SSys} : SGood sch false s ↔ SSysInv sch s :=
  ⟨fun g => ⟨g.1.1, fun k st t hm ht => (g.2 k st t hm ht).1⟩,
   fun i => ⟨good_false_iff.mpr i.1, fun k st t hm ht => good_false_iff.mpr (i.2 k st t hm ht)⟩⟩

theorem inv_sinit : SSysInv sch SSys.init := sgood_false_iff.mp SGood.init

/-- sessions and multi-call transactions (start / commit / abort / endSession / calls inside and
    outside a transaction, blocked and failed calls included): the committed catalog and every open
    session transaction stay coherent -/
theorem inv_sstep {s : SSys} (hi : SSysInv sch s) (c : SCall) : SSysInv sch (s.step sch c).1 :=
  sgood_false_iff.mp ((sgood_false_iff.mpr hi).step c)

/-- induction over call lists: after ANY history of calls (failed ones included) from the empty
    database, every index of every collection holds exactly the collection's documents. -/
theorem inv_run (calls : List (Call × List V)) : SysInv sch (Sys.run sch Sys.init calls) :=
  ((SysGood.init (uq := false)).run calls).1

theorem inv_run_from {s : Sys} (hi : SysInv sch s) (calls : List (Call × List V)) :
    SysInv sch (Sys.run sch s calls) :=
  (SysGood.run (good_of_inv hi) calls).1

/-- … spelled out: coherence of every collection in every reachable state -/
theorem coherent_reachable (calls : List (Call × List V)) {h : Handle} {c : Coll}
    (hm : (h, c) ∈ (Sys.run sch Sys.init calls).catalog.namespaces) : Coherent sch c :=
  (inv_run calls).coherent h c hm

/-- index names are pairwise distinct in every reachable state (the association list is a map) … -/
theorem names_distinct (calls : List (Call × List V)) {h : Handle} {c : Coll}
    (hm : (h, c) ∈ (Sys.run sch Sys.init calls).catalog.namespaces) : NamesDistinct c :=
  (inv_run calls).names h c hm

/-- … so `lookup` by name is membership, and a drop by name removes exactly one index -/
theorem lookup_iff_mem {c : Coll} (hn : NamesDistinct c) {n : String} {i : Index} :
    c.indexes.lookup n = some i ↔ (n, i) ∈ c.indexes :=
  ⟨lookup_mem, lookup_of_mem hn⟩

/-- `_id_` is present in every namespace but the oplog, in every reachable state -/
theorem id_index_present (calls : List (Call × List V)) {h : Handle} {c : Coll}
    (hm : (h, c) ∈ (Sys.run sch Sys.init calls).catalog.namespaces) (hne : h ≠ oplogHandle) :
    IdIndexPresent c := (inv_run calls).idIndex h c hm hne

/-! #### The transaction methods one by one (each returns a new `Txn` only on success) -/

theorem inv_txn_create {t t' : Txn} {h : Handle} {n : Nat} (hi : Inv sch t.catalog n)
    (e : t.create h = .ok t') : Inv sch t'.catalog n :=
  CatStep.inv_at (ac := acOf sch) (Txn.create_steps e) hi

theorem inv_txn_insert {t t' : Txn} {h : Handle} {list : List Doc} {ordered : Bool} {nu nu' : Nu}
    {r : TResult} (hi : Inv sch t.catalog nu.nextId)
    (e : t.insert sch h list ordered nu = .ok (t', r, nu')) :
    Inv sch t'.catalog nu'.nextId ∧ nu.nextId ≤ nu'.nextId :=
  (Txn.insert_steps (ac := acOf sch) e).inv hi

theorem inv_txn_replace {ac : ACtx} {t t' : Txn} {h : Handle} {q repl : Doc} {sort : Option Doc}
    {upsert : Bool} {nu nu' : Nu} {r : TResult} (hi : Inv ac.sch t.catalog nu.nextId)
    (e : t.replace ac h q sort repl upsert nu = .ok (t', r, nu')) :
    Inv ac.sch t'.catalog nu'.nextId ∧ nu.nextId ≤ nu'.nextId :=
  (Txn.replace_steps e).inv hi

theorem inv_txn_update {ac : ACtx} {t t' : Txn} {h : Handle} {q u : Doc} {sort : Option Doc}
    {skip limit : Int} {upsert : Bool} {filters : List Doc} {nu nu' : Nu} {r : TResult}
    (hi : Inv ac.sch t.catalog nu.nextId)
    (e : t.update ac h q sort u skip limit upsert filters nu = .ok (t', r, nu')) :
    Inv ac.sch t'.catalog nu'.nextId ∧ nu.nextId ≤ nu'.nextId :=
  (Txn.update_steps e).inv hi

theorem inv_txn_delete {t t' : Txn} {h : Handle} {q : Doc} {sort : Option Doc}
    {skip limit : Int} {nu nu' : Nu} {r : TResult} (hi : Inv sch t.catalog nu.nextId)
    (e : t.delete sch h q sort skip limit nu = .ok (t', r, nu')) :
    Inv sch t'.catalog nu'.nextId ∧ nu.nextId ≤ nu'.nextId :=
  (Txn.delete_steps (ac := acOf sch) e).inv hi

/-- bulk writes: every prefix of the operation list leaves a coherent catalog -/
theorem inv_txn_bulk {ac : ACtx} {t t' : Txn} {h : Handle} {ops : List Operation} {ordered : Bool}
    {nu nu' : Nu} {rs : List TResult} (hi : Inv ac.sch t.catalog nu.nextId)
    (e : t.bulk ac h ops ordered nu = .ok (t', rs, nu')) :
    Inv ac.sch t'.catalog nu'.nextId ∧ nu.nextId ≤ nu'.nextId :=
  (Txn.bulk_steps e).inv hi

theorem inv_txn_drop {t t' : Txn} {h : Handle} {nu nu' : Nu} (hi : Inv sch t.catalog nu.nextId)
    (e : t.drop h nu = .ok (t', nu')) : Inv sch t'.catalog nu'.nextId ∧ nu.nextId ≤ nu'.nextId :=
  (Txn.drop_steps (ac := acOf sch) e).inv hi

theorem inv_txn_createIndex {t t' : Txn} {h : Handle} {name name' : String} {config : IndexConfig}
    {n : Nat} (hi : Inv sch t.catalog n)
    (e : t.createIndex sch h name config = .ok (t', name')) : Inv sch t'.catalog n :=
  CatStep.inv_at (ac := acOf sch) (Txn.createIndex_steps e) hi

theorem inv_txn_dropIndex {t t' : Txn} {h : Handle} {name : String} {n : Nat}
    (hi : Inv sch t.catalog n) (e : t.dropIndex h name = .ok t') : Inv sch t'.catalog n :=
  CatStep.inv_at (ac := acOf sch) (Txn.dropIndex_steps e) hi

theorem inv_txn_dropIndexByKey {t t' : Txn} {h : Handle} {key : Doc} {n : Nat}
    (hi : Inv sch t.catalog n) (e : t.dropIndexByKey h key = .ok t') : Inv sch t'.catalog n :=
  CatStep.inv_at (ac := acOf sch) (Txn.dropIndexByKey_steps e) hi

/-- TTL expiry (a delete per namespace with a TTL index) -/
theorem inv_txn_expire {t t' : Txn} {nowMs : Int} {nu nu' : Nu} {k : Nat}
    (hi : Inv sch t.catalog nu.nextId) (e : t.expire sch nowMs nu = .ok (t', k, nu')) :
    Inv sch t'.catalog nu'.nextId ∧ nu.nextId ≤ nu'.nextId :=
  (Txn.expire_steps (ac := acOf sch) (fun h => h.elim) e).inv hi

/-! ### TESTS (compiler-evaluated `#guard`s on concrete collections — non-vacuity, not theorems) -/
section Tests
open Lungo.IndexFixtures

-- the fixture really is a collection with two documents (one multikey) and two indexes, the
-- unique index on `a` built over existing documents holding 3 entries for 2 documents
#guard okAnd demo fun (c, _) =>
  c.docs.length == 2 && names c == ["_id_", "a_1"] && entriesOf c "a_1" == 3 && entriesOf c "_id_" == 2
-- insert adds one entry per index; delete of the multikey document removes both of its entries
#guard okAnd (insertInto demo [("_id", .i32 3), ("a", .i32 4)]) fun (c, _) =>
  entriesOf c "a_1" == 4 && entriesOf c "_id_" == 3
#guard okAnd (deleteIn demo [("_id", .i32 2)]) fun (c, _) =>
  entriesOf c "a_1" == 1 && entriesOf c "_id_" == 1 && c.docs.length == 1
-- replace of the multikey document by a single-key one: 3 entries become 2
#guard okAnd (replaceIn demo [("_id", .i32 2)] [("a", .i32 3)]) fun (c, _) => entriesOf c "a_1" == 2
-- partial index: documents outside the filter have no entry; moving in adds one
#guard okAnd (insertInto (insertInto demoPartial [("_id", .i32 3), ("a", .i32 7), ("b", .i32 0)])
    [("_id", .i32 4), ("a", .i32 8), ("b", .i32 0)]) fun (c, _) => entriesOf c "b_1" == 0 && c.docs.length == 4
#guard okAnd (updateIn (insertInto demoPartial [("_id", .i32 3), ("a", .i32 7), ("b", .i32 0)])
    [("_id", .i32 3)] [("$set", .doc [("b", .i32 5)])]) fun (c, _) => entriesOf c "b_1" == 1
-- `Index.list`: ascending by key, each document once (the multikey document under its smallest key)
#guard okAnd (insertInto demo [("_id", .i32 3), ("a", .f64 0)]) fun (c, _) =>
  (c.indexes.lookup "a_1").map Index.list == some [2, 0, 1] &&
  (c.indexes.lookup "_id_").map Index.list == some [0, 1, 2]
-- create same = no-op; conflicting definition / same key under another name fail
#guard okAnd (createIn demo "a_1" cfgA) fun (c, _) => names c == ["_id_", "a_1"] && entriesOf c "a_1" == 3
#guard okAnd (createIn demo "" cfgA) fun (c, _) => names c == ["_id_", "a_1"]
#guard isErr (createIn demo "a_1" { cfgA with unique := false })
#guard isErr (createIn demo "a_1" cfgAB)
#guard isErr (createIn demo "other" cfgA)
-- drops never remove `_id_`
#guard isErr (dropIn demo "_id_")
#guard okAnd (dropIn demo "") fun (c, _) => names c == ["_id_"]
#guard okAnd (dropIn demo "a_1") fun (c, _) => names c == ["_id_"]
#guard isErr (dropIn demo "missing")
-- a history through the driver-level model: 7 calls (one rejected for uniqueness), ends with one
-- document, the oplog holding 5 events (2 inserts, 2 updates, 1 delete), `_id_` still there
#guard (Sys.run tSch Sys.init history).catalog.namespaces.map (fun (h, c) => (h.coll, c.docs.length, names c))
  == [("oplog", 5, []), ("c", 1, ["_id_"])]
#guard (Sys.run tSch Sys.init (history.take 5)).catalog.namespaces.map
    (fun (h, c) => (h.coll, c.docs.length, names c, entriesOf c "a_1"))
  == [("oplog", 4, [], 0), ("c", 2, ["_id_", "a_1"], 3)]

end Tests

end Lungo.C15
