/-
  Lungo.Props.C03 — Transactions are all-or-nothing; readers see immutable snapshots.

  Level: histories over ONE heap (Proofs/OwnSys.lean).  An event is: a call of any Transaction write method
  (`Expected.txnPrograms`, tied to /repo/transaction.go) with arbitrary arguments and arbitrary
  nondeterminism — in particular arbitrary PARTIAL in-place mutations by the mongokit.Collection methods and
  failures at any point; Engine.Begin; Engine.Commit with any store outcome; Engine.Abort; a reader keeping
  the transaction's catalog or the engine's catalog (a cursor, a read-only transaction, `Catalog()`).
  Argument documents reach the transaction fresh (the driver `Transform`s every value it is given).

  Trusted: `tidwall/btree.Copy` isolation and Go map/slice copying are what `cloneColl`/`cloneCatalog` say
  (the bodies of the five `Clone` functions are tied textually, `tie_cloneBodies`).
-/
import Lungo.Proofs.OwnSys
import Lungo.Props.C02
namespace Lungo.C03
open Lungo.Own

/-- **snapshot_immutable.**  In every history, every snapshot root recorded at an earlier state observes
    — documents, indexes, oplog, identities erased — exactly what it observed when it was taken, whatever
    happened since: calls that failed half-way, calls that succeeded, publishes, aborts. -/
theorem snapshot_immutable (s : Sys) (g : s.Good) (es : List Ev) :
    ∀ p ∈ (s.run es).snaps, observe (s.run es).heap p.1 = p.2 :=
  fun p hp => ((g.run es).snaps p hp).2

/-- a snapshot step records what the root shows at that moment (so `snapshot_immutable` speaks about the
    value at the time the snapshot was taken) -/
theorem snapshot_records (s : Sys) :
    (s.step .snapTxn).snaps.head? = some (s.txn.catalog, observe s.heap s.txn.catalog) ∧
    (s.step .snapEngine).snaps.head? = some (s.engine, observe s.heap s.engine) := ⟨rfl, rfl⟩

/-- snapshots are never dropped or rewritten by later steps -/
theorem snapshot_kept (s : Sys) (e : Ev) : ∀ p ∈ s.snaps, p ∈ (s.step e).snaps := by
  intro p hp
  cases e with
  | call name handle docs ch => rw [(s.step_call ..).2]; exact hp
  | commit r =>
    simp only [Sys.step]
    split
    · cases r <;> exact hp
    · exact hp
  | begin | abort => exact hp
  | snapTxn | snapEngine => exact List.mem_cons_of_mem _ hp

/-- the invariant survives every step (closed heap, allocated roots, valid snapshots) -/
theorem good_step (s : Sys) (g : s.Good) (e : Ev) : (s.step e).Good := g.step e

/-- **commit_atomic.**  The engine's catalog pointer changes only at a commit of a dirty transaction whose
    store succeeded, and then equals the transaction's catalog; calls (failed or not), begin, abort, a clean
    commit and a failed or panicking store leave it unchanged. -/
theorem commit_atomic (s : Sys) (e : Ev) :
    (s.step e).engine = s.engine ∨
    (e = .commit .ok ∧ s.txn.dirty = true ∧ (s.step e).engine = s.txn.catalog) := by
  cases e with
  | call name handle docs ch => exact .inl (s.step_call ..).1
  | begin => exact .inl rfl
  | commit r =>
    cases hd : s.txn.dirty with
    | false => left; simp [Sys.step, hd]
    | true =>
      cases r with
      | ok => right; exact ⟨rfl, rfl, by simp [Sys.step, hd]⟩
      | fail | failWritten | panic => left; simp [Sys.step, hd]
  | abort => exact .inl rfl
  | snapTxn => exact .inl rfl
  | snapEngine => exact .inl rfl

/-- what a reader WITHOUT the transaction observes changes only at a successful commit: until then every
    write of the transaction — complete or half-done — is invisible -/
theorem visibility (s : Sys) (g : s.Good) (e : Ev) (hne : e ≠ .commit .ok) :
    (s.step e).engine = s.engine ∧ observe (s.step e).heap (s.step e).engine = observe s.heap s.engine := by
  have he : (s.step e).engine = s.engine := by
    rcases commit_atomic s e with h | ⟨h, _⟩
    · exact h
    · exact absurd h hne
  exact ⟨he, he.symm ▸ g.observe_run [e] g.engine⟩

/-- **visibility over histories.**  As long as no commit succeeds — whatever calls (failed half-way or complete),
    begins, aborts, failed/panicking commits and snapshot takings happen, in any number and order — a reader
    without the transaction keeps seeing exactly the same catalog with exactly the same contents: an aborted,
    ended or failed-to-commit transaction is never visible, in whole or in part. -/
theorem visibility_run (s : Sys) (g : s.Good) (es : List Ev) (hne : ∀ e ∈ es, e ≠ .commit .ok) :
    (s.run es).engine = s.engine ∧ observe (s.run es).heap (s.run es).engine = observe s.heap s.engine := by
  induction es generalizing s with
  | nil => exact ⟨rfl, rfl⟩
  | cons e es ih =>
    have h1 := visibility s g e (hne e (List.mem_cons_self ..))
    have h2 := ih (s.step e) (g.step e) (fun x hx => hne x (List.mem_cons_of_mem _ hx))
    simp only [Sys.run]
    exact ⟨h2.1.trans h1.1, h2.2.trans h1.2⟩

/-- a successful commit of a dirty transaction publishes the transaction's catalog as it is at that moment:
    all of the transaction's writes become visible together -/
theorem commit_publishes (s : Sys) (hd : s.txn.dirty = true) :
    (s.step (.commit .ok)).engine = s.txn.catalog ∧
    observe (s.step (.commit .ok)).heap (s.step (.commit .ok)).engine = observe s.heap s.txn.catalog := by
  simp [Sys.step, hd]

theorem run_append (s : Sys) (a b : List Ev) : s.run (a ++ b) = (s.run a).run b := by
  induction a generalizing s with
  | nil => rfl
  | cons e a ih => simp only [List.cons_append, Sys.run]; exact ih _

/-- **all_or_nothing.**  In every history, what the other clients see at the end is exactly what the
    transaction's catalog showed at the moment of the last successful (dirty) commit — every write up to that
    commit, none of the writes after it (those are unpublished: still open, aborted, or their commit failed). -/
theorem all_or_nothing (s : Sys) (g : s.Good) (pre post : List Ev)
    (hd : (s.run pre).txn.dirty = true) (hne : ∀ e ∈ post, e ≠ .commit .ok) :
    observe (s.run (pre ++ .commit .ok :: post)).heap (s.run (pre ++ .commit .ok :: post)).engine
      = observe (s.run pre).heap (s.run pre).txn.catalog := by
  rw [run_append]
  simp only [Sys.run]
  have g1 : ((s.run pre).step (.commit .ok)).Good := (g.run pre).step _
  rw [(visibility_run _ g1 post hne).2]
  exact (commit_publishes _ hd).2

/-- and if no commit ever succeeded the end state shows the initial contents -/
theorem nothing_without_commit (s : Sys) (g : s.Good) (es : List Ev) (hne : ∀ e ∈ es, e ≠ .commit .ok) :
    observe (s.run es).heap (s.run es).engine = observe s.heap s.engine := (visibility_run s g es hne).2

/-! ### every state reachable from a freshly opened engine -/

/-- a freshly opened engine: `NewCatalog()` holds the (empty) oplog collection only; no transaction has written -/
def Sys.fresh : Sys := ⟨⟨[.set [], .coll 0 [], .cat [(0, 1)]]⟩, ⟨2, false⟩, 2, []⟩

theorem fresh_good : Sys.fresh.Good :=
  ⟨⟨.of_all (by decide), by decide⟩, by decide, nofun⟩

/-- **snapshot_immutable, unconditional form.**  In every history of a freshly opened engine every snapshot ever
    taken still observes what it observed when it was taken (no hypothesis left to discharge). -/
theorem reachable_snapshot_immutable (es : List Ev) :
    ∀ p ∈ (Sys.fresh.run es).snaps, observe (Sys.fresh.run es).heap p.1 = p.2 :=
  snapshot_immutable _ fresh_good es

/-- **all_or_nothing, unconditional form** for histories of a freshly opened engine -/
theorem reachable_all_or_nothing (pre post : List Ev)
    (hd : (Sys.fresh.run pre).txn.dirty = true) (hne : ∀ e ∈ post, e ≠ .commit .ok) :
    observe (Sys.fresh.run (pre ++ .commit .ok :: post)).heap (Sys.fresh.run (pre ++ .commit .ok :: post)).engine
      = observe (Sys.fresh.run pre).heap (Sys.fresh.run pre).txn.catalog :=
  all_or_nothing _ fresh_good pre post hd hne

/-- the same store-then-publish discipline in the Engine model of C05 (Model/CommitStore.lean):
    `e.catalog` changes only in `commit .ok` of a dirty transaction, to that transaction's catalog -/
theorem commit_atomic_store {C : Type} (e : CommitStore.Engine C) (op : CommitStore.Op C) :
    (CommitStore.step e op).1.catalog = e.catalog ∨
    (∃ t, e.txn = some t ∧ t.dirty = true ∧ op = .commit .ok ∧ (CommitStore.step e op).1.catalog = t.cat) := by
  cases op with
  | begin =>
    left; simp only [CommitStore.step]
    split
    · rfl
    · split <;> rfl
  | write c => left; simp only [CommitStore.step]; split <;> rfl
  | abort => left; simp only [CommitStore.step]; split <;> rfl
  | commit r =>
    simp only [CommitStore.step]
    cases ht : e.txn with
    | none => exact .inl rfl
    | some t =>
      cases hd : t.dirty with
      | false => left; simp [hd]
      | true =>
        cases r with
        | ok => right; exact ⟨t, rfl, hd, rfl, by simp [hd]⟩
        | fail | failWritten | panic => left; simp [hd]

/-! ### non-vacuity -/

open Lungo.Expected in
/-- a concrete history: snapshot, a failing Update (after emptying the cloned Set), a successful Insert,
    publish, another snapshot — the first snapshot still shows document 7 only, the engine shows the insert -/
example :
    let s0 : Sys := ⟨Lungo.C02.hA, ⟨6, false⟩, 6, []⟩
    let es : List Ev := [.snapEngine, .begin,
      .call "Update" 1 [] Lungo.C02.chFail,
      .call "Insert" 1 [("list", [9])] { flags := [false, false, true], iters := [1], muts := [{ newDocs := [], list := some [0, 14] }, ({} : Mut)] },
      .commit .ok, .snapEngine]
    (s0.run es).engine ≠ 6 ∧
    (s0.run es).snaps.map (·.2) =
      [some [(0, some ⟨some [], []⟩), (1, some ⟨some [some 7, some 9], [("_id_", some [some 7])]⟩)],
       some [(0, some ⟨some [], []⟩), (1, some ⟨some [some 7], [("_id_", some [some 7])]⟩)]] := by
  decide +kernel


open Lungo.Expected in
/-- `all_or_nothing` at a concrete history: the insert before the commit is published, the insert after it
    (a failing Update, aborted, then a commit that fails) is not -/
example :
    let s0 : Sys := ⟨Lungo.C02.hA, ⟨6, false⟩, 6, []⟩
    let ins (d : Nat) : Ev := .call "Insert" 1 [("list", [d])] { flags := [false, false, true], iters := [1], muts := [{ newDocs := [], list := some [0, 14] }, ({} : Mut)] }
    let pre : List Ev := [.begin, .call "Update" 1 [] Lungo.C02.chFail, ins 9]
    let post : List Ev := [.begin, .call "Update" 1 [] Lungo.C02.chFail, .abort, .commit .fail]
    (s0.run pre).txn.dirty = true ∧ (∀ e ∈ post, e ≠ .commit .ok) ∧
    observe (s0.run (pre ++ .commit .ok :: post)).heap (s0.run (pre ++ .commit .ok :: post)).engine
      = some [(0, some ⟨some [], []⟩), (1, some ⟨some [some 7, some 9], [("_id_", some [some 7])]⟩)] := by
  refine ⟨by decide +kernel, ?_, by decide +kernel⟩
  intro e he
  simp only [List.mem_cons, List.mem_nil_iff, or_false] at he
  rcases he with rfl | rfl | rfl | rfl <;> simp


/-- `reachable_all_or_nothing` is not vacuous: from a freshly opened engine, `Create` makes the transaction
    dirty; the collection is invisible to others before the commit and visible after it, and a snapshot of the
    engine taken before still shows the oplog only -/
example :
    let pre : List Ev := [.snapEngine, .begin, .call "Create" 1 [] {}]
    (Sys.fresh.run pre).txn.dirty = true ∧
    observe (Sys.fresh.run pre).heap (Sys.fresh.run pre).engine = some [(0, some ⟨some [], []⟩)] ∧
    observe (Sys.fresh.run (pre ++ [.commit .ok, .abort])).heap (Sys.fresh.run (pre ++ [.commit .ok, .abort])).engine
      = some [(1, some ⟨some [], [("_id_", some [])]⟩), (0, some ⟨some [], []⟩)] ∧
    (Sys.fresh.run (pre ++ [.commit .ok, .abort])).snaps.map (·.2) = [some [(0, some ⟨some [], []⟩)]] := by
  decide +kernel

end Lungo.C03
