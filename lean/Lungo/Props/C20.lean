/-
  Lungo.Props.C20 — "Well-formed input never panics the library".

  Every model function that can fail returns `Res α = Except Err α`; each Go construct that could
  panic was modelled as partial at exactly that point (`.error (.panic site)`).  "Never panics" is
  the theorem `f … ≠ .error (.panic site)` for ALL inputs (no well-formedness, size or depth
  hypothesis whatsoever on documents, filters, updates, projections, sorts, array filters), given
  only that the `$jsonSchema` evaluator parameter reports no panic (`SchNoPanic sch`; the driver's
  evaluator `schemaUnmodelled` satisfies it).  "Never hangs" is witnessed by Lean accepting the
  definitions: there is no `partial` in `Lungo/Model` outside the JSON glue (Model/Json.lean).  Fuelled
  functions: `resolve` — §7 proves its fuel is never what decides the result — and the three digit loops of
  `parseD128FromBigInt` (Model/Arith.lean, the mongo-driver's Decimal128 normalisation; their fuel
  `20000 + log2|bi| + |exp|` is stated there and NOT proved sufficient here).  "Never leaves the
  engine unable to serve the next call" is §6 (sequential level; the concurrent reading is C16).

  Errors that a call stores INSIDE a successful result (`TResult.error` of Insert / Bulk, the
  error of `insertMany`, the error list of `bulkWrite`) are covered too (`TResult.NP`, `Reply.NP`).

  The lemmas are in Lungo/Proofs/{NoPanic,NoPanic2,AccessLaws}.lean; this file states the property
  theorems and derives each from them in a line or a few.
  Total (non-`Res`) functions need no theorem — their Lean type says they return a value:
  `Compare` (`V.cmp`), `get`/`Get`/`All`, `Unset`, `sortDocs`, `order`, `pick`, `collect`, `Distinct`,
  `tuples`, `Index.baseAdd/baseRemove`, `Index.list`, `appendOplog`, `Txn.clean`, `Sys.commit`.

  Domain notes (what the theorems do NOT say; each was found by running the real code, stream `robust`):
  * keys / paths contain no NUL byte.  BSON cannot encode such a key (the driver answers "BSON element key
    cannot contain null bytes"); in `bsonkit` the string "\x00" IS the `PathEnd` sentinel, i.e. the empty
    segment list `[]`, and `bsonkit.Put(doc, "\x00", v)` does panic on `v.(bson.D)` in the real code —
    that is the `.panic` branch of the model's `Put`, excluded by `p ≠ []` in `Put_never_panics`
    (`splitPath` of a NUL-free string is never `[]`: `Put_string_never_panics`).
  * resources.  `put` on an array pads with at most `MaxArrayPadding` (1 500 000) nulls: a larger gap is a
    plain error (`put_padding_rejected`), and on success the new length is `max len (index+1)` with
    `index ≤ len + MaxArrayPadding` (`put_index_guard`).  Before /repo dd0d6c6 the code padded in an unbounded
    `append` loop (`$set "a.1000000000000"` ended in `fatal error: out of memory`) — a C20 FINDING on the code,
    repaired there; the model follows the code with the guard.  `filterDocs` takes any limit; the code at the
    time of the finding pre-allocated `make(List, 0, limit)` (`Find` with limit ≥ 2^47 panicked "makeslice: cap
    out of range", smaller huge limits were a fatal out-of-memory error) — also a C20 FINDING (stream
    `robust`), not covered by the no-panic theorems; `make` with a computed capacity is not a kind of
    `Gen.PanicSites`.
  * `Coll.update`'s `sameId` is structural equality of `_id` values; the code compares `bson.Marshal`
    bytes, under which `bsonkit.Missing` (an empty struct) equals the empty document — FINDING: with
    `_id: {}` stored, `$unset: {_id: 1}` passes the immutability check and the oplog append panics.

  `String.splitOn` (behind `splitPath`) does not reduce in the kernel, so the witnesses over concrete
  documents are evaluated tests (`#guard`, marked TEST); the `example`s are kernel-checked.
-/
import Lungo.Proofs.NoPanic
import Lungo.Proofs.NoPanic2
namespace Lungo.C20
open Lungo

/-- the hypothesis of every theorem below is met by the evaluator the driver uses -/
theorem schema_hypothesis_met : SchNoPanic schemaUnmodelled := fun _ _ => NP_unmodelled _

example : SchNoPanic (fun _ _ => .ok ()) := by intro a b s h; cases h
example : ¬ SchNoPanic (fun _ _ => .error (.panic "x")) := fun h => h [] [] "x" rfl

/-! ## §0 bsonkit access, Match, Apply (restated from C11) -/

/-- `put` has no panic: its only failure is the plain error. -/
theorem put_never_panics (v : V) (p : Path) (x : V) (pre : Bool) (site : String) :
    put v p x pre ≠ .error (.panic site) := put_np v p x pre site

/-- `bsonkit.Put`: the type assertion `v.(bson.D)` cannot fail for a non-empty path … -/
theorem Put_never_panics (d : Doc) (p : Path) (x : V) (pre : Bool) (site : String) (hp : p ≠ []) :
    Put d p x pre ≠ .error (.panic site) := Put_np d p x pre hp site

/-- … and the segment list of a path string is never empty. -/
theorem Put_string_never_panics (d : Doc) (p : String) (x : V) (pre : Bool) (site : String) :
    Put d (splitPath p) x pre ≠ .error (.panic site) := Put_splitPath_np d p x pre site

/-- `mongokit.Match` -/
theorem match_never_panics (sch : SchemaEval) (hs : SchNoPanic sch) (d q : Doc) (site : String) :
    Match sch d q ≠ .error (.panic site) := Match_np sch hs d q site

/-- `mongokit.Apply`, for every document, update and array-filter list -/
theorem apply_never_panics (c : ACtx) (hs : SchNoPanic c.sch) (d u : Doc) (afs : List Doc) (site : String) :
    Apply c d u afs ≠ .error (.panic site) := Apply_np c hs d u afs site

/-- `mongokit.Resolve` with any fuel -/
theorem resolve_never_panics (sch : SchemaEval) (hs : SchNoPanic sch) (fuel : Nat) (path : String) (doc : Doc)
    (afs : List Doc) (site : String) : resolve sch fuel path doc afs ≠ .error (.panic site) :=
  resolve_np sch hs fuel path doc afs site

/-! ## §1 Project -/

theorem projectSlice_never_panics (s : PState) (d : Doc) (path : String) (v : V) (site : String) :
    projectSlice s d path v ≠ .error (.panic site) := projectSlice_np s d path v site

theorem projectElemMatch_never_panics (sch : SchemaEval) (hs : SchNoPanic sch) (s : PState) (d : Doc)
    (path : String) (v : V) (site : String) : projectElemMatch sch s d path v ≠ .error (.panic site) :=
  projectElemMatch_np sch hs s d path v site

theorem projProcess_never_panics (sch : SchemaEval) (hs : SchNoPanic sch) (s : PState) (d : Doc)
    (proj : List (String × V)) (site : String) : projProcess sch s d proj ≠ .error (.panic site) :=
  projProcess_np sch hs s d proj site

theorem putAll_never_panics (res : Doc) (l : List (String × V)) (site : String) :
    putAll res l ≠ .error (.panic site) := putAll_np res l site

/-- `mongokit.Project` -/
theorem project_never_panics (sch : SchemaEval) (hs : SchNoPanic sch) (d proj : Doc) (site : String) :
    Project sch d proj ≠ .error (.panic site) := Project_np sch hs d proj site

/-! ## §2 Sort, Distinct (`sortDocs`, `collect`, `Distinct` are total functions) -/

theorem columns_total (spec : Doc) (site : String) : columns spec ≠ .error (.panic site) :=
  columns_np spec site

/-- `mongokit.Sort` -/
theorem sort_total (list : List Doc) (spec : Doc) (site : String) :
    sortBySpec list spec ≠ .error (.panic site) := sortBySpec_np list spec site

/-- `mongokit.Distinct` always returns a list (it is a total function; stated for the record). -/
theorem distinct_total (list : List Doc) (path : String) : ∃ vs, Distinct list path = vs := ⟨_, rfl⟩

/-! ## §3 Collection layer -/

theorem index_add_never_panics (sch : SchemaEval) (hs : SchNoPanic sch) (i : Index) (sd : SDoc) (site : String) :
    i.add sch sd ≠ .error (.panic site) := Index.add_np sch hs i sd site

theorem index_remove_never_panics (sch : SchemaEval) (hs : SchNoPanic sch) (i : Index) (sd : SDoc)
    (site : String) : i.remove sch sd ≠ .error (.panic site) := Index.remove_np sch hs i sd site

theorem index_build_never_panics (sch : SchemaEval) (hs : SchNoPanic sch) (i : Index) (l : List SDoc)
    (site : String) : i.build sch l ≠ .error (.panic site) := Index.build_np sch hs i l site

theorem newIndex_never_panics (config : IndexConfig) (site : String) :
    newIndex config ≠ .error (.panic site) := newIndex_np config site

theorem addToIndexes_never_panics (sch : SchemaEval) (hs : SchNoPanic sch) (sd : SDoc)
    (l : List (String × Index)) (site : String) : addToIndexes sch sd l ≠ .error (.panic site) :=
  addToIndexes_np sch hs sd l site

theorem removeFromIndexes_never_panics (sch : SchemaEval) (hs : SchNoPanic sch) (sd : SDoc)
    (l : List (String × Index)) (site : String) : removeFromIndexes sch sd l ≠ .error (.panic site) :=
  removeFromIndexes_np sch hs sd l site

theorem filterDocs_never_panics (sch : SchemaEval) (hs : SchNoPanic sch) (query : Doc) (limit : Nat)
    (l : List SDoc) (site : String) : filterDocs sch query limit l ≠ .error (.panic site) :=
  filterDocs_np sch hs query limit l site

/-- sort → filter → skip, for every `skip`/`limit` in `Int` (negative skip is an error, not a re-slice panic) -/
theorem selectDocs_never_panics (sch : SchemaEval) (hs : SchNoPanic sch) (c : Coll) (query : Doc)
    (sort : Option Doc) (skip limit : Int) (site : String) :
    selectDocs sch c query sort skip limit ≠ .error (.panic site) :=
  selectDocs_np sch hs c query sort skip limit site

theorem coll_insert_never_panics (sch : SchemaEval) (hs : SchNoPanic sch) (c : Coll) (d : Doc) (nu : Nu)
    (site : String) : c.insert sch d nu ≠ .error (.panic site) := Coll.insert_np sch hs c d nu site

/-- `Collection.Replace` — whatever the `_id` values are (documents, binaries, arrays …) -/
theorem coll_replace_never_panics (sch : SchemaEval) (hs : SchNoPanic sch) (c : Coll) (query repl : Doc)
    (sort : Option Doc) (nu : Nu) (site : String) : c.replace sch query repl sort nu ≠ .error (.panic site) :=
  Coll.replace_np sch hs c query repl sort nu site

theorem coll_update_never_panics (ac : ACtx) (hs : SchNoPanic ac.sch) (c : Coll) (query update : Doc)
    (sort : Option Doc) (skip limit : Int) (afs : List Doc) (nu : Nu) (site : String) :
    c.update ac query update sort skip limit afs nu ≠ .error (.panic site) :=
  Coll.update_np ac hs c query update sort skip limit afs nu site

theorem coll_upsert_never_panics (ac : ACtx) (hs : SchNoPanic ac.sch) (c : Coll) (query : Doc)
    (repl update : Option Doc) (afs : List Doc) (nu : Nu) (site : String) :
    c.upsert ac query repl update afs nu ≠ .error (.panic site) :=
  Coll.upsert_np ac hs c query repl update afs nu site

theorem coll_delete_never_panics (sch : SchemaEval) (hs : SchNoPanic sch) (c : Coll) (query : Doc)
    (sort : Option Doc) (skip limit : Int) (site : String) :
    c.delete sch query sort skip limit ≠ .error (.panic site) :=
  Coll.delete_np sch hs c query sort skip limit site

theorem coll_createIndex_never_panics (sch : SchemaEval) (hs : SchNoPanic sch) (c : Coll) (name : String)
    (config : IndexConfig) (site : String) : c.createIndex sch name config ≠ .error (.panic site) :=
  Coll.createIndex_np sch hs c name config site

theorem coll_dropIndex_never_panics (c : Coll) (name : String) (site : String) :
    c.dropIndex name ≠ .error (.panic site) := Coll.dropIndex_np c name site

/-- `mongokit.Extract` (the upsert seed), any query document -/
theorem extract_never_panics (query : Doc) (site : String) : Extract query ≠ .error (.panic site) :=
  Extract_np query site

theorem extractSeq_never_panics (doc : Doc) (query : List (String × V)) (pfx : String) (root : Bool)
    (site : String) : extractSeq doc query pfx root ≠ .error (.panic site) :=
  extractSeq_np doc query pfx root site

/-! ## §4 Transaction layer -/

theorem txn_create_never_panics (t : Txn) (h : Handle) (site : String) :
    t.create h ≠ .error (.panic site) := Txn.create_np t h site

theorem txn_find_never_panics (sch : SchemaEval) (hs : SchNoPanic sch) (t : Txn) (h : Handle) (query : Doc)
    (sort : Option Doc) (skip limit : Int) (site : String) :
    t.find sch h query sort skip limit ≠ .error (.panic site) :=
  Txn.find_np sch hs t h query sort skip limit site

theorem insertOne_never_panics (sch : SchemaEval) (hs : SchNoPanic sch) (cat : Catalog) (h : Handle) (d : Doc)
    (nu : Nu) (site : String) : insertOne sch cat h d nu ≠ .error (.panic site) :=
  insertOne_np sch hs cat h d nu site

/-- `Transaction.Insert`: neither the call nor the error it stores in the result is a panic -/
theorem txn_insert_never_panics (sch : SchemaEval) (hs : SchNoPanic sch) (t : Txn) (h : Handle)
    (list : List Doc) (ordered : Bool) (nu : Nu) (site : String) :
    t.insert sch h list ordered nu ≠ .error (.panic site) ∧
    ∀ t' r nu', t.insert sch h list ordered nu = .ok (t', r, nu') → r.error ≠ some (.panic site) :=
  ⟨Txn.insert_np sch t h list ordered nu site,
   fun t' r nu' hr => Txn.insert_result_np sch hs t t' h list ordered nu nu' r hr site⟩

theorem replaceOp_never_panics (ac : ACtx) (hs : SchNoPanic ac.sch) (cat : Catalog) (h : Handle)
    (query repl : Doc) (sort : Option Doc) (upsert : Bool) (nu : Nu) (site : String) :
    replaceOp ac cat h query repl sort upsert nu ≠ .error (.panic site) :=
  replaceOp_np ac hs cat h query repl sort upsert nu site

theorem updateOp_never_panics (ac : ACtx) (hs : SchNoPanic ac.sch) (cat : Catalog) (h : Handle)
    (query update : Doc) (sort : Option Doc) (upsert : Bool) (skip limit : Int) (afs : List Doc) (nu : Nu)
    (site : String) : updateOp ac cat h query update sort upsert skip limit afs nu ≠ .error (.panic site) :=
  updateOp_np ac hs cat h query update sort upsert skip limit afs nu site

theorem deleteOp_never_panics (sch : SchemaEval) (hs : SchNoPanic sch) (cat : Catalog) (h : Handle)
    (query : Doc) (sort : Option Doc) (skip limit : Int) (nu : Nu) (site : String) :
    deleteOp sch cat h query sort skip limit nu ≠ .error (.panic site) :=
  deleteOp_np sch hs cat h query sort skip limit nu site

theorem txn_replace_never_panics (ac : ACtx) (hs : SchNoPanic ac.sch) (t : Txn) (h : Handle) (query : Doc)
    (sort : Option Doc) (repl : Doc) (upsert : Bool) (nu : Nu) (site : String) :
    t.replace ac h query sort repl upsert nu ≠ .error (.panic site) :=
  Txn.replace_np ac hs t h query sort repl upsert nu site

theorem txn_update_never_panics (ac : ACtx) (hs : SchNoPanic ac.sch) (t : Txn) (h : Handle) (query : Doc)
    (sort : Option Doc) (update : Doc) (skip limit : Int) (upsert : Bool) (afs : List Doc) (nu : Nu)
    (site : String) : t.update ac h query sort update skip limit upsert afs nu ≠ .error (.panic site) :=
  Txn.update_np ac hs t h query sort update skip limit upsert afs nu site

theorem txn_delete_never_panics (sch : SchemaEval) (hs : SchNoPanic sch) (t : Txn) (h : Handle) (query : Doc)
    (sort : Option Doc) (skip limit : Int) (nu : Nu) (site : String) :
    t.delete sch h query sort skip limit nu ≠ .error (.panic site) :=
  Txn.delete_np sch hs t h query sort skip limit nu site

/-- `Transaction.Bulk`: the call never fails with a panic and no per-operation error is one -/
theorem txn_bulk_never_panics (ac : ACtx) (hs : SchNoPanic ac.sch) (t : Txn) (h : Handle)
    (ops : List Operation) (ordered : Bool) (nu : Nu) (site : String) :
    t.bulk ac h ops ordered nu ≠ .error (.panic site) ∧
    ∀ t' rs nu', t.bulk ac h ops ordered nu = .ok (t', rs, nu') → ∀ r ∈ rs, r.error ≠ some (.panic site) :=
  ⟨Txn.bulk_np ac t h ops ordered nu site,
   fun t' rs nu' hr r hm => Txn.bulk_result_np ac hs t t' h ops ordered nu nu' rs hr r hm site⟩

theorem txn_drop_never_panics (t : Txn) (h : Handle) (nu : Nu) (site : String) :
    t.drop h nu ≠ .error (.panic site) := Txn.drop_np t h nu site

theorem txn_createIndex_never_panics (sch : SchemaEval) (hs : SchNoPanic sch) (t : Txn) (h : Handle)
    (name : String) (config : IndexConfig) (site : String) :
    t.createIndex sch h name config ≠ .error (.panic site) := Txn.createIndex_np sch hs t h name config site

theorem txn_dropIndex_never_panics (t : Txn) (h : Handle) (name : String) (site : String) :
    t.dropIndex h name ≠ .error (.panic site) := Txn.dropIndex_np t h name site

theorem txn_dropIndexByKey_never_panics (t : Txn) (h : Handle) (key : Doc) (site : String) :
    t.dropIndexByKey h key ≠ .error (.panic site) := Txn.dropIndexByKey_np t h key site

theorem txn_listIndexes_never_panics (t : Txn) (h : Handle) (site : String) :
    t.listIndexes h ≠ .error (.panic site) := Txn.listIndexes_np t h site

theorem txn_count_never_panics (t : Txn) (h : Handle) (site : String) :
    t.count h ≠ .error (.panic site) := Txn.count_np t h site

/-- `Transaction.Expire` (the TTL pass) -/
theorem txn_expire_never_panics (sch : SchemaEval) (hs : SchNoPanic sch) (t : Txn) (nowMs : Int) (nu : Nu)
    (site : String) : t.expire sch nowMs nu ≠ .error (.panic site) := Txn.expire_np sch hs t nowMs nu site

/-! ## §5 Driver calls and sessions -/

/-- every driver call, on any transaction state: no panic, and no panic inside the reply either -/
theorem runCall_never_panics (sch : SchemaEval) (hs : SchNoPanic sch) (t0 : Txn) (nu : Nu) (c : Call)
    (site : String) :
    runCall sch t0 nu c ≠ .error (.panic site) ∧
    ∀ t nu' r, runCall sch t0 nu c = .ok (t, nu', r) → r.NP :=
  ⟨runCall_np sch hs t0 nu c site, fun t nu' r h => runCall_reply_np sch hs t0 t nu nu' c r h⟩

/-- one call outside any session (Begin → call → Commit) -/
theorem step_never_panics (sch : SchemaEval) (hs : SchNoPanic sch) (s : Sys) (c : Call) (oids : List V)
    (site : String) :
    s.step sch c oids ≠ .error (.panic site) ∧ ∀ s' r, s.step sch c oids = .ok (s', r) → r.NP :=
  ⟨Sys.step_np sch hs s c oids site, fun s' r h => Sys.step_reply_np sch hs s s' c oids r h⟩

/-- the session layer: whatever the step answers — reply, `done`, `blocked`, `failed e` — carries no panic -/
theorem session_step_never_panics (sch : SchemaEval) (hs : SchNoPanic sch) (s : SSys) (c : SCall)
    (site : String) : (s.step sch c).2 ≠ .failed (.panic site) := by
  intro h
  have := SSys.step_np sch hs s c
  rw [h] at this
  exact this site rfl

theorem session_reply_never_panics (sch : SchemaEval) (hs : SchNoPanic sch) (s : SSys) (c : SCall) :
    (s.step sch c).2.NP := SSys.step_np sch hs s c

/-- the bulk-write reply of the model with one failing operation: its error list is inspected by `Reply.NP` -/
example : ¬ (Reply.bulk 0 0 0 0 0 [] [(0, .panic "x")]).NP := fun h => h (0, .panic "x") (by simp) "x" rfl
example : (Reply.bulk 0 0 0 0 0 [] [(0, .dup)]).NP := by
  intro p hp site h; simp at hp; subst hp; cases h

/-! ## §6 The engine can serve the next call (sequential level) -/

/-- a call returns a result or an error — never anything else (`Sys.step` is a total function) -/
theorem call_returns_result_or_error (sch : SchemaEval) (hs : SchNoPanic sch) (s : Sys) (c : Call) (oids : List V) :
    (∃ s' r, s.step sch c oids = .ok (s', r) ∧ r.NP) ∨
    (∃ e, s.step sch c oids = .error e ∧ ∀ site, e ≠ .panic site) := by
  cases h : s.step sch c oids with
  | ok p => exact .inl ⟨p.1, p.2, rfl, Sys.step_reply_np sch hs s p.1 c oids p.2 h⟩
  | error e => exact .inr ⟨e, rfl, fun site he => Sys.step_np sch hs s c oids site (by rw [h, he])⟩

/-- `failed_call_is_noop`: a failing call hands on the state it received, so every later call
    observes exactly what it would have observed had the failed call not been made, and the final
    state is the same. -/
theorem failed_call_is_noop (sch : SchemaEval) (s : Sys) (c : Call) (oids : List V) (e : Err)
    (rest : List (Call × List V)) (h : s.step sch c oids = .error e) :
    Sys.trace sch s ((c, oids) :: rest) = .error e :: Sys.trace sch s rest ∧
    Sys.after sch s ((c, oids) :: rest) = Sys.after sch s rest :=
  Sys.failed_call_is_noop sch s c oids e rest h

/-- the same in terms of `Sys.run` (Spec/IndexSpec), the run function of the index properties -/
theorem failed_call_is_noop_run (sch : SchemaEval) (s : Sys) (c : Call) (oids : List V) (e : Err)
    (rest : List (Call × List V)) (h : s.step sch c oids = .error e) :
    Sys.run sch s ((c, oids) :: rest) = Sys.run sch s rest := by
  rw [← Sys.after_eq_run, ← Sys.after_eq_run]
  exact (Sys.failed_call_is_noop sch s c oids e rest h).2

/-- `next_call_served`: in every sequence of calls (failing ones included) every call gets its
    answer — one observation per call, none a panic, no reply carrying one. -/
theorem next_call_served (sch : SchemaEval) (hs : SchNoPanic sch) (s : Sys) (calls : List (Call × List V)) :
    (Sys.trace sch s calls).length = calls.length ∧
    ∀ o ∈ Sys.trace sch s calls, (∀ site, o ≠ .error (.panic site)) ∧ ∀ r, o = .ok r → r.NP :=
  Sys.trace_served sch hs s calls

/-- the session layer: a failed or blocked call leaves the whole system (catalog, writer slot,
    every session's transaction) as it was … -/
theorem session_failed_call_is_noop (sch : SchemaEval) (s : SSys) (c : SCall) :
    (∀ e, (s.step sch c).2 = .failed e → (s.step sch c).1 = s) ∧
    ((s.step sch c).2 = .blocked → (s.step sch c).1 = s) := by
  rcases SSys.step_unchanged sch s c with h' | h' | ⟨r, h'⟩
  · exact ⟨fun _ _ => h', fun _ => h'⟩
  all_goals exact ⟨fun e h => (by rw [h] at h'; cases h'), fun h => (by rw [h] at h'; cases h')⟩

/-- … and every call of every session-level sequence is answered without a panic. -/
theorem session_next_call_served (sch : SchemaEval) (hs : SchNoPanic sch) (s : SSys) (calls : List SCall) :
    (SSys.trace sch s calls).length = calls.length ∧ ∀ o ∈ SSys.trace sch s calls, o.NP :=
  SSys.trace_served sch hs s calls

/-! ## §7 The guards at the overflow sites -/

/-- `push_slice_no_overflow`, part 1 (`$position`): for every int64 `p` — `math.MinInt64` included —
    and every array length `n`, `len(arr)+int(p)` stays in int64, the insertion index lies in
    `[0, n]`, and the model's expression is the Go one. -/
theorem push_position_no_overflow (n p : Int) (hn : 0 ≤ n ∧ n ≤ i64Max) (hp : i64Min ≤ p ∧ p ≤ i64Max) :
    (p < 0 → i64Min ≤ n + p ∧ n + p ≤ i64Max) ∧
    (let goIdx : Int := if p < 0 then (if n + p < 0 then 0 else n + p) else (if p > n then n else p)
     0 ≤ goIdx ∧ goIdx ≤ n ∧
     ((if p < 0 then (n + p).toNat else min p.toNat n.toNat : Nat) : Int) = goIdx) := by
  unfold i64Min i64Max at *
  refine ⟨fun h => by omega, ?_⟩
  simp only
  split <;> split <;> omega

/-- `push_slice_no_overflow`, part 2 (`$slice`): for every int64 `s` and length `m`: `-int64(len)`
    and `len+int(s)` stay in int64 (the code does not negate `s`), the re-slice bounds lie in
    `[0, m]`, and the model's truncated subtraction is the Go branch. -/
theorem push_slice_no_overflow (m s : Int) (hm : 0 ≤ m ∧ m ≤ i64Max) (hs : i64Min ≤ s ∧ s ≤ i64Max) :
    (i64Min ≤ -m ∧ -m ≤ i64Max) ∧
    (s > 0 → s < m → 0 ≤ s ∧ s ≤ m) ∧
    (s < 0 → s > -m → 0 ≤ m + s ∧ m + s ≤ m ∧ i64Min ≤ m + s) ∧
    (s < 0 → ((m.toNat - (-s).toNat : Nat) : Int) = if s > -m then m + s else 0) := by
  unfold i64Min i64Max at *
  refine ⟨by omega, fun _ _ => by omega, fun _ _ => by omega, fun h => ?_⟩
  split <;> omega

example : (let p : Int := i64Min; let n : Int := 3
           (if p < 0 then (n + p).toNat else min p.toNat n.toNat : Nat) = 0) := by decide

/-- on the model's lists, for ALL `Int` arguments: the insertion index is within the array, the
    array grows by exactly the pushed values, and the `$slice` window is a sub-range. -/
theorem push_window_in_range {α} (arr vals : List α) (p s : Int) :
    (if p < 0 then ((arr.length : Int) + p).toNat else min p.toNat arr.length) ≤ arr.length ∧
    (∀ i, (insertAtIdx arr i vals).length = arr.length + vals.length) ∧
    (s > 0 → (arr.take s.toNat).length = min s.toNat arr.length) ∧
    (s < 0 → arr.length - (-s).toNat ≤ arr.length ∧
        (arr.drop (arr.length - (-s).toNat)).length = min (-s).toNat arr.length) := by
  refine ⟨by split <;> omega, insertAtIdx_length arr vals, fun _ => by simp, fun _ => ⟨by omega, ?_⟩⟩
  rw [List.length_drop]; omega

/-- `put_index_guard`, rejection: a key that `ParseIndex` does not accept (anything but plain
    digits — "-1", "+1", "-0" included, the same keys `get` does not read as an index) and
    `math.MaxInt` (where `index+1` would wrap) are plain errors. -/
theorem put_index_rejected (xs : List V) (key : String) (rest : Path) (value : V) (pre : Bool)
    (hne : ¬(key = "" ∧ rest = [])) (hbad : parseIndex key = none ∨ parseIndex key = some maxInt) :
    put (.arr xs) (key :: rest) value pre = .error .err :=
  Lungo.put_index_rejected xs key rest value pre hne hbad

/-- `put_index_guard`, padding limit: an index more than `MaxArrayPadding` (1 500 000) beyond the end
    of the array is a plain error, for every value (for a present value this is the guard in front
    of the padding loop; an unset beyond the end is an error anyway). -/
theorem put_padding_rejected (xs : List V) (key : String) (rest : Path) (value : V) (pre : Bool) (index : Nat)
    (hk : parseIndex key = some index) (hpad : xs.length + maxArrayPadding < index) :
    put (.arr xs) (key :: rest) value pre = .error .err := by
  have h1 : ¬ index < xs.length := by omega
  have h2 : index - xs.length > maxArrayPadding := by omega
  rw [put_cons, if_pos]
  right
  simp [admitsPut, hk, h1, h2]

/-- `put_index_guard`, success: the key parsed as an index (`ParseIndex`, so `0 ≤ index`) with
    `index+1 ≤ MaxInt` (no wrap), at most `MaxArrayPadding` nulls are added
    (`index ≤ len + MaxArrayPadding`), and the new array has length `max len (index+1)` — the written
    element exists, nothing outside the (padded) array is touched. -/
theorem put_index_guard (xs : List V) (key : String) (rest : Path) (value : V) (pre : Bool) (nv prev : V)
    (h : put (.arr xs) (key :: rest) value pre = .ok (nv, prev)) :
    ∃ (index : Nat) (ys : List V), parseIndex key = some index ∧ index + 1 ≤ maxInt ∧
      index ≤ xs.length + maxArrayPadding ∧
      nv = .arr ys ∧ ys.length = max xs.length (index + 1) :=
  Lungo.put_index_guard xs key rest value pre nv prev h

/-- a consequence: a successful `put` grows an array by at most `MaxArrayPadding + 1` elements -/
example (xs : List V) (key : String) (rest : Path) (value : V) (pre : Bool) (nv prev : V)
    (h : put (.arr xs) (key :: rest) value pre = .ok (nv, prev)) :
    ∃ ys, nv = .arr ys ∧ xs.length ≤ ys.length ∧ ys.length ≤ xs.length + maxArrayPadding + 1 := by
  obtain ⟨i, ys, _, _, h3, h4, h5⟩ := put_index_guard xs key rest value pre nv prev h
  exact ⟨ys, h4, by omega, by omega⟩

/-- each recursive call of `resolve` is on a path with strictly fewer `$` characters … -/
theorem resolve_recursion_decreases (path head op : String) (tail : Option String) (i : Nat)
    (h : splitDynamicPath path = (some head, some op, tail)) :
    countDollar (buildPath head i tail) < countDollar path :=
  buildPath_fewer_dollars path head op tail i h

/-- `resolve_fuel_sufficient`: … so with the fuel `Apply` passes (`countDollar path + 1`) the
    fuel-exhaustion branch is never what produces the result: ANY larger fuel gives the same answer. -/
theorem resolve_fuel_sufficient (sch : SchemaEval) (doc : Doc) (afs : List Doc) (path : String) (extra : Nat) :
    resolve sch (countDollar path + 1 + extra) path doc afs = resolve sch (countDollar path + 1) path doc afs :=
  resolve_fuel_stable sch doc afs _ _ path (by omega) (by omega)

/-! ## TESTS — the inputs of the panic findings (DESIGN §10) yield a value or a plain error -/

section Tests
def ctx0 : ACtx := { sch := schemaUnmodelled, upsert := false, nowDate := .date 0, nowTs := .ts 0 0 }
def isErr {α} : Res α → Bool
  | .error .err => true
  | _ => false
def isOk {α} : Res α → Bool
  | .ok _ => true
  | _ => false
def h0 : Handle := ⟨"db", "c"⟩
def docArr : Doc := [("_id", .i32 1), ("a", .arr [.i32 1, .i32 2, .i32 3])]
def minI64 : V := .i64 (-9223372036854775808)
def maxI64 : V := .i64 9223372036854775807

-- TEST `$push … $slice: MinInt64`, `$position: MinInt64`
#guard isOk (Apply ctx0 docArr [("$push", .doc [("a", .doc [("$each", .arr [.i32 9]), ("$slice", minI64)])])] [])
#guard isOk (Apply ctx0 docArr [("$push", .doc [("a", .doc [("$each", .arr [.i32 9]), ("$position", minI64)])])] [])
-- TEST projection `$slice: MinInt64` and `$slice: [1, MaxInt64]`
#guard isOk (Project schemaUnmodelled docArr [("a", .doc [("$slice", minI64)])])
#guard isOk (Project schemaUnmodelled docArr [("a", .doc [("$slice", .arr [.i32 1, maxI64])])])
-- TEST `$set` on `a.9223372036854775807`
#guard isErr (Apply ctx0 docArr [("$set", .doc [("a.9223372036854775807", .i32 1)])] [])
#guard isErr (Put docArr (splitPath "a.9223372036854775807") (.i32 1) false)
-- TEST the hypotheses of `put_index_rejected` / `put_padding_rejected` / `put_index_guard` are met
#guard parseIndex "-1" == none && parseIndex "+1" == none && parseIndex "-0" == none && parseIndex "x" == none
#guard parseIndex "9223372036854775807" == some maxInt && parseIndex "9223372036854775808" == none
#guard isErr (Put docArr (splitPath "a.-1") (.i32 1) false) && isErr (Put docArr (splitPath "a.+1") (.i32 1) false)
#guard parseIndex "1500004" == some 1500004 && decide (3 + maxArrayPadding < 1500004)
#guard isErr (Put docArr (splitPath "a.1500004") (.i32 1) false)       -- 1500001 nulls needed: rejected
#guard isErr (Apply ctx0 docArr [("$set", .doc [("a.1000000000000", .i32 1)])] [])
#guard (match Put docArr (splitPath "a.5") (.i32 9) false with
        | .ok (d, _) => d == [("_id", .i32 1), ("a", .arr [.i32 1, .i32 2, .i32 3, .null, .null, .i32 9])]
        | .error _ => false)
#guard (match Put docArr (splitPath "a.01") (.i32 9) false with
        | .ok (d, _) => d == [("_id", .i32 1), ("a", .arr [.i32 1, .i32 9, .i32 3])]
        | .error _ => false)
-- TEST negative skip
#guard isErr (selectDocs schemaUnmodelled (newColl true) [] none (-1) 0)
-- TEST replace / update of a document whose `_id` is a document or a binary
def sysDocId : Sys :=
  match Sys.init.step schemaUnmodelled (.insertOne h0 [("_id", .doc [("k", .i32 1)]), ("x", .i32 0)]) [] with
  | .ok (s, _) => s
  | .error _ => Sys.init
#guard isOk (sysDocId.step schemaUnmodelled (.updateOne h0 [] [("$set", .doc [("x", .i32 1)])] false []) [])
#guard isOk (sysDocId.step schemaUnmodelled (.replaceOne h0 [] [("_id", .doc [("k", .i32 1)]), ("x", .i32 2)] false) [])
#guard isErr (sysDocId.step schemaUnmodelled (.replaceOne h0 [] [("_id", .bin 0 [1]), ("x", .i32 2)] false) [])
-- TEST a failing call is a no-op for the next one (`failed_call_is_noop` instance)
#guard isErr (sysDocId.step schemaUnmodelled (.dropIndex h0 "nope") [])
#guard (Sys.trace schemaUnmodelled sysDocId [(.dropIndex h0 "nope", []), (.estCount h0, [])]).length == 2
-- TEST operator arguments of the wrong type, empty keys and paths
#guard isErr (Apply ctx0 docArr [("$inc", .doc [("", .str "x")])] [])
#guard isErr (Apply ctx0 docArr [("$push", .doc [("a", .doc [("$each", .i32 1)])])] [])
#guard isErr (Project schemaUnmodelled docArr [("a", .doc [("$slice", .str "x")])])
#guard isErr (sortBySpec [docArr] [("a", .f64 0x7FF8000000000000)])    -- NaN direction
#guard isErr (Sys.init.step schemaUnmodelled (.find ⟨"", ""⟩ [("$and", .arr [])] {}) [])
-- TEST the fuel of resolve
#guard (match resolve schemaUnmodelled (countDollar "a.$[].b.$[]" + 1) "a.$[].b.$[]"
          [("a", .arr [.doc [("b", .arr [.i32 1, .i32 2])]])] [] with
        | .ok ps => ps == ["a.0.b.0", "a.0.b.1"]
        | .error _ => false)
end Tests

end Lungo.C20
