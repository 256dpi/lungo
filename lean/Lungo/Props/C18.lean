/-
  C18 — GridFS returns the bytes that were uploaded, at any offset.

  Property theorems over the model `Lungo.Model.GridFS` (mirror of /repo/bucket.go) and the
  specs `Lungo.Spec.Chunks` (the demanded chunking) and `Lungo.Spec.Reader` (bytes.Reader).
  Hypotheses common to the upload theorems:
    0 < c ≤ B        the chunk size is positive and does not exceed the upload buffer (B =
                     gridfs.UploadBufferSize = 16 MiB in the real code).  OpenUploadStreamWithID rejects
                     every other chunk size before anything is stored (`open_rejects_bad_chunk_size`,
                     `upload_rejects_bad_chunk_size`), and accepts exactly these (`open_accepts_good_chunk_size`),
                     so the hypothesis is the precondition of having a stream at all.
    the file id is fresh in the store (no chunk, file or marker document carries it).
-/
import Lungo.Proofs.GridFSUpload
import Lungo.Proofs.GridFSLifecycle
import Lungo.Proofs.GridFSDownload
import Lungo.Spec.Reader
namespace Lungo.C18
open Lungo.GridFS Lungo.Spec

/-- **upload_chunks.**  For every content, chunk size c > 0 (c ≤ B), and every partition `ws` of the
    content into writes, an untracked upload (open; Write each piece; Close) succeeds and afterwards
    * the `.chunks` documents of the file, in `n` order, are exactly n = ⌈L/c⌉ documents, document i
      being numbered i and holding content[i·c, min((i+1)·c, L));  all but the last have c bytes and
      the last has between 1 and c bytes;
    * they were appended to the collection, every other chunk document is untouched;
    * the file record ⟨id, L, c⟩ was added, no marker was written. -/
theorem upload_chunks (st : Store) (id c B : Nat) (hc : 0 < c) (hcB : c ≤ B)
    (hC : ∀ d ∈ st.chunks, d.file ≠ id) (hF : ∀ f ∈ st.files, f.id ≠ id) (hM : ∀ m ∈ st.markers, m.file ≠ id)
    (hfresh : ∀ m ∈ st.markers, m.id < st.nextId)
    (content : Bytes) (ws : List Bytes) (hws : ws.flatten = content) :
    (uploadAll st false id c B ws).2 = none ∧
    (uploadAll st false id c B ws).1.files = st.files ++ [⟨id, content.length, c⟩] ∧
    (uploadAll st false id c B ws).1.markers = st.markers ∧
    (uploadAll st false id c B ws).1.chunks = st.chunks ++ (uploadAll st false id c B ws).1.chunksOfFile id ∧
    ((uploadAll st false id c B ws).1.chunksOfFile id).length = (content.length + c - 1) / c ∧
    (∀ i, i < (content.length + c - 1) / c →
      ((uploadAll st false id c B ws).1.chunksOfFile id)[i]? = some ⟨id, i, (content.drop (i * c)).take c⟩) ∧
    (∀ i, i + 1 < (content.length + c - 1) / c → ((content.drop (i * c)).take c).length = c) ∧
    (∀ i, i < (content.length + c - 1) / c →
      0 < ((content.drop (i * c)).take c).length ∧ ((content.drop (i * c)).take c).length ≤ c) := by
  obtain ⟨h1, h2, h3, h4⟩ := uploadAll_untracked st id c B hc hcB hC hF hM hfresh ws
  rw [hws] at h2 h3
  rw [chunksOfFile_eq _ st.chunks id _ h2 hC, length_mkDocs, ← length_chunksOf hc content]
  refine ⟨h1, h3, h4, h2, rfl, fun i hi => ?_, fun i hi => length_piece_of_not_last hc content hi, fun i hi => ?_⟩
  · rw [getElem?_mkDocs, getElem?_chunksOf hc content i hi, Nat.zero_add]
    rfl
  · exact length_mem_chunksOf hc content _ (List.mem_of_getElem? (getElem?_chunksOf hc content i hi))

/-- **upload_partition_independent.**  The stored documents do not depend on how the content was
    split into writes. -/
theorem upload_partition_independent (st : Store) (id c B : Nat) (hc : 0 < c) (hcB : c ≤ B)
    (hC : ∀ d ∈ st.chunks, d.file ≠ id) (hF : ∀ f ∈ st.files, f.id ≠ id) (hM : ∀ m ∈ st.markers, m.file ≠ id)
    (hfresh : ∀ m ∈ st.markers, m.id < st.nextId)
    (ws ws' : List Bytes) (h : ws.flatten = ws'.flatten) :
    (uploadAll st false id c B ws).2 = (uploadAll st false id c B ws').2 ∧
    (uploadAll st false id c B ws).1.chunks = (uploadAll st false id c B ws').1.chunks ∧
    (uploadAll st false id c B ws).1.files = (uploadAll st false id c B ws').1.files ∧
    (uploadAll st false id c B ws).1.markers = (uploadAll st false id c B ws').1.markers := by
  obtain ⟨a1, a2, a3, a4⟩ := uploadAll_untracked st id c B hc hcB hC hF hM hfresh ws
  obtain ⟨b1, b2, b3, b4⟩ := uploadAll_untracked st id c B hc hcB hC hF hM hfresh ws'
  rw [a1, a2, a3, a4, b1, b2, b3, b4, h]
  exact ⟨rfl, rfl, rfl, rfl⟩

/-- **download_simulates.**  Over a store that holds the file record ⟨id, L, c⟩ and the spec chunking of
    `content` (which is what `upload_chunks` establishes), OpenDownloadStream succeeds and every script
    of Read / Seek / Skip operations — any offsets, any whence — yields, step by step, the same bytes, the
    same returned count or position, the same position afterwards and the corresponding error (none,
    io.EOF, negative position, invalid whence) as the same script on the in-memory reader of `content`.  The relation carried
    through the induction is `Sim` (Proofs/GridFSDownload.lean). -/
theorem download_simulates (st : Store) (id c : Nat) (content : Bytes) (hc : 0 < c)
    (hfile : st.findFile id = some ⟨id, content.length, c⟩)
    (hchunks : st.chunksOfFile id = mkDocs id 0 (chunksOf c content))
    (script : List ROp) :
    ∃ ds, DownloadStream.open st id = .ok ds ∧
      Forall2 OutMatch (ds.run st script) (Reader.run ⟨content, 0⟩ script) := by
  have wf : WF st id c content := ⟨hc, hfile, hchunks⟩
  obtain ⟨ds, h1, h2⟩ := sim_open wf
  exact ⟨ds, h1, sim_run wf script ds _ h2⟩

/-- end-to-end: upload any partition of `content`, then run any script on the download stream -/
theorem upload_then_download (st : Store) (id c B : Nat) (hc : 0 < c) (hcB : c ≤ B)
    (hC : ∀ d ∈ st.chunks, d.file ≠ id) (hF : ∀ f ∈ st.files, f.id ≠ id) (hM : ∀ m ∈ st.markers, m.file ≠ id)
    (hfresh : ∀ m ∈ st.markers, m.id < st.nextId)
    (content : Bytes) (ws : List Bytes) (hws : ws.flatten = content)
    (script : List ROp) :
    ∃ ds, DownloadStream.open (uploadAll st false id c B ws).1 id = .ok ds ∧
      Forall2 OutMatch (ds.run (uploadAll st false id c B ws).1 script) (Reader.run ⟨content, 0⟩ script) := by
  obtain ⟨_, h2, h3, _⟩ := uploadAll_untracked st id c B hc hcB hC hF hM hfresh ws
  rw [hws] at h2 h3
  exact download_simulates _ id c content hc (findFile_last h3 hF) (chunksOfFile_eq _ st.chunks id _ h2 hC) script

/-- **abort_leaves_nothing.**  Open an upload (tracked or not) on a store without documents of the file,
    write anything, Abort: the chunk, file and marker collections are exactly what they were. -/
theorem abort_leaves_nothing (st : Store) (tracked : Bool) (id c B : Nat) (hc : 0 < c) (hcB : c ≤ B)
    (hC : ∀ d ∈ st.chunks, d.file ≠ id) (hM : ∀ m ∈ st.markers, m.file ≠ id)
    (hfresh : ∀ m ∈ st.markers, m.id < st.nextId) (ws : List Bytes) :
    (writeAll st (UploadStream.new tracked id c B) ws).2.2 = none ∧
    (((writeAll st (UploadStream.new tracked id c B) ws).2.1).abort (writeAll st (UploadStream.new tracked id c B) ws).1).2.2 = none ∧
    (((writeAll st (UploadStream.new tracked id c B) ws).2.1).abort (writeAll st (UploadStream.new tracked id c B) ws).1).1.chunks = st.chunks ∧
    (((writeAll st (UploadStream.new tracked id c B) ws).2.1).abort (writeAll st (UploadStream.new tracked id c B) ws).1).1.files = st.files ∧
    (((writeAll st (UploadStream.new tracked id c B) ws).2.1).abort (writeAll st (UploadStream.new tracked id c B) ws).1).1.markers = st.markers := by
  have env : Env st.chunks st.markers id c B := ⟨hc, hcB, hC, hM⟩
  obtain ⟨st1, s1, hw, D, inv1, _⟩ := writeAll_ok (F0 := st.files) env ws st _ [] (Ready.init env st rfl rfl rfl hfresh)
  obtain ⟨st2, s2, ha, a2, a3, a4⟩ := abort_ok env inv1
  rw [hw, ha]
  exact ⟨rfl, rfl, a2, a3, a4⟩

/-- **delete_leaves_nothing.**  After a completed (untracked) upload, Delete removes the file record and
    every chunk of the file and nothing else. -/
theorem delete_leaves_nothing (st : Store) (id c B : Nat) (hc : 0 < c) (hcB : c ≤ B)
    (hC : ∀ d ∈ st.chunks, d.file ≠ id) (hF : ∀ f ∈ st.files, f.id ≠ id) (hM : ∀ m ∈ st.markers, m.file ≠ id)
    (hfresh : ∀ m ∈ st.markers, m.id < st.nextId) (ws : List Bytes) :
    (delete (uploadAll st false id c B ws).1 false id).2 = none ∧
    (delete (uploadAll st false id c B ws).1 false id).1.chunks = st.chunks ∧
    (delete (uploadAll st false id c B ws).1 false id).1.files = st.files ∧
    (delete (uploadAll st false id c B ws).1 false id).1.markers = st.markers := by
  obtain ⟨_, h2, h3, h4⟩ := uploadAll_untracked st id c B hc hcB hC hF hM hfresh ws
  rw [delete, if_neg Bool.false_ne_true, findFile_last h3 hF]
  exact ⟨rfl, (congrArg _ h2).trans (filter_ne_append_mkDocs st.chunks id _ 0 hC),
    (congrArg _ h3).trans (filter_key_append_last FileDoc.id ⟨id, ws.flatten.length, c⟩ hF), h4⟩

/-- **resume_equivalent.**  A tracked upload carried out in any number of segments (each segment: new
    stream, Resume — or start over when there is nothing to resume —, some writes of arbitrary sizes
    continuing at the offset returned by Resume, Suspend), finished by a final segment (Resume, writes,
    the remaining content, Close) and ClaimUpload, succeeds and leaves exactly the documents of a plain
    upload of `content` without suspensions, for every partition `ws` of the content. -/
theorem resume_equivalent (st : Store) (id c B : Nat) (hc : 0 < c) (hcB : c ≤ B)
    (hC : ∀ d ∈ st.chunks, d.file ≠ id) (hF : ∀ f ∈ st.files, f.id ≠ id) (hM : ∀ m ∈ st.markers, m.file ≠ id)
    (hfresh : ∀ m ∈ st.markers, m.id < st.nextId)
    (content : Bytes) (plan : List (List Nat)) (last : List Nat) (ws : List Bytes) (hws : ws.flatten = content) :
    (trackedUpload st content id c B plan last).2 = none ∧
    (trackedUpload st content id c B plan last).1.chunks = (uploadAll st false id c B ws).1.chunks ∧
    (trackedUpload st content id c B plan last).1.files = (uploadAll st false id c B ws).1.files ∧
    (trackedUpload st content id c B plan last).1.markers = (uploadAll st false id c B ws).1.markers := by
  obtain ⟨a1, a2, a3, a4⟩ := trackedUpload_ok st id c B hc hcB hC hF hM hfresh content plan last
  obtain ⟨_, b2, b3, b4⟩ := uploadAll_untracked st id c B hc hcB hC hF hM hfresh ws
  rw [hws] at b2 b3
  exact ⟨a1, by rw [a2, b2], by rw [a3, b3], by rw [a4, b4]⟩

/-- **delete_tracked_leaves_nothing.**  On a tracked bucket (with no other marker pending) Delete only
    writes a marker; the following Cleanup removes the file record, every chunk of the file and the marker. -/
theorem delete_tracked_leaves_nothing (st : Store) (id c B : Nat) (hc : 0 < c) (hcB : c ≤ B)
    (hC : ∀ d ∈ st.chunks, d.file ≠ id) (hF : ∀ f ∈ st.files, f.id ≠ id) (hM : st.markers = [])
    (content : Bytes) (plan : List (List Nat)) (last : List Nat) :
    (delete (trackedUpload st content id c B plan last).1 true id).2 = none ∧
    (cleanup (delete (trackedUpload st content id c B plan last).1 true id).1 true).2 = none ∧
    (cleanup (delete (trackedUpload st content id c B plan last).1 true id).1 true).1.chunks = st.chunks ∧
    (cleanup (delete (trackedUpload st content id c B plan last).1 true id).1 true).1.files = st.files ∧
    (cleanup (delete (trackedUpload st content id c B plan last).1 true id).1 true).1.markers = [] := by
  obtain ⟨_, a2, a3, a4⟩ := trackedUpload_ok st id c B hc hcB hC hF (by rw [hM]; simp) (by rw [hM]; simp) content plan last
  rw [hM] at a4
  generalize trackedUpload st content id c B plan last = r at a2 a3 a4
  obtain ⟨st1, e⟩ := r
  simp only at a2 a3 a4
  obtain ⟨files, chunks, markers, nextId⟩ := st1
  simp only at a2 a3 a4
  subst a2 a3 a4
  have hf : (st.files ++ [(⟨id, content.length, c⟩ : FileDoc)]).filter (fun f => f.id != id) = st.files :=
    filter_key_append_last FileDoc.id ⟨id, content.length, c⟩ hF
  have hch := filter_ne_append_mkDocs st.chunks id (chunksOf c content) 0 hC
  simp [delete, Store.findMarker, Store.insertMarker, cleanup, cleanupLoop, Store.deleteFile, Store.deleteChunks,
    Store.deleteMarkerById, hf, hch]

/-! ### The guards of the code: unusable chunk sizes and unknown whence values are rejected -/

/-- **open_rejects_bad_chunk_size.**  OpenUploadStreamWithID fails for a chunk size ≤ 0 or above the upload
    buffer; no stream exists afterwards (the function does not touch the store). -/
theorem open_rejects_bad_chunk_size (tracked : Bool) (id : Nat) (c : Int) (B : Nat) (h : c ≤ 0 ∨ c > B) :
    openUpload tracked id c B = .error .badChunkSize := by
  unfold openUpload
  rw [if_pos h]

/-- every other chunk size is accepted, and the stream satisfies 0 < chunkSize ≤ bufCap -/
theorem open_accepts_good_chunk_size (tracked : Bool) (id : Nat) (c : Int) (B : Nat) (h0 : 0 < c) (hB : c ≤ B) :
    openUpload tracked id c B = .ok (UploadStream.new tracked id c.toNat B) ∧
    0 < c.toNat ∧ c.toNat ≤ B := by
  unfold openUpload
  rw [if_neg (by omega)]
  exact ⟨rfl, by omega, by omega⟩

/-- **upload_rejects_bad_chunk_size.**  A whole upload (open; writes; Close) with such a chunk size
    fails and leaves the store unchanged, whatever is written. -/
theorem upload_rejects_bad_chunk_size (st : Store) (tracked : Bool) (id : Nat) (c : Int) (B : Nat)
    (h : c ≤ 0 ∨ c > B) (ws : List Bytes) :
    upload st tracked id c B ws = (st, some .badChunkSize) := by
  unfold upload
  rw [open_rejects_bad_chunk_size tracked id c B h]

/-- with an accepted chunk size, `upload` is the `uploadAll` of the theorems above -/
theorem upload_eq_uploadAll (st : Store) (tracked : Bool) (id : Nat) (c : Int) (B : Nat) (h0 : 0 < c) (hB : c ≤ B)
    (ws : List Bytes) :
    upload st tracked id c B ws = uploadAll st tracked id c.toNat B ws := by
  unfold upload uploadAll
  rw [(open_accepts_good_chunk_size tracked id c B h0 hB).1]

/-- **write_never_diverges.**  On every stream created by OpenUploadStreamWithID — and on every stream
    reached from it, since Write/upload keep 0 < chunkSize ≤ bufCap and a non-full buffer — the fuel of the
    Write loop is never exhausted, for any store and any data (errors of the store are passed on). -/
theorem write_never_diverges (st : Store) (s : UploadStream) (data : Bytes)
    (hc : 0 < s.chunkSize) (hcB : s.chunkSize ≤ s.bufCap) (hb : s.buffer.length < s.bufCap) :
    (s.write st data).2.2.2 ≠ some .diverged := by
  unfold UploadStream.write
  split
  · intro h; cases h
  · exact writeLoop_never_diverges (data.length + 1) st s data 0 hc hcB hb (by omega)

/-- the instance for a freshly opened stream -/
theorem write_never_diverges_after_open (st : Store) (tracked : Bool) (id : Nat) (c : Int) (B : Nat)
    (s : UploadStream) (h : openUpload tracked id c B = .ok s) (data : Bytes) :
    (s.write st data).2.2.2 ≠ some .diverged := by
  unfold openUpload at h
  split at h
  · cases h
  · rename_i hg
    cases h
    apply write_never_diverges
    · show 0 < c.toNat; omega
    · show c.toNat ≤ B; omega
    · show (0 : Nat) < B; omega

/-- **seek_invalid_whence.**  An unknown `whence` is an error on both sides and neither side moves. -/
theorem seek_invalid_whence (st : Store) (ds : DownloadStream) (r : Reader) (o w : Int)
    (hcl : ds.closed = false) (hw : w ≠ 0 ∧ w ≠ 1 ∧ w ≠ 2) :
    ds.seek st o w = (ds, 0, some .invalidWhence) ∧ r.seek o w = (r, 0, some .invalidWhence) := by
  obtain ⟨h0, h1, h2⟩ := hw
  unfold DownloadStream.seek Reader.seek
  rw [hcl]
  simp [h0, h1, h2]

/-! ### Non-vacuity: concrete instances meet the hypotheses, and the model computes the expected values -/

/-- 13 bytes, c = 4, B = 8, writes of 5 and 8 bytes: chunks 4+4+4+1 -/
example :
    (uploadAll {} false 1 4 8 [[1, 2, 3, 4, 5], [6, 7, 8, 9, 10, 11, 12, 13]]).1.chunks =
      [⟨1, 0, [1, 2, 3, 4]⟩, ⟨1, 1, [5, 6, 7, 8]⟩, ⟨1, 2, [9, 10, 11, 12]⟩, ⟨1, 3, [13]⟩] ∧
    (uploadAll {} false 1 4 8 [[1, 2, 3, 4, 5], [6, 7, 8, 9, 10, 11, 12, 13]]).1.files = [⟨1, 13, 4⟩] := by decide

example := upload_chunks {} 1 4 8 (by decide) (by decide) (by simp) (by simp) (by simp) (by simp)
  [1, 2, 3, 4, 5, 6, 7, 8, 9, 10, 11, 12, 13] [[1, 2, 3, 4, 5], [6, 7, 8, 9, 10, 11, 12, 13]] rfl

example := upload_partition_independent {} 1 4 8 (by decide) (by decide) (by simp) (by simp) (by simp) (by simp)
  [[1, 2, 3, 4, 5], [6, 7, 8, 9, 10, 11, 12, 13]] [[1], [], [2, 3, 4, 5, 6, 7, 8, 9, 10, 11, 12], [13]] rfl

/-- a script with reads across chunk boundaries, seeks from all three origins, a negative target and EOF -/
example := upload_then_download {} 1 4 8 (by decide) (by decide) (by simp) (by simp) (by simp) (by simp)
  [1, 2, 3, 4, 5, 6, 7, 8, 9, 10, 11, 12, 13] [[1, 2, 3, 4, 5], [6, 7, 8, 9, 10, 11, 12, 13]] rfl
  [.read 5, .seek (-3) 2, .read 10, .read 1, .skip (-20), .seek 6 0, .seek 1 1, .seek 0 3, .read 0, .read 3]

example : openUpload false 1 0 8 = .error .badChunkSize ∧ openUpload false 1 (-1) 8 = .error .badChunkSize ∧
    openUpload true 1 9 8 = .error .badChunkSize :=
  ⟨open_rejects_bad_chunk_size _ _ _ _ (by decide), open_rejects_bad_chunk_size _ _ _ _ (by decide),
   open_rejects_bad_chunk_size _ _ _ _ (by decide)⟩

example := (open_accepts_good_chunk_size false 1 8 8 (by decide) (by decide)).1

example := upload_rejects_bad_chunk_size {} false 1 9 8 (by decide) [[1, 2, 3]]

/-- the reader side of that script, computed -/
example : (Reader.run ⟨[1, 2, 3, 4, 5, 6, 7, 8, 9, 10, 11, 12, 13], 0⟩
    [.read 5, .seek (-3) 2, .read 10, .read 1, .skip (-20), .seek 6 0]).map (fun o => (o.bytes, o.ret, o.err)) =
    [([1, 2, 3, 4, 5], 5, none), ([], 10, none), ([11, 12, 13], 3, none), ([], 0, some .eof),
     ([], 0, some .negPos), ([], 6, none)] := by decide

example := abort_leaves_nothing {} true 1 4 8 (by decide) (by decide) (by simp) (by simp) (by simp)
  [[1, 2, 3, 4, 5], [6, 7, 8, 9, 10]]

example := delete_leaves_nothing {} 1 4 8 (by decide) (by decide) (by simp) (by simp) (by simp) (by simp)
  [[1, 2, 3, 4, 5], [6, 7, 8, 9, 10]]

example := delete_tracked_leaves_nothing {} 1 4 8 (by decide) (by decide) (by simp) (by simp) rfl
  [1, 2, 3, 4, 5, 6, 7, 8, 9, 10] [[3]] []

/-- two suspensions (after 6 and after 3 more bytes), then the rest -/
example := resume_equivalent {} 1 4 8 (by decide) (by decide) (by simp) (by simp) (by simp) (by simp)
  [1, 2, 3, 4, 5, 6, 7, 8, 9, 10, 11, 12, 13] [[5, 1], [3]] [2] [[1, 2, 3, 4, 5, 6, 7, 8, 9, 10, 11, 12, 13]] rfl

/-- suspending after 6 bytes persists one chunk of 4 and drops the 2 buffered bytes -/
example : (trackedSegments [1, 2, 3, 4, 5, 6, 7, 8, 9, 10, 11, 12, 13] 1 4 8 {} [[5, 1]]).1.chunks = [⟨1, 0, [1, 2, 3, 4]⟩] := by decide

/-- **failed_resume_pristine.**  A rejected Resume — whatever the reason: bucket not tracked, stream not
    pristine, no marker, marker not in state `uploading`, other chunk size, invalid stored chunk — leaves the
    stream exactly as it was; in particular it has not adopted the marker it found.  (Resume never writes
    to the store: the model function returns no store.) -/
theorem failed_resume_pristine (st : Store) (s : UploadStream) (e : Err)
    (h : (s.resume st).2.2 = some e) : (s.resume st).1 = s := by
  revert h
  unfold UploadStream.resume
  repeat' split
  all_goals first | (intro _; rfl) | (intro h; cases h)

/-- **abort_pristine_identity.**  Abort of a stream that has stored nothing (no chunk flushed, no marker)
    is the identity on the store: no document of any file id — in particular of an existing file with
    the same id — is touched. -/
theorem abort_pristine_identity (st : Store) (s : UploadStream) (hc : s.chunks = 0) (hm : s.marker = none) :
    (s.abort st).1 = st := by
  unfold UploadStream.abort
  split <;> simp [hc, hm]

/-- **failed_resume_abort_harmless.**  A new stream for ANY id (e.g. the id of a finished, unclaimed
    upload) whose Resume is rejected and which is then aborted leaves the whole store unchanged. -/
theorem failed_resume_abort_harmless (st : Store) (tracked : Bool) (id c B : Nat) (e : Err)
    (h : ((UploadStream.new tracked id c B).resume st).2.2 = some e) :
    (((UploadStream.new tracked id c B).resume st).1.abort st).1 = st := by
  rw [failed_resume_pristine st _ e h]
  exact abort_pristine_identity st _ rfl rfl

/-- a finished, unclaimed upload (marker `uploaded`): Resume of a second stream is rejected with
    "invalid marker state" and its Abort keeps the marker -/
example := failed_resume_abort_harmless { markers := [⟨0, 1, .uploaded, 10, 4⟩], nextId := 1 } true 1 4 8 .badState (by decide)

example := abort_pristine_identity { chunks := [⟨1, 0, [1, 2, 3, 4]⟩], files := [⟨1, 4, 4⟩] }
  (UploadStream.new false 1 4 8) rfl rfl

end Lungo.C18
