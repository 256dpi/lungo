/-
  Lungo.Props.C02 — A write that reports an error leaves the database exactly as it was.

  Level: the ownership layer (Model/Own.lean).  The programs are `Expected.txnPrograms` — the
  clone/mutate/publish structure of every Transaction write method, regenerated from /repo/transaction.go
  on every run and compared by `tie_txnPrograms` (Ties/TxnPrograms.lean).  In the interpreter every
  `mongokit.Collection` method is an ARBITRARY partial in-place mutation of the receiver's own
  Set / indexes / Indexes map followed by an arbitrary outcome (the Go methods do not roll back), every
  condition that is not a nil/err test is decided by the choice sequence, loops run any number of times.

  Quantifiers: every heap, every transaction state, every argument (handle, caller documents), every
  choice sequence (hence a failure at ANY position inside the call: the k-th matched document, the k-th
  item of a batch, the oplog append after a successful collection write …).
-/
import Lungo.Proofs.OwnRun
import Lungo.Proofs.OwnSys
import Lungo.Expected.TxnPrograms
namespace Lungo.C02
open Lungo.Own

/-- **owned_sound** (core).  For every program that passes the static ownership check, every object that
    existed before the call — in particular everything reachable from `t.catalog`, from any older catalog,
    from any snapshot root — has the same content after the call, whatever the outcome; the only objects
    that may differ are the caller's own argument documents (`Collection.Insert/Replace` put an `_id` into
    the document they are given).  Objects are never freed.  The transaction's catalog pointer and dirty flag
    are unchanged when the call reports an error. -/
theorem owned_sound (p : Prog) (hp : ownedOK p = true) (a : Args) (ch : Choices) (h : Heap) (t : TxnState) :
    h.size ≤ (run p a ch (h, t)).1.size ∧
    (∀ o, o < h.size → o ∉ a.allDocs → (run p a ch (h, t)).1.get o = h.get o) ∧
    ((run p a ch (h, t)).2.2 = .error → (run p a ch (h, t)).2.1 = t) := by
  obtain ⟨s, e⟩ := run_sound false p hp a ch h t
  exact ⟨s.size, fun o ho hx => s.frozen ho ho (.inr hx), e⟩

/-- **op_error_preserves.**  For each write method (Create, Insert, Replace, Update, Delete, Drop,
    CreateIndex, DropIndex, DropIndexByKey, Bulk, Expire, Clean): if the call returns an error then
    `t.catalog` and `t.dirty` are unchanged and every root that existed before — the transaction's catalog,
    the published catalog, any older catalog or snapshot — observes exactly the same documents, indexes and
    oplog.  (For `Bulk`, whose arguments are not cloned, the caller's documents must not already be part of
    what the root reaches.) -/
theorem op_error_preserves (p : String × Prog) (hp : p ∈ Expected.txnPrograms)
    (a : Args) (ch : Choices) (h : Heap) (t : TxnState) (hc : Closed h)
    (herr : (run p.2 a ch (h, t)).2.2 = .error) :
    (run p.2 a ch (h, t)).2.1.catalog = t.catalog ∧ (run p.2 a ch (h, t)).2.1.dirty = t.dirty ∧
    ∀ root, root < h.size → (p.1 ≠ "Bulk" ∨ ∀ o ∈ a.allDocs, o ∉ reach h root) →
      observe (run p.2 a ch (h, t)).1 root = observe h root := by
  have ho := Expected.expected_owned p hp
  have e := (owned_sound p.2 ho a ch h t).2.2 herr
  exact ⟨by rw [e], by rw [e], fun root hr hx =>
    run_observe p.2 ho a ch h t hc hr (hx.imp_left (Expected.expected_args p hp))⟩

/-- the same for a successful call: whatever it did, it did to fresh objects; what older roots observe is
    unchanged (this is what makes earlier snapshots immutable, C03) -/
theorem op_preserves_old_roots (p : String × Prog) (hp : p ∈ Expected.txnPrograms) (hb : p.1 ≠ "Bulk")
    (a : Args) (ch : Choices) (h : Heap) (t : TxnState) (hc : Closed h) :
    ∀ root, root < h.size → observe (run p.2 a ch (h, t)).1 root = observe h root := fun _ hr =>
  run_observe p.2 (Expected.expected_owned p hp) a ch h t hc hr (.inl (Expected.expected_args p hp hb))

/-! ## Histories: a failing call is invisible at every reachable system state -/

/-- **failed_call_invisible.**  At every state of every history (`Sys.Good` is preserved by every event,
    `Sys.Good.run`), a Transaction write method that reports an error — with arbitrary caller documents, which
    reach the transaction fresh, and an arbitrary failure point — leaves the transaction's catalog pointer and
    dirty flag, the published catalog, and what EVERY existing root observes (the transaction's own view, the
    published view, every snapshot) exactly as they were.  `Bulk` needs no side condition here: the driver hands
    it freshly decoded documents. -/
theorem failed_call_invisible (s : Sys) (g : s.Good) (name : String) (handle : Nat)
    (docs : List (Var × List Nat)) (ch : Choices) (p : Prog)
    (hl : Expected.txnPrograms.lookup name = some p)
    (herr : (run p { handle := handle, docs := (allocArgs s.heap docs).2 } ch
              ((allocArgs s.heap docs).1, s.txn)).2.2 = .error) :
    (s.step (.call name handle docs ch)).txn = s.txn ∧
    (s.step (.call name handle docs ch)).engine = s.engine ∧
    (s.step (.call name handle docs ch)).snaps = s.snaps ∧
    ∀ root, root < s.heap.size →
      observe (s.step (.call name handle docs ch)).heap root = observe s.heap root := by
  refine ⟨?_, (s.step_call ..).1, (s.step_call ..).2, fun root hr => g.observe_run [_] hr⟩
  simp only [Sys.step, hl]
  exact (owned_sound p (Expected.expected_owned (name, p) (lookup_mem hl)) _ ch _ s.txn).2.2 herr

/-- in particular the transaction's own view and the published view are what they were -/
theorem failed_call_views (s : Sys) (g : s.Good) (name : String) (handle : Nat)
    (docs : List (Var × List Nat)) (ch : Choices) (p : Prog)
    (hl : Expected.txnPrograms.lookup name = some p)
    (herr : (run p { handle := handle, docs := (allocArgs s.heap docs).2 } ch
              ((allocArgs s.heap docs).1, s.txn)).2.2 = .error) :
    let s' := s.step (.call name handle docs ch)
    observe s'.heap s'.txn.catalog = observe s.heap s.txn.catalog ∧
    observe s'.heap s'.engine = observe s.heap s.engine := by
  obtain ⟨h1, h2, _, h4⟩ := failed_call_invisible s g name handle docs ch p hl herr
  simp only
  rw [h1, h2]
  exact ⟨h4 _ g.wf.cat, h4 _ g.engine⟩

/-- event `e` is a call of a write method that reports an error at state `s` -/
def CallFails (s : Sys) : Ev → Prop
  | .call name handle docs ch => ∃ p, Expected.txnPrograms.lookup name = some p ∧
      (run p { handle := handle, docs := (allocArgs s.heap docs).2 } ch ((allocArgs s.heap docs).1, s.txn)).2.2 = .error
  | _ => False

/-- every event of the history is a failing call at the state it is executed in -/
def AllFail : Sys → List Ev → Prop
  | _, [] => True
  | s, e :: es => CallFails s e ∧ AllFail (s.step e) es

/-- **failed_calls_run.**  Any number of failing calls in a row — each with its own arguments and failure point —
    leave the transaction state, the published catalog, the snapshots and what every existing root observes
    exactly as before the first of them. -/
theorem failed_calls_run (s : Sys) (g : s.Good) (es : List Ev) (h : AllFail s es) :
    (s.run es).txn = s.txn ∧ (s.run es).engine = s.engine ∧ (s.run es).snaps = s.snaps ∧
    s.heap.size ≤ (s.run es).heap.size ∧
    ∀ root, root < s.heap.size → observe (s.run es).heap root = observe s.heap root := by
  suffices (s.run es).txn = s.txn ∧ (s.run es).engine = s.engine ∧ (s.run es).snaps = s.snaps from
    ⟨this.1, this.2.1, this.2.2, (s.run_agree es).1, fun _ hr => g.observe_run es hr⟩
  induction es generalizing s with
  | nil => exact ⟨rfl, rfl, rfl⟩
  | cons e es ih =>
    obtain ⟨h1, h2⟩ := h
    cases e with
    | call name handle docs ch =>
      obtain ⟨p, hl, herr⟩ := h1
      obtain ⟨a1, a2, a3, _⟩ := failed_call_invisible s g name handle docs ch p hl herr
      obtain ⟨b1, b2, b3⟩ := ih (s.step (.call name handle docs ch)) (g.step _) h2
      exact ⟨b1.trans a1, b2.trans a2, b3.trans a3⟩
    | begin | commit _ | abort | snapTxn | snapEngine => exact h1.elim

/-! ## Batches: a failing item contributes nothing, a succeeding item is installed -/

open Lungo.Own.Stmt Lungo.Own.Cond Lungo.Own.CExpr Lungo.Own.HExpr Lungo.Expected

/-- the part of an `Insert` item before its error check: clone namespace and oplog, `t.insert` -/
def insertItem : List Stmt :=
  [cloneColl "namespace" (ns "clone" param), cloneColl "oplog" (ns "clone" oplog), hInsert]

/-- the part of a `Bulk` item before its error check: clone namespace and oplog, dispatch on the opcode -/
def bulkItem : List Stmt :=
  [cloneColl "namespace" (ns "clone" param), cloneColl "oplog" (ns "clone" oplog),
   ite (test "op.Opcode == Insert") [hInsertBulk] [
   ite (test "op.Opcode == Replace") [hReplace "ops" "ops"] [
   ite (test "op.Opcode == Update") [hUpdate "ops" "ops"] [
   ite (test "op.Opcode == Delete") [hDelete] [
   fail]]]]]

/-- the loops of `Insert` and `Bulk` (as regenerated from the source) are exactly item ++ tail;
    `i` is the position of the loop among the statements of `pInsert` / `pBulk` -/
theorem insert_loop : Stmt.loop false (insertItem ++ itemTail param) ∈ pInsert :=
  List.mem_of_getElem? (i := 6) rfl
theorem bulk_loop : Stmt.loop false (bulkItem ++ itemTail param) ∈ pBulk :=
  List.mem_of_getElem? (i := 5) rfl

/-- both item blocks pass the ownership check from the EMPTY abstract state: they touch nothing but their
    own clones -/
theorem items_checked : (checkL false insertItem {}).ok = true ∧ (checkL false bulkItem {}).ok = true := by
  decide +kernel

/-- one iteration of a batch loop, for an item block `P` that is checked from the empty state.
    Whatever the item does and wherever it fails:
    * every object that existed when the item started (the `clone` catalog, everything installed by earlier
      items, everything older) is untouched by the item block;
    * if the item failed (`err != nil` after the block) NOTHING else happens: no install, the loop `break`s or
      `continue`s — the failing item contributes nothing;
    * if it succeeded, the iteration is completed by exactly the two installs
      `clone.Namespaces[handle] = namespace; clone.Namespaces[Oplog] = oplog`. -/
theorem item_effect (P : List Stmt) (hp : (checkL false P {}).ok = true) (st : St)
    (hn : (execL P st).2 = .next) :
    (∀ o, o < st.heap.size → o ∉ st.allDocs → (execL P st).1.heap.get o = st.heap.get o) ∧
    ((execL P st).1.env.err = true →
        (execL (P ++ itemTail param) st).1.heap = (execL P st).1.heap ∧
        (execL (P ++ itemTail param) st).1.txn = (execL P st).1.txn ∧
        ((execL (P ++ itemTail param) st).2 = .brk ∨ (execL (P ++ itemTail param) st).2 = .cont)) ∧
    ((execL P st).1.env.err = false →
        execL (P ++ itemTail param) st =
          execL [setNs "clone" param "namespace", setNs "clone" oplog "oplog"] (execL P st).1) := by
  rw [execL_append_next hn]
  exact ⟨(block_isolated P hp st).2, itemTail_err param _, itemTail_ok param _⟩

/-- **insertMany_effect.**  Per item of `Transaction.Insert` (ordered: the loop stops at the first failure;
    unordered: it goes on): see `item_effect`. -/
theorem insertMany_effect (st : St) (hn : (execL insertItem st).2 = .next) :
    (∀ o, o < st.heap.size → o ∉ st.allDocs → (execL insertItem st).1.heap.get o = st.heap.get o) ∧
    ((execL insertItem st).1.env.err = true →
        (execL (insertItem ++ itemTail param) st).1.heap = (execL insertItem st).1.heap ∧
        (execL (insertItem ++ itemTail param) st).1.txn = (execL insertItem st).1.txn ∧
        ((execL (insertItem ++ itemTail param) st).2 = .brk ∨ (execL (insertItem ++ itemTail param) st).2 = .cont)) ∧
    ((execL insertItem st).1.env.err = false →
        execL (insertItem ++ itemTail param) st =
          execL [setNs "clone" param "namespace", setNs "clone" oplog "oplog"] (execL insertItem st).1) :=
  item_effect insertItem items_checked.1 st hn

/-- **bulk_effect.**  The same for every operation kind of `Transaction.Bulk`. -/
theorem bulk_effect (st : St) (hn : (execL bulkItem st).2 = .next) :
    (∀ o, o < st.heap.size → o ∉ st.allDocs → (execL bulkItem st).1.heap.get o = st.heap.get o) ∧
    ((execL bulkItem st).1.env.err = true →
        (execL (bulkItem ++ itemTail param) st).1.heap = (execL bulkItem st).1.heap ∧
        (execL (bulkItem ++ itemTail param) st).1.txn = (execL bulkItem st).1.txn ∧
        ((execL (bulkItem ++ itemTail param) st).2 = .brk ∨ (execL (bulkItem ++ itemTail param) st).2 = .cont)) ∧
    ((execL bulkItem st).1.env.err = false →
        execL (bulkItem ++ itemTail param) st =
          execL [setNs "clone" param "namespace", setNs "clone" oplog "oplog"] (execL bulkItem st).1) :=
  item_effect bulkItem items_checked.2 st hn

/-! ## Negative theorems: the check is not vacuous and each discipline violation is observable -/

/-- a tiny database: one document (7) in collection 1 with its `_id_` index, an empty oplog, catalog at 6 -/
def hA : Heap := ⟨[.doc 7, .set [0], .idx [0], .coll 1 [("_id_", 2)], .set [], .coll 4 [], .cat [(0, 5), (1, 3)]]⟩
def tA : TxnState := ⟨6, false⟩

/-- the inner call empties the Set and THEN fails -/
def chFail : Choices := { flags := [false, false, false], muts := [{ list := some [], ok := false }] }

/-- `Update` with `namespace = clone.Namespaces[handle]` — the `.Clone()` dropped -/
def pUpdate_noClone : Prog :=
  writable ++ [
    ite (both (isNil (ns "t.catalog" param)) (neg (test "upsert"))) [retOk] [],
    cloneCatalog "clone" "t.catalog",
    ite (isNil (ns "clone" param))
      [newColl "namespace", setNs "clone" param "namespace"]
      [alias "namespace" (ns "clone" param), setNs "clone" param "namespace"]] ++ cloneOplog ++ [
    hUpdate "update" "query", ifErrReturn,
    ite (either (test "len(res.Modified) > 0") (test "res.Upserted != nil")) publish [],
    retOk]

theorem neg_no_clone :
    ownedOK pUpdate_noClone = false ∧
    (run pUpdate_noClone {} chFail (hA, tA)).2.2 = .error ∧
    (run pUpdate_noClone {} chFail (hA, tA)).1.get 1 ≠ hA.get 1 ∧
    observe (run pUpdate_noClone {} chFail (hA, tA)).1 6 ≠ observe hA 6 := by decide +kernel

/-- `Update` whose collection clone shares the Set and the indexes (a wrong `Collection.Clone`) -/
def pUpdate_shallow : Prog :=
  writable ++ [
    ite (both (isNil (ns "t.catalog" param)) (neg (test "upsert"))) [retOk] [],
    cloneCatalog "clone" "t.catalog",
    ite (isNil (ns "clone" param))
      [newColl "namespace", setNs "clone" param "namespace"]
      [shallowColl "namespace" (ns "clone" param), setNs "clone" param "namespace"]] ++ cloneOplog ++ [
    hUpdate "update" "query", ifErrReturn,
    ite (either (test "len(res.Modified) > 0") (test "res.Upserted != nil")) publish [],
    retOk]

theorem neg_shared_set :
    ownedOK pUpdate_shallow = false ∧
    (run pUpdate_shallow {} chFail (hA, tA)).2.2 = .error ∧
    (run pUpdate_shallow {} chFail (hA, tA)).1.get 1 ≠ hA.get 1 ∧
    observe (run pUpdate_shallow {} chFail (hA, tA)).1 6 ≠ observe hA 6 := by decide +kernel

/-- `Replace` with `t.catalog = clone; t.dirty = true` BEFORE `if err != nil { return }` -/
def pReplace_assignFirst : Prog :=
  writable ++ [
    ite (both (isNil (ns "t.catalog" param)) (neg (test "upsert"))) [retOk] [],
    cloneDocs "repl" "repl",
    cloneCatalog "clone" "t.catalog",
    createOrClone] ++ cloneOplog ++ [
    hReplace "repl" "query"] ++ publish ++ [ifErrReturn, retOk]

theorem neg_assign_before_check :
    ownedOK pReplace_assignFirst = false ∧
    (run pReplace_assignFirst {} chFail (hA, tA)).2.2 = .error ∧
    (run pReplace_assignFirst {} chFail (hA, tA)).2.1 ≠ tA ∧
    observe (run pReplace_assignFirst {} chFail (hA, tA)).1 (run pReplace_assignFirst {} chFail (hA, tA)).2.1.catalog
      ≠ observe hA tA.catalog := by decide +kernel

/-- `Insert` with ONE namespace clone shared by all items of the batch -/
def pInsert_shared : Prog :=
  writable ++ [
    cloneDocs "list" "list",
    cloneCatalog "clone" "t.catalog",
    ite (isNil (ns "clone" param)) [setNsNew "clone" param] [],
    cloneColl "namespace" (ns "clone" param),
    loop false [
      cloneColl "oplog" (ns "clone" oplog),
      hInsert,
      ite err [ite (test "ordered") [brk] [cont]] [],
      setNs "clone" param "namespace",
      setNs "clone" oplog "oplog"],
    ite (test "len(result.Modified) > 0") publish [],
    retOk]

/-- two items, unordered: the first stores a half-inserted document 666 and fails, the second succeeds -/
def chBatch (k : Nat) : Choices :=
  { flags := [false, false, false, true], iters := [2], muts := [{ newDocs := [666], list := some [k], ok := false }, ({} : Mut), ({} : Mut)] }
def aBatch : Args := { docs := [("list", [0])] }

/-- the published catalog contains the debris of the FAILED item (and lost document 7) -/
theorem neg_shared_item_clone :
    ownedOK pInsert_shared = false ∧
    (run pInsert_shared aBatch (chBatch 14) (hA, tA)).2.2 = .ok ∧
    observe (run pInsert_shared aBatch (chBatch 14) (hA, tA)).1 (run pInsert_shared aBatch (chBatch 14) (hA, tA)).2.1.catalog
      = some [(0, some ⟨some [], []⟩), (1, some ⟨some [some 666], [("_id_", some [some 7])]⟩)] := by decide +kernel

/-! ## Non-vacuity: the real programs on the same inputs -/

/-- the real `Update` fails at the same point after the same partial mutation — which hit the CLONE (object 8) -/
example : (run pUpdate {} chFail (hA, tA)).2.2 = .error ∧
    (run pUpdate {} chFail (hA, tA)).1.get 8 = some (.set []) ∧
    observe (run pUpdate {} chFail (hA, tA)).1 6 = observe hA 6 ∧ Closed hA := by
  exact ⟨by decide +kernel, by decide +kernel, by decide +kernel, .of_all (by decide)⟩

/-- the real `Insert` on the batch: the failed item's debris is not published, the successful item is -/
example : (run pInsert aBatch (chBatch 17) (hA, tA)).2.2 = .ok ∧
    (run pInsert aBatch (chBatch 17) (hA, tA)).2.1.dirty = true ∧
    observe (run pInsert aBatch (chBatch 17) (hA, tA)).1 (run pInsert aBatch (chBatch 17) (hA, tA)).2.1.catalog
      = some [(0, some ⟨some [], []⟩), (1, some ⟨some [some 7], [("_id_", some [some 7])]⟩)] := by decide +kernel

/-- an item block reaches its error check (hypothesis `hn` of `insertMany_effect`) with `err` set -/
example : (execL insertItem (initSt {} { muts := [{ ok := false }] } hA tA |>.bind "clone" (some 6))).2 = .next ∧
    (execL insertItem (initSt {} { muts := [{ ok := false }] } hA tA |>.bind "clone" (some 6))).1.env.err = true := by
  decide +kernel


/-- the hypotheses of `failed_call_invisible` are met by the real `Update` at a concrete good state -/
example : Expected.txnPrograms.lookup "Update" = some pUpdate ∧
    (run pUpdate { handle := 1, docs := (allocArgs hA []).2 } chFail ((allocArgs hA []).1, (⟨6, false⟩ : TxnState))).2.2 = .error ∧
    (6 : Nat) < hA.size := by
  exact ⟨rfl, by decide +kernel, by decide +kernel⟩


/-- `AllFail` is inhabited: the real `Update` failing twice in a row (the second at the state the first left) -/
example : AllFail ⟨hA, ⟨6, false⟩, 6, []⟩ [.call "Update" 1 [] chFail, .call "Update" 1 [] chFail] :=
  ⟨⟨pUpdate, rfl, by decide +kernel⟩, ⟨pUpdate, rfl, by decide +kernel⟩, trivial⟩

end Lungo.C02
