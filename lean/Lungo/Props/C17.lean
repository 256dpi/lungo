/-
  Lungo.Props.C17 — caller-owned values and database state never alias each other.

  What gives the translator fact `ApiFlow` (one row per driver method: how each caller value enters,
  how each result component leaves) a meaning.  A tiny identity-aware heap in the style of DESIGN §3.4 /
  Appendix D (G2 nodes = `bson.D`/`bson.A` backing arrays and `Binary.Data`):

  * `St.mem`     the heap; node `i` has contents `mem[i]`; allocation appends (fresh = index ≥ old length);
  * `St.db`      the nodes reachable from the engine state (catalog documents, index entries/configs, oplog);
  * `St.caller`  the nodes reachable from values the caller holds (everything it built, every result it got).

  A driver call with flow row `r` is `entry` + `internal` + `exit`:
    entry     every argument node enters through a copy that allocates fresh nodes iff no parameter of `r`
              is `raw` (`Transform`, `TransformList`); otherwise the argument nodes themselves enter;
    internal  the call keeps any sub-list of the old database nodes, stores any prefix of the entered
              nodes and any number of freshly allocated nodes, and writes in place ONLY to nodes it obtained
              in this call (entered + fresh) — the G2 discipline of Appendix D;
    exit      every handed-back node leaves through a copy allocating fresh nodes iff no result of `r` is `raw`
              (`Decode`, `DecodeList`, `bson.Marshal`, `copyValue`); otherwise the stored nodes themselves
              become caller-owned.
  All choices (which nodes, how many, which values) are universally quantified data of the step.
-/
import Lungo.Model.ApiFlow
import Lungo.Expected.ApiFlow

namespace Lungo.C17
open Lungo.ApiFlow

/-! ## Flow safety -/

def Entry.safe : Entry → Bool
  | .raw _ => false
  | _ => true

def Exit.safe : Exit → Bool
  | .raw _ => false
  | _ => true

/-- no parameter enters raw -/
def entrySafe (r : Flow) : Bool := r.params.all (fun p => Entry.safe p.2)
/-- no result leaves raw -/
def exitSafe (r : Flow) : Bool := r.results.all (fun p => Exit.safe p.2)
def flowSafe (r : Flow) : Bool := entrySafe r && exitSafe r

/-! ## Heap, calls, histories -/

-- nodes (heap addresses) and node contents are natural numbers

structure St where
  mem : List Nat
  db : List Nat
  caller : List Nat
  deriving DecidableEq, Repr

def St.init : St := ⟨[], [], []⟩

def rd (m : List Nat) (x : Nat) : Nat := m.getD x 0

/-- What a dump of the database sees: the contents of the database nodes (ids erased). -/
def observe (s : St) : List Nat := s.db.map (rd s.mem)

/-- The freely chosen data of one call. -/
structure CallData where
  args : List Nat            -- the nodes of the values passed (only caller-owned nodes count)
  keep : List Nat            -- which old database nodes stay reachable
  nStore : Nat                -- how many of the entered nodes are stored
  fresh : List Nat            -- nodes allocated and stored by the call itself
  writes : List (Nat × Nat)   -- in-place writes, addressed by position in (entered ++ fresh nodes)
  ret : List Nat             -- stored nodes handed back
  deriving DecidableEq, Repr

def writeOne (own : List Nat) (m : List Nat) (w : Nat × Nat) : List Nat :=
  match own[w.1]? with
  | some x => m.set x w.2
  | none => m

def applyWrites (own : List Nat) (m : List Nat) (ws : List (Nat × Nat)) : List Nat :=
  ws.foldl (writeOne own) m

def call (s : St) (r : Flow) (c : CallData) : St :=
  let args := c.args.filter (· ∈ s.caller)
  let mem1 := if entrySafe r then s.mem ++ args.map (rd s.mem) else s.mem
  let entered := if entrySafe r then List.range' s.mem.length args.length else args
  let freshNodes := List.range' mem1.length c.fresh.length
  let mem2 := mem1 ++ c.fresh
  let mem3 := applyWrites (entered ++ freshNodes) mem2 c.writes
  let db' := c.keep.filter (· ∈ s.db) ++ entered.take c.nStore ++ freshNodes
  let ret := c.ret.filter (· ∈ db')
  if exitSafe r then
    { mem := mem3 ++ ret.map (rd mem3), db := db', caller := s.caller ++ List.range' mem3.length ret.length }
  else
    { mem := mem3, db := db', caller := s.caller ++ ret }

inductive Step
  | alloc (vals : List Nat)        -- the caller builds values
  | write (x : Nat) (v : Nat)     -- the caller writes to a node it owns
  | call (r : Flow) (c : CallData)
  deriving DecidableEq, Repr

def step (s : St) : Step → St
  | .alloc vals => { s with mem := s.mem ++ vals, caller := s.caller ++ List.range' s.mem.length vals.length }
  | .write x v => if x ∈ s.caller then { s with mem := s.mem.set x v } else s
  | .call r c => call s r c

def runFrom (s : St) (h : List Step) : St := h.foldl step s
def run (h : List Step) : St := runFrom St.init h

def Step.safe : Step → Bool
  | .call r _ => flowSafe r
  | _ => true

/-! ## The invariant -/

structure Inv (s : St) : Prop where
  callerLt : ∀ x ∈ s.caller, x < s.mem.length
  dbLt : ∀ x ∈ s.db, x < s.mem.length
  disj : ∀ x ∈ s.caller, x ∉ s.db

theorem inv_init : Inv St.init := ⟨by simp [St.init], by simp [St.init], by simp [St.init]⟩

theorem writeOne_length (own : List Nat) (m : List Nat) (w : Nat × Nat) : (writeOne own m w).length = m.length := by
  unfold writeOne; split <;> simp

theorem applyWrites_length (own : List Nat) (ws : List (Nat × Nat)) :
    ∀ m, (applyWrites own m ws).length = m.length := by
  induction ws with
  | nil => intro m; rfl
  | cons w ws ih =>
    intro m
    have := ih (writeOne own m w)
    simp only [applyWrites, List.foldl_cons] at this ⊢
    rw [this, writeOne_length]

theorem rd_append_left (m e : List Nat) (x : Nat) (h : x < m.length) : rd (m ++ e) x = rd m x := by
  simp [rd, List.getD_eq_getElem?_getD, List.getElem?_append_left h]

theorem rd_append_right_eq (m1 m2 e1 e2 : List Nat) (hl : m1.length = m2.length) (x : Nat)
    (hx : m1.length ≤ x) (he : ∀ i, e1.getD i 0 = e2.getD i 0) : rd (m1 ++ e1) x = rd (m2 ++ e2) x := by
  simp only [rd, List.getD_eq_getElem?_getD]
  rw [List.getElem?_append_right hx, List.getElem?_append_right (by omega), hl]
  have := he (x - m2.length)
  simpa [List.getD_eq_getElem?_getD] using this

theorem rd_append_cases (m e : List Nat) (x : Nat) :
    rd (m ++ e) x = if x < m.length then rd m x else e.getD (x - m.length) 0 := by
  split
  · rename_i h; exact rd_append_left m e x h
  · rename_i h
    simp only [rd, List.getD_eq_getElem?_getD]
    rw [List.getElem?_append_right (by omega)]

/-! ## A safe step only appends

Both relations that are carried along a history, `Inv` and (below) `Agree`, are kept by any step that leaves the
old memory a prefix of the new one, hands the caller cells of the appended part only and gives the database no
caller node.  `alloc` is such a step by definition; a call with a safe flow row is one because the cells it
writes in place (entered + fresh) are cells it has appended itself: `call_safe`. -/

/-- in-place writes to cells behind `m` do not touch `m` -/
theorem applyWrites_append (own m : List Nat) (h : ∀ x ∈ own, m.length ≤ x) (ws : List (Nat × Nat)) :
    ∀ e, applyWrites own (m ++ e) ws = m ++ applyWrites (own.map (· - m.length)) e ws := by
  induction ws with
  | nil => intro e; rfl
  | cons w ws ih =>
    intro e
    have hw : writeOne own (m ++ e) w = m ++ writeOne (own.map (· - m.length)) e w := by
      unfold writeOne
      rw [List.getElem?_map]
      cases hx : own[w.1]? with
      | none => rfl
      | some x => exact List.set_append_right _ _ (h x (List.mem_of_getElem? hx))
    simp only [applyWrites, List.foldl_cons] at ih ⊢
    rw [hw, ih]

/-- A call with a safe flow row, as a function of the length `n` of the memory and of a way to `read` it: the
    cells it appends (the copies of the arguments and the fresh nodes, as its writes leave them, then the copies
    of the handed-back nodes), the new database nodes, the new caller nodes.  The old memory is read at the
    arguments and at handed-back database nodes, nowhere else. -/
def safeCall (n : Nat) (read : Nat → Nat) (caller db : List Nat) (c : CallData) : List Nat × List Nat × List Nat :=
  let args := c.args.filter (· ∈ caller)
  let own := List.range' n args.length ++ List.range' (n + args.length) c.fresh.length
  let body := applyWrites (own.map (· - n)) (args.map read ++ c.fresh) c.writes
  let db' := c.keep.filter (· ∈ db) ++ (List.range' n args.length).take c.nStore
    ++ List.range' (n + args.length) c.fresh.length
  let ret := c.ret.filter (· ∈ db')
  (body ++ ret.map (fun x => if x < n then read x else body.getD (x - n) 0), db',
    List.range' (n + body.length) ret.length)

theorem call_safe (s : St) (r : Flow) (c : CallData) (hs : flowSafe r = true) :
    call s r c = ⟨s.mem ++ (safeCall s.mem.length (rd s.mem) s.caller s.db c).1,
      (safeCall s.mem.length (rd s.mem) s.caller s.db c).2.1,
      s.caller ++ (safeCall s.mem.length (rd s.mem) s.caller s.db c).2.2⟩ := by
  have hE : entrySafe r = true := by simp [flowSafe] at hs; exact hs.1
  have hX : exitSafe r = true := by simp [flowSafe] at hs; exact hs.2
  simp only [call, safeCall, hE, hX, if_true, List.length_append, List.length_map, List.append_assoc]
  rw [applyWrites_append _ s.mem (fun x hx => by
    rcases List.mem_append.mp hx with h | h <;> have := List.mem_range'_1.mp h <;> omega)]
  rw [funext (rd_append_cases s.mem _)]
  simp only [List.length_append, List.append_assoc]

/-- where the nodes of a safe call lie: the appended part is the body followed by one cell per handed-back node, and
    a database node is an old database node or a cell of the body -/
theorem safeCall_nodes (n : Nat) (read : Nat → Nat) (caller db : List Nat) (c : CallData) :
    ∃ b m, (safeCall n read caller db c).1.length = b + m ∧ (safeCall n read caller db c).2.2 = List.range' (n + b) m ∧
      ∀ x ∈ (safeCall n read caller db c).2.1, x ∈ db ∨ (n ≤ x ∧ x < n + b) := by
  refine ⟨_, _, by simp only [safeCall, List.length_append, List.length_map], rfl, fun x hx => ?_⟩
  simp only [safeCall, List.mem_append, List.mem_filter, decide_eq_true_eq] at hx
  simp only [applyWrites_length, List.length_append, List.length_map]
  rcases hx with (⟨_, h⟩ | h) | h
  · exact .inl h
  · have := List.mem_range'_1.1 (List.mem_of_mem_take h); exact .inr (by omega)
  · have := List.mem_range'_1.1 h; exact .inr (by omega)

/-- `Inv` is kept by a step that appends `ext` to the memory, hands the caller the cells `[k, k + m)` of it and
    puts into the database old database nodes and appended cells below `k` only -/
theorem Inv.append {s : St} (hi : Inv s) {ext db' : List Nat} {k m : Nat} (hk : s.mem.length ≤ k)
    (hm : k + m ≤ s.mem.length + ext.length) (hdb : ∀ x ∈ db', x ∈ s.db ∨ (s.mem.length ≤ x ∧ x < k)) :
    Inv ⟨s.mem ++ ext, db', s.caller ++ List.range' k m⟩ := by
  have old : ∀ x ∈ s.caller ++ List.range' k m, (x ∈ s.caller ∧ x < s.mem.length) ∨ (k ≤ x ∧ x < k + m) := fun x hx =>
    (List.mem_append.mp hx).imp (fun h => ⟨h, hi.callerLt x h⟩) List.mem_range'_1.1
  refine ⟨fun x hx => ?_, fun x hx => ?_, fun x hx hd => ?_⟩
  · rw [List.length_append]
    rcases old x hx with h | h <;> omega
  · rw [List.length_append]
    rcases hdb x hx with h | h
    · have := hi.dbLt x h; omega
    · omega
  · rcases old x hx with h | h <;> rcases hdb x hd with h' | h'
    · exact hi.disj x h.1 h'
    · omega
    · have := hi.dbLt x h'; omega
    · omega

theorem inv_call (s : St) (r : Flow) (c : CallData) (hs : flowSafe r = true) (hi : Inv s) : Inv (call s r c) := by
  obtain ⟨b, m, h1, h2, h3⟩ := safeCall_nodes s.mem.length (rd s.mem) s.caller s.db c
  rw [call_safe s r c hs, h2]
  exact hi.append (Nat.le_add_right _ _) (by omega) h3

theorem inv_step (s : St) (st : Step) (hs : st.safe = true) (hi : Inv s) : Inv (step s st) := by
  cases st with
  | alloc vals => exact hi.append (Nat.le_refl _) (Nat.le_refl _) fun _ => .inl
  | write x v =>
    simp only [step]
    split
    · exact ⟨by simpa using hi.callerLt, by simpa using hi.dbLt, hi.disj⟩
    · exact hi
  | call r c => exact inv_call s r c hs hi

theorem inv_runFrom (h : List Step) : ∀ s, Inv s → (∀ st ∈ h, st.safe = true) → Inv (runFrom s h) := by
  induction h with
  | nil => intro s hi _; exact hi
  | cons st h ih =>
    intro s hi hs
    exact ih (step s st) (inv_step s st (hs st (by simp)) hi) (fun t ht => hs t (by simp [ht]))

/-- **separation** (invariant form): after any history whose calls all have safe flow rows, no node is
    both caller-owned and reachable from the database. -/
theorem separation (h : List Step) (hs : ∀ st ∈ h, st.safe = true) : Inv (run h) :=
  inv_runFrom h St.init inv_init hs

/-! ## Consequences -/

theorem observe_write (s : St) (hi : Inv s) (x : Nat) (v : Nat) :
    observe (step s (.write x v)) = observe s ∧ (step s (.write x v)).db = s.db := by
  simp only [step]
  split
  · rename_i hx
    refine ⟨?_, rfl⟩
    simp only [observe]
    apply List.map_congr_left
    intro y hy
    have hne : x ≠ y := fun h => hi.disj x hx (h ▸ hy)
    simp [rd, List.getD_eq_getElem?_getD, List.getElem?_set_ne hne]
  · exact ⟨rfl, rfl⟩

/-- **caller writes are invisible**: in a state reached by a safe history, ANY sequence of caller writes
    leaves the database observation and the database node list unchanged (and the invariant intact, so the
    statement keeps holding along the continued history). -/
theorem caller_writes_invisible (h : List Step) (hs : ∀ st ∈ h, st.safe = true) (ws : List (Nat × Nat)) :
    let s := run h
    let s' := runFrom s (ws.map fun w => Step.write w.1 w.2)
    observe s' = observe s ∧ s'.db = s.db ∧ Inv s' := by
  have hi := separation h hs
  generalize run h = s at hi
  induction ws generalizing s with
  | nil => exact ⟨rfl, rfl, hi⟩
  | cons w ws ih =>
    simp only [List.map_cons, runFrom, List.foldl_cons]
    have h1 := observe_write s hi w.1 w.2
    have hi' := inv_step s (.write w.1 w.2) rfl hi
    have h2 := ih (step s (.write w.1 w.2)) hi'
    simp only [runFrom] at h2
    exact ⟨h2.1.trans h1.1, h2.2.1.trans h1.2, h2.2.2⟩

/-- **args_unchanged**: a call with a safe flow row never writes to a caller-owned node — the contents of
    every node the caller owned before the call (in particular of every argument) are the same afterwards. -/
theorem args_unchanged (s : St) (hi : Inv s) (r : Flow) (c : CallData) (hs : flowSafe r = true) :
    ∀ x ∈ s.caller, rd (call s r c).mem x = rd s.mem x := fun x hx => by
  rw [call_safe s r c hs]
  exact rd_append_left _ _ _ (hi.callerLt x hx)

/-! ## Independence of the database from dead caller nodes (`separation_erase`)

Two runs that differ only in the contents of a set `D` of caller-owned nodes that are never passed to a
call again stay in lock step: same allocation pointer, same database nodes, same caller nodes, same
contents outside `D`.  Since `D` is disjoint from the database, the observations agree. -/

/-- a step does not pass (or write through the history itself to) a node of `D` -/
def Step.avoids (D : List Nat) : Step → Prop
  | .call _ c => ∀ x ∈ c.args, x ∉ D
  | .write x _ => x ∉ D
  | .alloc _ => True

structure Agree (D : List Nat) (s t : St) : Prop where
  len : s.mem.length = t.mem.length
  db : s.db = t.db
  caller : s.caller = t.caller
  mem : ∀ x, x ∉ D → rd s.mem x = rd t.mem x
  dead : ∀ x ∈ D, x ∈ s.caller

theorem set_agree (D : List Nat) (m1 m2 : List Nat) (hl : m1.length = m2.length) (y : Nat) (v : Nat)
    (h : ∀ x, x ∉ D → rd m1 x = rd m2 x) : ∀ x, x ∉ D → rd (m1.set y v) x = rd (m2.set y v) x := by
  intro x hx
  by_cases hxy : y = x
  · subst hxy
    simp only [rd, List.getD_eq_getElem?_getD]
    by_cases hlt : y < m1.length
    · rw [List.getElem?_set_self hlt, List.getElem?_set_self (by omega)]
    · rw [List.getElem?_eq_none (by simp; omega), List.getElem?_eq_none (by simp; omega)]
  · have := h x hx
    simp only [rd, List.getD_eq_getElem?_getD] at this ⊢
    rw [List.getElem?_set_ne hxy, List.getElem?_set_ne hxy]
    exact this

/-- two states that agree stay in agreement when both are extended in the same way -/
theorem Agree.append {D : List Nat} {s t : St} (ha : Agree D s t) (ext db' new : List Nat) :
    Agree D ⟨s.mem ++ ext, db', s.caller ++ new⟩ ⟨t.mem ++ ext, db', t.caller ++ new⟩ :=
  ⟨by simp [ha.len], rfl, by rw [ha.caller],
   fun x hx => by rw [rd_append_cases, rd_append_cases, ha.len, ha.mem x hx],
   fun x hx => List.mem_append_left _ (ha.dead x hx)⟩

/-- what a safe call appends depends on the old memory only through the arguments the caller owns and the
    database nodes -/
theorem safeCall_congr {n : Nat} {read read' : Nat → Nat} {caller db : List Nat} {c : CallData}
    (ha : ∀ x ∈ c.args, x ∈ caller → read x = read' x) (hd : ∀ x ∈ db, read x = read' x) :
    safeCall n read caller db c = safeCall n read' caller db c := by
  have hargs : (c.args.filter (· ∈ caller)).map read = (c.args.filter (· ∈ caller)).map read' :=
    List.map_congr_left fun x hx => ha x (List.mem_filter.1 hx).1 (by simpa using (List.mem_filter.1 hx).2)
  simp only [safeCall, hargs]
  congr 2
  refine List.map_congr_left fun x hx => ?_
  split
  · -- a handed-back node below `n` is an old database node
    rename_i hlt
    have hx := (List.mem_filter.1 hx).2
    simp only [List.mem_append, List.mem_filter, decide_eq_true_eq] at hx
    rcases hx with (⟨_, h⟩ | h) | h
    · exact hd x h
    · have := List.mem_range'_1.1 (List.mem_of_mem_take h); omega
    · have := List.mem_range'_1.1 h; omega
  · rfl

theorem agree_call (D : List Nat) (s t : St) (r : Flow) (c : CallData) (hs : flowSafe r = true)
    (hi : Inv s) (ha : Agree D s t) (hav : ∀ x ∈ c.args, x ∉ D) : Agree D (call s r c) (call t r c) := by
  have e : safeCall t.mem.length (rd t.mem) t.caller t.db c = safeCall s.mem.length (rd s.mem) s.caller s.db c := by
    rw [← ha.len, ← ha.caller, ← ha.db]
    -- neither an argument nor a database node is in `D`
    exact (safeCall_congr (fun x hx _ => ha.mem x (hav x hx)) fun x hx =>
      ha.mem x fun hD => hi.disj x (ha.dead x hD) hx).symm
  rw [call_safe s r c hs, call_safe t r c hs, e]
  exact ha.append _ _ _

theorem agree_step (D : List Nat) (s t : St) (st : Step) (hs : st.safe = true) (hi : Inv s)
    (ha : Agree D s t) (hav : st.avoids D) : Agree D (step s st) (step t st) := by
  cases st with
  | alloc vals =>
    show Agree D _ ⟨t.mem ++ vals, t.db, t.caller ++ List.range' t.mem.length vals.length⟩
    rw [← ha.db, ← ha.len]
    exact ha.append _ _ _
  | write y v =>
    simp only [step, ← ha.caller]
    split
    · exact ⟨by simp [ha.len], ha.db, rfl, set_agree D s.mem t.mem ha.len y v ha.mem, ha.dead⟩
    · exact ha
  | call r c => exact agree_call D s t r c hs hi ha hav

theorem agree_observe (D : List Nat) (s t : St) (hi : Inv s) (ha : Agree D s t) : observe s = observe t := by
  simp only [observe, ← ha.db]
  apply List.map_congr_left
  intro x hx
  exact ha.mem x (fun hD => hi.disj x (ha.dead x hD) hx)

theorem agree_runFrom (D : List Nat) (h : List Step) : ∀ s t, Inv s → Agree D s t →
    (∀ st ∈ h, st.safe = true) → (∀ st ∈ h, st.avoids D) → Agree D (runFrom s h) (runFrom t h) ∧ Inv (runFrom s h) := by
  induction h with
  | nil => intro s t hi ha _ _; exact ⟨ha, hi⟩
  | cons st h ih =>
    intro s t hi ha hs hav
    exact ih (step s st) (step t st) (inv_step s st (hs st (by simp)) hi)
      (agree_step D s t st (hs st (by simp)) hi ha (hav st (by simp)))
      (fun u hu => hs u (by simp [hu])) (fun u hu => hav u (by simp [hu]))

/-- **separation** (DESIGN §9 C17, full form).  Take any safe history `h₁`, then let the caller perform
    arbitrary writes `ws` to nodes `D` it owns, then continue with any safe history `h₂` that never passes a
    node of `D` to a call again (the caller may keep writing to other nodes).  The database observed at the
    end is exactly the one observed in the history WITHOUT those writes. -/
theorem separation_erase (h₁ h₂ : List Step) (ws : List (Nat × Nat))
    (hs₁ : ∀ st ∈ h₁, st.safe = true) (hs₂ : ∀ st ∈ h₂, st.safe = true)
    (hD : ∀ w ∈ ws, w.1 ∈ (run h₁).caller)
    (hav : ∀ st ∈ h₂, st.avoids (ws.map (·.1))) :
    observe (run (h₁ ++ ws.map (fun w => Step.write w.1 w.2) ++ h₂)) = observe (run (h₁ ++ h₂)) := by
  have hi := separation h₁ hs₁
  simp only [run, runFrom, List.foldl_append] at hi hD ⊢
  generalize List.foldl step St.init h₁ = s at hi hD
  -- the writes produce a state that agrees with `s` outside D
  have hw : ∀ (ws' : List (Nat × Nat)) (u : St), Agree (ws.map (·.1)) u s → Inv u →
      (∀ w ∈ ws', w.1 ∈ ws.map (·.1)) →
      Agree (ws.map (·.1)) (List.foldl step u (ws'.map fun w => Step.write w.1 w.2)) s
        ∧ Inv (List.foldl step u (ws'.map fun w => Step.write w.1 w.2)) := by
    intro ws'
    induction ws' with
    | nil => intro u ha hiu _; exact ⟨ha, hiu⟩
    | cons w ws' ih =>
      intro u ha hiu hmem
      simp only [List.map_cons, List.foldl_cons]
      refine ih _ ?_ (inv_step u (.write w.1 w.2) rfl hiu) (fun w' hw' => hmem w' (by simp [hw']))
      simp only [step]
      split
      · refine ⟨by simp [ha.len], ha.db, ha.caller, ?_, ha.dead⟩
        intro x hx
        have hne : w.1 ≠ x := fun h => hx (h ▸ hmem w (by simp))
        have := ha.mem x hx
        simp only [rd, List.getD_eq_getElem?_getD] at this ⊢
        rw [List.getElem?_set_ne hne]
        exact this
      · exact ha
  have hself : Agree (ws.map (·.1)) s s := ⟨rfl, rfl, rfl, fun _ _ => rfl, by
    intro x hx
    obtain ⟨w, hw1, rfl⟩ := List.mem_map.1 hx
    exact hD w hw1⟩
  obtain ⟨ha, hiu⟩ := hw ws s hself hi (fun w hw' => List.mem_map.2 ⟨w, hw', rfl⟩)
  have := agree_runFrom (ws.map (·.1)) h₂ _ s hiu ha hs₂ hav
  simp only [runFrom] at this
  exact agree_observe _ _ _ this.2 this.1

/-! ## The extracted table is safe -/

/-- Every row of the expected driver flow table — which `tie_ApiFlow_apiFlow` equates with the table
    regenerated from /repo — lets no argument in and no result out without a copy. -/
theorem expected_flow_safe : ∀ r ∈ Expected.apiFlow, flowSafe r = true := by decide

/-! ## Non-vacuity and negative examples -/

def safeRow : Flow :=
  { name := "Collection.InsertOne"
    params := [("document", .transform)]
    results := [("InsertedID", .copyValue)] }

def rawResultRow : Flow :=
  { name := "Collection.InsertOne (pre-fix)"
    params := [("document", .transform)]
    results := [("InsertedID", (.raw "bsonkit.Get(result.Modified[0], _id)"))] }

def rawEntryRow : Flow :=
  { name := "InsertOne without Transform"
    params := [("document", (.raw "document.(bson.D)"))]
    results := [("InsertedID", .copyValue)] }

/-- the caller builds a two-node document, inserts it (both nodes stored, one handed back), then writes to
    the result and to the argument -/
def demo (r : Flow) : List Step :=
  [ .alloc [10, 11],
    .call r { args := [0, 1], keep := [], nStore := 2, fresh := [], writes := [], ret := [2, 0] },
    .write 4 99, .write 0 77 ]

/-- with the safe row the hypotheses of `separation` hold for a history that really stores and returns
    nodes, and the database keeps the inserted contents whatever the caller writes afterwards -/
example : (∀ st ∈ demo safeRow, st.safe = true) ∧ observe (run (demo safeRow)) = [10, 11]
    ∧ (run (demo safeRow)).caller = [0, 1, 4] ∧ (run (demo safeRow)).db = [2, 3] := by decide

/-- **negative**: a raw result (the pre-fix `InsertedID`) admits a history where a caller write to the
    result changes the database observation -/
theorem raw_result_leaks :
    observe (run [.alloc [10, 11], .call rawResultRow { args := [0, 1], keep := [], nStore := 2, fresh := [], writes := [], ret := [2] }])
      = [10, 11] ∧
    observe (run [.alloc [10, 11], .call rawResultRow { args := [0, 1], keep := [], nStore := 2, fresh := [], writes := [], ret := [2] },
      .write 2 99]) = [99, 11] ∧ flowSafe rawResultRow = false := by decide

/-- **negative**: a raw entry (a `Transform` replaced by a type assertion) stores the caller's own nodes:
    a later caller write to its argument changes the database observation -/
theorem raw_entry_leaks :
    observe (run [.alloc [10, 11], .call rawEntryRow { args := [0, 1], keep := [], nStore := 2, fresh := [], writes := [], ret := [] },
      .write 0 77]) = [77, 11] ∧ flowSafe rawEntryRow = false := by decide

/-- **negative**: with a raw entry the call's in-place writes (e.g. `Put(doc, "_id", …)`) hit the argument -/
theorem raw_entry_modifies_args :
    rd (run [.alloc [10, 11], .call rawEntryRow { args := [0, 1], keep := [], nStore := 2, fresh := [], writes := [(0, 55)], ret := [] }]).mem 0
      = 55 := by decide

end Lungo.C17
