/-
  Lungo.Props.C12 — "BSON value comparison is a total order consistent with the MongoDB type order".

  `V.cmp` is the model of `bsonkit.Compare` (Lungo/Model/Compare.lean).  All proofs are in
  Lungo/Proofs/{Order,CompareLaws}.lean; this file only states the property theorems.

  Hypotheses.  `cmp_refl`, `cmp_swap` and `cmp_rank` hold for ALL values of the model type `V`.
  Transitivity, congruence and numeric exactness need ONE well-formedness fact, `V.i64Ok`
  (Lungo/Spec/I64Ok.lean): every `int64` payload occurring in the value lies in the int64 range (`V.wf` implies it; a Go `int64`
  always satisfies it).  Reason: the model type stores an `i64` payload as an unbounded `Int`, and
  for an out-of-range payload the range checks of `compareInt64ToFloat64` ("double ≥ 2^63 ⇒ less",
  "double < −2^63 ⇒ greater") are simply wrong.  `cmp_trans_needs_i64Ok`, `cmp_congr_needs_i64Ok`
  and `cmp_num_exact_needs_i64Ok` below are the counterexamples.  No other part of `V.wf`
  (int32 range, 12-byte object ids, uint32 timestamps, int64 dates) is needed.
-/
import Lungo.Proofs.CompareLaws
namespace Lungo.C12
open Lungo Lungo.Ord

/-! ### Concrete values used by the non-vacuity examples -/

/-- int64 2^60 -/
def i2p60 : V := .i64 (2 ^ 60)
/-- int64 2^60 + 1 (not representable as a double) -/
def i2p60p1 : V := .i64 (2 ^ 60 + 1)
/-- the double 2^60 (biased exponent 1083, mantissa 0) -/
def f2p60 : V := .f64 0x43B0000000000000
/-- Decimal128 1152921504606847000 — the shortest decimal rendering of the double 2^60, which is
    NOT 2^60 = 1152921504606846976 -/
def dShort : V := .dec 0x3040000000000000 1152921504606847000
/-- Decimal128 1152921504606846976 = 2^60 -/
def d2p60 : V := .dec 0x3040000000000000 1152921504606846976
/-- a double NaN -/
def fNaN : V := .f64 0x7FF8000000000000
/-- Decimal128 NaN -/
def dNaN : V := .dec 0x7C00000000000000 0
/-- Decimal128 -1 -/
def dM1 : V := .dec 0xB040000000000000 1
/-- Decimal128 +Infinity -/
def dInf : V := .dec 0x7800000000000000 0
/-- the double +Inf -/
def fInf : V := .f64 0x7FF0000000000000
/-- the double 2^63 -/
def f2p63 : V := .f64 0x43E0000000000000
/-- the double 0.5 -/
def fHalf : V := .f64 0x3FE0000000000000
/-- int64 2^53 + 1 (first integer that is not a double) -/
def i2p53p1 : V := .i64 (2 ^ 53 + 1)
/-- the double 2^53 -/
def f2p53 : V := .f64 0x4340000000000000
/-- nested arrays that differ only in length, late -/
def arrShort : V := .arr [.i32 1, .arr [.str "x", i2p60], .doc [("k", .arr [.null])]]
def arrLong : V := .arr [.i64 1, .arr [.str "x", f2p60], .doc [("k", .arr [.null, .null])]]
def arrLonger : V := .arr [.f64 0x3FF0000000000000, .arr [.str "x", d2p60], .doc [("k", .arr [.null, .null]), ("l", .bool false)]]
/-- an ill-formed "int64" (payload 2^64), outside the property's domain -/
def iBad : V := .i64 (2 ^ 64)
/-- Decimal128 2^63 + 1 -/
def d2p63p1 : V := .dec 0x3040000000000000 9223372036854775809
/-- Decimal128 2^64 -/
def d2p64 : V := .dec 0x3040000000000001 0

/-! ### Reflexivity -/

theorem cmp_refl (a : V) : V.cmp a a = .eq := V.cmp_refl a

example : V.cmp arrLonger arrLonger = .eq ∧ V.cmp fNaN fNaN = .eq ∧ V.cmp dNaN dNaN = .eq := by
  decide +kernel

/-! ### Antisymmetry: swapping the arguments flips the sign -/

theorem cmp_swap (a b : V) : V.cmp b a = (V.cmp a b).swap := V.cmp_swap a b

example : V.cmp i2p60p1 f2p60 = .gt ∧ V.cmp f2p60 i2p60p1 = .lt := by decide +kernel
example : V.cmp arrShort arrLong = .lt ∧ V.cmp arrLong arrShort = .gt := by decide +kernel

/-! ### Type-class order -/

/-- `Class.rank` is the MongoDB comparison order, as stated in the property. -/
example :
    [Class.null, .number, .string, .document, .array, .binary, .objectID, .boolean, .date,
      .timestamp, .regex].map Class.rank = [0, 1, 2, 3, 4, 5, 6, 7, 8, 9, 10] := by decide

/-- The class of each kind of value (missing counts as null; the four numeric types share one class). -/
example :
    [V.null, .missing, .i32 0, .i64 0, .f64 0, .dec 0 0, .str "", .doc [], .arr [], .bin 0 [],
      .oid [], .bool false, .date 0, .ts 0 0, .regex "" ""].map V.cls =
    [.null, .null, .number, .number, .number, .number, .string, .document, .array, .binary,
      .objectID, .boolean, .date, .timestamp, .regex] := by decide

/-- Values of different type classes are ordered by the class order. -/
theorem cmp_rank (a b : V) (h : a.cls.rank < b.cls.rank) : V.cmp a b = .lt := V.cmp_rank a b h

theorem cmp_rank_gt (a b : V) (h : b.cls.rank < a.cls.rank) : V.cmp a b = .gt :=
  V.cmp_of_rank_gt h

example : fInf.cls.rank < (V.str "").cls.rank ∧ V.cmp fInf (.str "") = .lt := by decide +kernel
example : arrLonger.cls.rank < (V.bin 0 []).cls.rank ∧ (V.bool true).cls.rank < (V.date (-5)).cls.rank := by
  decide

/-! ### Numbers: exact mathematical order, NaN lowest -/

/-- `XR.cmp` is the order nan < -inf < finite (by value) < +inf. -/
example :
    XR.cmp .nan .ninf = .lt ∧ XR.cmp .ninf (.fin (-5)) = .lt ∧ XR.cmp (.fin (-5)) (.fin (1/2)) = .lt ∧
    XR.cmp (.fin (1/2)) .pinf = .lt ∧ XR.cmp .nan .nan = .eq ∧ XR.cmp .pinf .pinf = .eq := by
  decide +kernel

/-- Numbers of all four numeric types (with int64 payloads in the int64 range) are ordered by
    their exact mathematical value, NaN lowest, then -Inf, finite values, +Inf. -/
theorem cmp_num_exact (a b : V) (ha : a.isNumber = true) (hb : b.isNumber = true)
    (oa : a.i64Ok = true) (ob : b.i64Ok = true) :
    V.cmp a b = XR.cmp a.numVal b.numVal :=
  V.cmp_num_exact' (eq_of_beq ha) (eq_of_beq hb) oa ob

/-- The same under the model's full well-formedness predicate. -/
theorem cmp_num_exact_wf (a b : V) (ha : a.isNumber = true) (hb : b.isNumber = true)
    (wa : a.wf = true) (wb : b.wf = true) :
    V.cmp a b = XR.cmp a.numVal b.numVal :=
  cmp_num_exact a b ha hb (V.i64Ok_of_wf a wa) (V.i64Ok_of_wf b wb)

-- hypotheses are met by int64 2^60+1 / double 2^60 / decimals, and the answers are the exact ones
example : i2p60p1.isNumber = true ∧ f2p60.isNumber = true ∧ i2p60p1.i64Ok = true ∧ f2p60.i64Ok = true ∧
    V.cmp i2p60p1 f2p60 = .gt ∧ V.cmp i2p60 f2p60 = .eq ∧ V.cmp f2p60 d2p60 = .eq ∧
    V.cmp f2p60 dShort = .lt ∧ V.cmp i2p60 dShort = .lt := by decide +kernel
example : V.cmp i2p53p1 f2p53 = .gt ∧ V.cmp i2p53p1 fHalf = .gt ∧ V.cmp (.i64 (-(2 ^ 63))) f2p63 = .lt ∧
    V.cmp (.i64 (2 ^ 63 - 1)) f2p63 = .lt := by decide +kernel
example : V.cmp fNaN dM1 = .lt ∧ V.cmp fNaN dNaN = .eq ∧ V.cmp dNaN (.i32 (-5)) = .lt ∧
    V.cmp fInf dInf = .eq ∧ V.cmp dInf (.i64 (2 ^ 63 - 1)) = .gt := by decide +kernel

/-- Without `i64Ok` exactness fails: the ill-formed "int64" 2^64 is reported below the double 2^63. -/
theorem cmp_num_exact_needs_i64Ok :
    iBad.isNumber = true ∧ f2p63.isNumber = true ∧ V.cmp iBad f2p63 = .lt ∧
      XR.cmp iBad.numVal f2p63.numVal = .gt := by decide +kernel

/-! ### Transitivity -/

/-- `V.cmp` restricted to values with in-range int64 payloads is a lawful comparator. -/
theorem cmp_laws (a b c : V) (oa : a.i64Ok = true) (ob : b.i64Ok = true) (oc : c.i64Ok = true) :
    LawsAt V.cmp a b c := V.cmp_at a b c oa ob oc

/-- `≤` is transitive. -/
theorem cmp_trans (a b c : V) (oa : a.i64Ok = true) (ob : b.i64Ok = true) (oc : c.i64Ok = true) :
    V.cmp a b ≠ .gt → V.cmp b c ≠ .gt → V.cmp a c ≠ .gt :=
  (V.cmp_at a b c oa ob oc).le_trans

/-- `<` is transitive. -/
theorem cmp_lt_trans (a b c : V) (oa : a.i64Ok = true) (ob : b.i64Ok = true) (oc : c.i64Ok = true) :
    V.cmp a b = .lt → V.cmp b c = .lt → V.cmp a c = .lt :=
  (V.cmp_at a b c oa ob oc).lt_trans

theorem cmp_trans_wf (a b c : V) (wa : a.wf = true) (wb : b.wf = true) (wc : c.wf = true) :
    V.cmp a b ≠ .gt → V.cmp b c ≠ .gt → V.cmp a c ≠ .gt :=
  cmp_trans a b c (V.i64Ok_of_wf a wa) (V.i64Ok_of_wf b wb) (V.i64Ok_of_wf c wc)

theorem cmp_lt_trans_wf (a b c : V) (wa : a.wf = true) (wb : b.wf = true) (wc : c.wf = true) :
    V.cmp a b = .lt → V.cmp b c = .lt → V.cmp a c = .lt :=
  cmp_lt_trans a b c (V.i64Ok_of_wf a wa) (V.i64Ok_of_wf b wb) (V.i64Ok_of_wf c wc)

-- the triple that was intransitive before the fix of compare.go: int64 2^60, double 2^60, the
-- shortest-rendering decimal; and nested arrays differing late and in length
example : i2p60.i64Ok = true ∧ f2p60.i64Ok = true ∧ dShort.i64Ok = true ∧
    V.cmp i2p60 f2p60 ≠ .gt ∧ V.cmp f2p60 dShort ≠ .gt ∧ V.cmp i2p60 dShort = .lt := by
  decide +kernel
example : arrShort.wf = true ∧ arrLong.wf = true ∧ arrLonger.wf = true ∧
    V.cmp arrShort arrLong = .lt ∧ V.cmp arrLong arrLonger = .lt ∧ V.cmp arrShort arrLonger = .lt := by
  decide +kernel
example : V.cmp fNaN (.i32 (-5)) = .lt ∧ V.cmp (.i32 (-5)) dM1 = .lt ∧ V.cmp fNaN dM1 = .lt := by
  decide +kernel

/-- Without `i64Ok` transitivity fails (a strict cycle through an ill-formed "int64" 2^64):
    i64 2^64 < double 2^63 < decimal 2^63+1 < i64 2^64. -/
theorem cmp_trans_needs_i64Ok :
    V.cmp iBad f2p63 = .lt ∧ V.cmp f2p63 d2p63p1 = .lt ∧ V.cmp iBad d2p63p1 = .gt := by
  decide +kernel

/-! ### Congruence: values that compare equal are interchangeable in every comparison -/

theorem cmp_congr (a a' b : V) (oa : a.i64Ok = true) (oa' : a'.i64Ok = true) (ob : b.i64Ok = true) :
    V.cmp a a' = .eq → V.cmp a b = V.cmp a' b :=
  (V.cmp_at a a' b oa oa' ob).congr_l

/-- … also in the right argument. -/
theorem cmp_congr_right (a b b' : V) (oa : a.i64Ok = true) (ob : b.i64Ok = true)
    (ob' : b'.i64Ok = true) : V.cmp b b' = .eq → V.cmp a b = V.cmp a b' :=
  (V.cmp_at a b b' oa ob ob').congr_r

theorem cmp_congr_wf (a a' b : V) (wa : a.wf = true) (wa' : a'.wf = true) (wb : b.wf = true) :
    V.cmp a a' = .eq → V.cmp a b = V.cmp a' b :=
  cmp_congr a a' b (V.i64Ok_of_wf a wa) (V.i64Ok_of_wf a' wa') (V.i64Ok_of_wf b wb)

/-- Equality under `cmp` is an equivalence (symmetric by `cmp_swap`, transitive by `cmp_congr`). -/
theorem cmp_eq_trans (a b c : V) (oa : a.i64Ok = true) (ob : b.i64Ok = true) (oc : c.i64Ok = true) :
    V.cmp a b = .eq → V.cmp b c = .eq → V.cmp a c = .eq := by
  intro h1 h2; rw [cmp_congr a b c oa ob oc h1]; exact h2

example : i2p60.i64Ok = true ∧ f2p60.i64Ok = true ∧ V.cmp i2p60 f2p60 = .eq ∧
    V.cmp i2p60 dShort = .lt ∧ V.cmp f2p60 dShort = .lt ∧
    V.cmp i2p60 i2p60p1 = .lt ∧ V.cmp f2p60 i2p60p1 = .lt := by decide +kernel
example : V.cmp (.arr [.null, i2p60]) (.arr [.missing, d2p60]) = .eq ∧
    V.cmp (.arr [.null, i2p60]) (.arr [.null, f2p60, .null]) = .lt ∧
    V.cmp (.arr [.missing, d2p60]) (.arr [.null, f2p60, .null]) = .lt := by decide +kernel

/-- Without `i64Ok` congruence fails: "int64" 2^64 equals decimal 2^64, yet they disagree on the
    double 2^63. -/
theorem cmp_congr_needs_i64Ok :
    V.cmp iBad d2p64 = .eq ∧ V.cmp iBad f2p63 = .lt ∧ V.cmp d2p64 f2p63 = .gt := by
  decide +kernel

/-! ### `Std` comparator classes on the well-formed values -/

/-- Values whose int64 payloads are in range (every `V.wf` value). -/
abbrev OkV := { v : V // v.i64Ok = true }

/-- `bsonkit.Compare` on the property's domain. -/
def okCmp (a b : OkV) : Ordering := V.cmp a.1 b.1

theorem okCmp_lawful : Lawful okCmp :=
  Lawful.of_at fun a b d => V.cmp_at a.1 b.1 d.1 a.2 b.2 d.2

instance : Std.OrientedCmp okCmp := okCmp_lawful.orientedCmp
instance : Std.TransCmp okCmp := okCmp_lawful.transCmp
instance : Std.ReflCmp okCmp := ⟨fun {a} => V.cmp_refl a.1⟩

end Lungo.C12
