/-
  Lungo.Props.C07 — "At every moment, in every collection, no two documents that fall under a
  unique index (all documents for _id; those matching the partial filter for a partial index)
  share an index key — compared with BSON equality across numeric types, per element for array
  fields, per tuple for compound keys — regardless of the sequence of inserts, updates, replaces,
  upserts, bulk writes, index creations … that led there. A write or index build that would create
  such a pair is rejected with a uniqueness error, and a write that would not is never rejected
  for uniqueness."

  Subject: Lungo/Model/{Collection,Txn,Api}.lean. Definitions (Lungo/Spec/IndexSpec.lean):
    `Unique sch c`   — for every unique index `i` of `c`, any two DISTINCT stored documents that both
                       belong to `i` have no pair of key tuples with `tupleEq` (componentwise
                       `V.cmp = .eq`; tuples = Cartesian product over the columns of the expanded
                       values, `tuples`).
    `UniqueOk sch c` — the same, restricted to documents with `DocOk` (all int64 payloads in the int64
                       range — true of every Go value; the model stores them as unbounded `Int`).
    `Collides sch c d` — some unique index `i` of `c` that `d` belongs to has a stored belonging
                       document with a key tuple `tupleEq` to one of `d`'s.

  Why `DocOk`: "existing key ≈ k ≈ new key ⇒ existing ≈ new" needs transitivity of `V.cmp = .eq`,
  which C12 proves exactly on `V.i64Ok` values (`tupleEq_trans`). `UniqueOk` is preserved by every
  transition with NO side condition; with `DocsOk` it is `Unique` (`unique_of_uniqueOk`).
  Coherence (C15) is needed because the uniqueness check consults the index, not the documents.

  `.dup` is the model's uniqueness error class (lungo.IsUniquenessError). A partial-filter
  evaluation may itself fail (`Match` error, or any error an arbitrary `$jsonSchema` evaluator
  `sch` returns) — then the write fails with that error and nothing is claimed; the rejection
  theorems therefore assume `FiltersTotal` (the filters evaluate on the new document) where needed.
-/
import Lungo.Proofs.IndexMgmt
import Lungo.Tests.IndexFixtures
namespace Lungo.C07
open Lungo

variable {sch : SchemaEval}

/-! ### `tupleEq` is an equivalence on well-formed tuples (from the C12 laws) -/

theorem tupleEq_refl (t : List V) : tupleEq t t = true := Lungo.tupleEq_refl t
theorem tupleEq_symm (a b : List V) : tupleEq a b = tupleEq b a := Lungo.tupleEq_symm a b
theorem tupleEq_trans (a b c : List V) (oa : TupOk a) (ob : TupOk b) (oc : TupOk c) :
    tupleEq a b = true → tupleEq b c = true → tupleEq a c = true := Lungo.tupleEq_trans a b c oa ob oc
/-- key tuples of a well-formed document are well-formed (`All`/`get` only return parts of it) -/
theorem tuples_ok (cols : List Column) (d : Doc) (h : DocOk d) : ∀ t ∈ tuples cols d, TupOk t :=
  Lungo.tuples_ok cols d h

/-! ### `UniqueOk` vs `Unique` -/

theorem uniqueOk_of_unique {c : Coll} (h : Unique sch c) : UniqueOk sch c := .of_unique h
theorem unique_of_uniqueOk {c : Coll} (h : UniqueOk sch c) (hok : DocsOk c.docs) : Unique sch c := h.unique hok

/-- `_id`: the `_id_` index is unique, without partial filter, on column `_id` — so in a coherent
    collection with `_id_` present and `Unique`, no two distinct documents have `tupleEq` `_id` tuples -/
theorem id_unique {c : Coll} (hu : Unique sch c) (hc : Coherent sch c) (hp : IdIndexPresent c)
    {x y : SDoc} (hx : x ∈ c.docs) (hy : y ∈ c.docs) (hne : x ≠ y) :
    ∀ t1 ∈ tuples [{ path := "_id", reverse := false }] x.doc,
    ∀ t2 ∈ tuples [{ path := "_id", reverse := false }] y.doc, tupleEq t1 t2 = false := by
  obtain ⟨i, hm, hcfg⟩ := hp
  have hcols : i.columns = [{ path := "_id", reverse := false }] := by
    have := (hc.2 "_id_" i hm).cols
    rw [hcfg, idIndex_cols] at this
    simp only [Except.ok.injEq] at this
    exact this.symm
  have := hu "_id_" i hm (by rw [hcfg]; rfl) x y hx hy hne (idIndex_belongs hcfg _) (idIndex_belongs hcfg _)
  rw [hcols] at this
  exact this

/-! ### `unique_step`: every collection method preserves uniqueness -/

theorem unique_new (b : Bool) : Unique sch (newColl b) := .new b

theorem uniqueOk_insert {c c' : Coll} {d : Doc} {nu nu' : Nu} {sd : SDoc}
    (hc : Coherent sch c) (hu : UniqueOk sch c)
    (h : c.insert sch d nu = .ok (c', sd, nu')) : UniqueOk sch c' := hu.insert hc h

theorem unique_insert {c c' : Coll} {d : Doc} {nu nu' : Nu} {sd : SDoc}
    (hc : Coherent sch c) (hu : Unique sch c) (hok' : DocsOk c'.docs)
    (h : c.insert sch d nu = .ok (c', sd, nu')) : Unique sch c' := hu.insert hc hok' h

theorem uniqueOk_replace {c : Coll} {q repl : Doc} {sort : Option Doc} {nu nu' : Nu} {res : CResult}
    (hc : Coherent sch c) (hu : UniqueOk sch c)
    (h : c.replace sch q repl sort nu = .ok (res, nu')) : UniqueOk sch res.coll := hu.replace hc h

theorem unique_replace {c : Coll} {q repl : Doc} {sort : Option Doc} {nu nu' : Nu} {res : CResult}
    (hc : Coherent sch c) (hu : Unique sch c) (hok' : DocsOk res.coll.docs)
    (h : c.replace sch q repl sort nu = .ok (res, nu')) : Unique sch res.coll := hu.replace hc hok' h

theorem uniqueOk_update {ac : ACtx} {c : Coll} {q u : Doc} {sort : Option Doc} {skip limit : Int}
    {filters : List Doc} {nu nu' : Nu} {res : CResult}
    (hc : Coherent ac.sch c) (hb : IdsBelow c.docs nu.nextId) (hu : UniqueOk ac.sch c)
    (h : c.update ac q u sort skip limit filters nu = .ok (res, nu')) : UniqueOk ac.sch res.coll :=
  hu.update hc hb h

/-- multi-update (remove all, then add all) -/
theorem unique_update {ac : ACtx} {c : Coll} {q u : Doc} {sort : Option Doc} {skip limit : Int}
    {filters : List Doc} {nu nu' : Nu} {res : CResult}
    (hc : Coherent ac.sch c) (hb : IdsBelow c.docs nu.nextId) (hu : Unique ac.sch c)
    (hok' : DocsOk res.coll.docs)
    (h : c.update ac q u sort skip limit filters nu = .ok (res, nu')) : Unique ac.sch res.coll :=
  hu.update hc hb hok' h

theorem uniqueOk_upsert {ac : ACtx} {c c' : Coll} {q : Doc} {repl update : Option Doc}
    {filters : List Doc} {nu nu' : Nu} {sd : SDoc} (hc : Coherent ac.sch c) (hu : UniqueOk ac.sch c)
    (h : c.upsert ac q repl update filters nu = .ok (c', sd, nu')) : UniqueOk ac.sch c' := by
  obtain ⟨doc, h⟩ := upsert_spec h
  exact hu.insert hc h

theorem unique_upsert {ac : ACtx} {c c' : Coll} {q : Doc} {repl update : Option Doc}
    {filters : List Doc} {nu nu' : Nu} {sd : SDoc} (hc : Coherent ac.sch c) (hu : Unique ac.sch c)
    (hok' : DocsOk c'.docs)
    (h : c.upsert ac q repl update filters nu = .ok (c', sd, nu')) : Unique ac.sch c' :=
  (uniqueOk_upsert hc (.of_unique hu) h).unique hok'

theorem unique_delete {c c' : Coll} {q : Doc} {sort : Option Doc} {skip limit : Int} {list : List SDoc}
    (hu : Unique sch c) (h : c.delete sch q sort skip limit = .ok (c', list)) : Unique sch c' := hu.delete h

theorem uniqueOk_delete {c c' : Coll} {q : Doc} {sort : Option Doc} {skip limit : Int} {list : List SDoc}
    (hu : UniqueOk sch c) (h : c.delete sch q sort skip limit = .ok (c', list)) : UniqueOk sch c' := hu.delete h

/-- index build: a successfully built unique index has no two documents with a common key -/
theorem unique_createIndex {c c' : Coll} {name name' : String} {config : IndexConfig}
    (hc : Coherent sch c) (hu : Unique sch c) (hok : DocsOk c.docs)
    (h : c.createIndex sch name config = .ok (c', name')) : Unique sch c' := hu.createIndex hc hok h

theorem uniqueOk_createIndex {c c' : Coll} {name name' : String} {config : IndexConfig}
    (hc : Coherent sch c) (hu : UniqueOk sch c)
    (h : c.createIndex sch name config = .ok (c', name')) : UniqueOk sch c' := hu.createIndex hc h

theorem unique_dropIndex {c c' : Coll} {name : String} {dropped : List String}
    (hu : Unique sch c) (h : c.dropIndex name = .ok (c', dropped)) : Unique sch c' := hu.dropIndex h

/-! ### Catalog level: uniqueness in every reachable state -/

/-- each driver call preserves (C15 invariant ∧ uniqueness among well-formed documents) -/
theorem unique_step {s s' : Sys} {c : Call} {oids : List V} {r : Reply}
    (hi : SysInv sch s) (hu : UniqueOkCat sch s.catalog)
    (e : Sys.step sch s c oids = .ok (s', r)) : SysInv sch s' ∧ UniqueOkCat sch s'.catalog :=
  let g := SysGood.step (uq := true) ⟨hi, fun _ => hu⟩ e; ⟨g.1, g.2 rfl⟩

/-- the same for one call on any transaction (plain or inside a session) -/
theorem unique_runCall {t t' : Txn} {nu nu' : Nu} {c : Call} {r : Reply}
    (hi : Inv sch t.catalog nu.nextId) (hu : UniqueOkCat sch t.catalog)
    (e : runCall sch t nu c = .ok (t', nu', r)) : UniqueOkCat sch t'.catalog :=
  (Good.runCall (uq := true) ⟨hi, fun _ => hu⟩ e).1.2 rfl

/-- session level: uniqueness (among well-formed documents) of the committed catalog and of every
    open session transaction is preserved by every session-level step -/
theorem unique_sstep {s : SSys} (g : SGood sch true s) (c : SCall) : SGood sch true (s.step sch c).1 :=
  g.step c

theorem unique_sinit : SGood sch true SSys.init := SGood.init

/-- after ANY history of driver calls from the empty database: no unique index has two distinct
    well-formed documents with a common key -/
theorem uniqueOk_run (calls : List (Call × List V)) :
    UniqueOkCat sch (Sys.run sch Sys.init calls).catalog :=
  ((SysGood.init (uq := true)).run calls).2 rfl

/-- … hence, all stored documents being Go values (`OkCat`), C07 proper -/
theorem unique_run (calls : List (Call × List V)) (hok : OkCat (Sys.run sch Sys.init calls).catalog) :
    UniqueCat sch (Sys.run sch Sys.init calls).catalog :=
  fun h c hm => (uniqueOk_run calls h c hm).unique (hok h c hm)

/-- bulk writes / insertMany / transactions of several operations, at the transaction level -/
theorem unique_txn_bulk {ac : ACtx} {t t' : Txn} {h : Handle} {ops : List Operation} {ordered : Bool}
    {nu nu' : Nu} {rs : List TResult} (hi : Inv ac.sch t.catalog nu.nextId)
    (hu : UniqueOkCat ac.sch t.catalog) (e : t.bulk ac h ops ordered nu = .ok (t', rs, nu')) :
    UniqueOkCat ac.sch t'.catalog :=
  ((Txn.bulk_steps (strict := False) e).good (uq := true) ⟨hi, fun _ => hu⟩).1.2 rfl

theorem unique_txn_insert {t t' : Txn} {h : Handle} {list : List Doc} {ordered : Bool} {nu nu' : Nu}
    {r : TResult} (hi : Inv sch t.catalog nu.nextId) (hu : UniqueOkCat sch t.catalog)
    (e : t.insert sch h list ordered nu = .ok (t', r, nu')) : UniqueOkCat sch t'.catalog :=
  ((Txn.insert_steps (ac := acOf sch) (strict := False) e).good (uq := true) ⟨hi, fun _ => hu⟩).1.2 rfl

/-! ### Rejections: `.dup` exactly when the would-be result has a colliding pair -/

/-- `reject_sound`: an insert rejected for uniqueness really collides — the new document (after
    `_id` generation) belongs to some unique index under which a stored belonging document has an
    equal key tuple. ("Already a member" cannot happen: identities are fresh.) -/
theorem reject_sound {c : Coll} {d d' : Doc} {nu nu1 : Nu}
    (hc : Coherent sch c) (hb : IdsBelow c.docs nu.nextId) (he : ensureId d nu = .ok (d', nu1))
    (hne : ∀ n i, (n, i) ∈ c.indexes → partialMatches sch i d' ≠ .error .dup)
    (h : c.insert sch d nu = .error .dup) : Collides sch c d' := by
  rw [insert_unfold he] at h
  split at h
  · rename_i e ha
    cases h
    exact addToIndexes_dup_collides (sd := ⟨nu.nextId, d'⟩) (fun x hx => hb.fresh x hx) hc.2 hne ha
  · cases h

/-- `no_spurious_dup`: without a collision the insert is never rejected for uniqueness … -/
theorem no_spurious_dup {c : Coll} {d d' : Doc} {nu nu1 : Nu}
    (hc : Coherent sch c) (hb : IdsBelow c.docs nu.nextId) (he : ensureId d nu = .ok (d', nu1))
    (hne : ∀ n i, (n, i) ∈ c.indexes → partialMatches sch i d' ≠ .error .dup)
    (hno : ¬ Collides sch c d') : c.insert sch d nu ≠ .error .dup :=
  fun h => hno (reject_sound hc hb he hne h)

/-- … and, the partial filters being evaluable on it, it is accepted. -/
theorem insert_accepted {c : Coll} {d d' : Doc} {nu nu1 : Nu}
    (hc : Coherent sch c) (hb : IdsBelow c.docs nu.nextId) (he : ensureId d nu = .ok (d', nu1))
    (htot : FiltersTotal sch c d') (hno : ¬ Collides sch c d') : ∃ r, c.insert sch d nu = .ok r := by
  obtain ⟨idx', ha⟩ := addToIndexes_ok_of_not_collides (sd := ⟨nu.nextId, d'⟩) hc.2
    (fun x hx => hb.fresh x hx) htot (fun n i hm hcol => hno ⟨n, i, hm, hcol⟩)
  rw [insert_unfold he]
  simp only [ha]
  exact ⟨_, rfl⟩

/-- `reject_complete`: an insert that would create a colliding pair is rejected with `.dup`. -/
theorem reject_complete {c : Coll} {d d' : Doc} {nu nu1 : Nu}
    (hc : Coherent sch c) (he : ensureId d nu = .ok (d', nu1))
    (hok : DocsOk c.docs) (hd : DocOk d') (htot : FiltersTotal sch c d') (hcol : Collides sch c d') :
    c.insert sch d nu = .error .dup := by
  have := addToIndexes_dup_of_collides (sd := ⟨nu.nextId, d'⟩) hc.2 (idInj_of_distinct hc.1) hok hd htot hcol
  rw [insert_unfold he]
  simp only [this]

/-- `update_swap_ok`: a multi-update is accepted whenever each NEW document is collision-free with
    the untouched documents and with the other new documents — whatever the OLD documents were
    (e.g. two documents swapping their unique keys). Stated from the point where the matched
    documents `list` and their successors `news` are computed and the `_id`s are unchanged. -/
theorem update_swap_ok {ac : ACtx} {c : Coll} {q u : Doc} {sort : Option Doc}
    {skip limit : Int} {filters : List Doc} {nu nu' : Nu} {list : List SDoc}
    {news : List (SDoc × List (String × V))}
    (hc : Coherent ac.sch c) (hb : IdsBelow c.docs nu.nextId)
    (hsel : selectDocs ac.sch c q sort skip limit = .ok list)
    (hap : Coll.update.applyAll ac u filters nu list = .ok (news, nu'))
    (hid : (list.zip news).any (fun p => !sameId (Get p.2.1.doc "_id") (Get p.1.doc "_id")) = false)
    (htot : ∀ nd ∈ news.map (·.1), FiltersTotal ac.sch c nd.doc)
    (hno : ∀ nd ∈ news.map (·.1), ∀ n i, (n, i) ∈ c.indexes →
      ¬ CollidesAt ac.sch (fun x => (x ∈ c.docs ∧ ∀ o ∈ list, x.id ≠ o.id) ∨
          (x ∈ news.map (·.1) ∧ x ≠ nd)) i nd.doc) :
    ∃ res, c.update ac q u sort skip limit filters nu = .ok (res, nu') := by
  have hinj := selectDocs_inj hsel hc.1
  obtain ⟨idx1, hrem⟩ := foldIdx_remove_ok hc.2 (selectDocs_mem hsel) (selectDocs_distinct hsel hc.1) hinj
  have c1 := foldIdx_remove_coherent hc.2 hinj hrem
  -- the indexes after the removals have the definitions they had before
  have hsh := foldIdx_remove_shape hrem
  obtain ⟨idx2, hadd⟩ := foldIdx_add_ok (list := news.map (·.1)) c1 (update_fresh hb (fun x hx => hx.1) hap)
    (fun nd hnd' n i1 hm => by
      obtain ⟨i, hi, hcfg⟩ := shape_mem hsh n i1 hm
      rw [partialMatches_config hcfg]
      exact htot nd hnd' n i hi)
    (fun nd hnd' n i1 hm hcol => by
      obtain ⟨i, hi, hcfg⟩ := shape_mem hsh n i1 hm
      exact hno nd hnd' n i hi
        (hcol.mono (fun x hx => hx) hcfg (columns_of_config (hc.2 n i hi) (c1 n i1 hm) hcfg)))
  rw [Coll.update_eq]
  simp only [hsel, hap, hid, hrem, hadd, bind, Except.bind, pure, Except.pure, Bool.false_eq_true, ↓reduceIte]
  exact ⟨_, rfl⟩

/-! ### TESTS (compiler-evaluated `#guard`s on concrete collections — non-vacuity, not theorems) -/
section Tests
open Lungo.IndexFixtures

-- BSON equality across numeric types and per array element: double 3.0 collides with the element
-- int32 3 of the multikey document; int64 1 collides with `_id` int32 1
#guard isDup (insertInto demo [("_id", .i32 3), ("a", f3)])
#guard isDup (insertInto demo [("_id", .i64 1), ("a", .i32 9)])
#guard isDup (insertInto demo [("_id", .i32 3), ("a", .arr [.i32 7, .i64 2])])
-- no collision: accepted
#guard okAnd (insertInto demo [("_id", .i32 3), ("a", .i32 4)]) fun (c, _) => c.docs.length == 3
-- missing `a` indexes as null: one such document is fine, the second collides (null ≈ missing)
#guard okAnd (insertInto demo [("_id", .i32 3)]) fun _ => true
#guard isDup (insertInto (insertInto demo [("_id", .i32 3)]) [("_id", .i32 4), ("a", .null)])
-- swapping two unique keys in ONE multi-update succeeds (remove all, then add all) …
#guard okAnd (updateIn demoSwap [] [("$mul", .doc [("a", .i32 (-1))])]) fun (c, _) =>
  fieldOf c "a" == [(2, .i32 (-1)), (3, .i32 1)] && entriesOf c "a_1" == 2
-- … while moving one document onto the other's key is rejected
#guard isDup (updateIn demoSwap [("_id", .i32 1)] [("$set", .doc [("a", .i32 (-1))])])
#guard isDup (replaceIn demo [("_id", .i32 2)] [("a", .i32 1)])
-- index build over colliding documents (int32 5 / int64 5) is rejected
#guard isDup (createIn (insertInto (insertInto demoSwap [("_id", .i32 3), ("a", .i32 5), ("b", .i32 5)])
    [("_id", .i32 4), ("a", .i32 6), ("b", .i64 5)]) "" cfgB)
-- partial unique index: `b = 0` is outside the filter, so two such documents coexist;
-- inside the filter int32 3 and double 3.0 collide
#guard okAnd (insertInto (insertInto demoPartial [("_id", .i32 3), ("a", .i32 7), ("b", .i32 0)])
    [("_id", .i32 4), ("a", .i32 8), ("b", .i32 0)]) fun (c, _) => c.docs.length == 4
#guard isDup (insertInto (insertInto demoPartial [("_id", .i32 3), ("a", .i32 7), ("b", .i32 3)])
    [("_id", .i32 4), ("a", .i32 8), ("b", f3)])
-- compound key: per tuple — (1, 2) and (1, 3) coexist, a second (1, 2.0) does not
#guard okAnd (insertInto (insertInto (createIn (dropIn demoSwap "a_1") "" cfgAB)
    [("_id", .i32 3), ("a", .i32 1), ("b", .i32 2)]) [("_id", .i32 4), ("a", .i32 1), ("b", .i32 3)])
  fun (c, _) => entriesOf c "a_1_b_-1" == 4
#guard isDup (insertInto (insertInto (createIn (dropIn demoSwap "a_1") "" cfgAB)
    [("_id", .i32 3), ("a", .i32 1), ("b", .i32 2)]) [("_id", .i32 4), ("a", .i64 1), ("b", .i64 2)])

end Tests

end Lungo.C07
