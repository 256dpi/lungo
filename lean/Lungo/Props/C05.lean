/-
  Lungo.Props.C05 — Committed data survives crashes: the store file is always old or new, never torn.

  Model: `Lungo.FS` (POSIX-style crash model) and `Lungo.AtomicWrite` (interpreter of the step list).
  All theorems are about `interp… Expected.atomicWriteSteps` — the list the translator re-derives
  from /repo/dbkit/atomic.go on every run (`tie_atomicWrite`).

  Quantifiers: every state in which `path` durably holds `old` (`old : Option Bytes`, `none` = no file),
  with arbitrary other content (stale temp file, pending directory operations on other names, open
  descriptors); every content `new` and every split of it into write calls; every fault plan `f`
  (which system calls fail, and how far a failing write got); every cut `k`; every crash outcome.
-/
import Lungo.Proofs.AtomicWritePhases
import Lungo.Proofs.AtomicSearchExpected
import Lungo.Model.CommitStore
namespace Lungo.C05
open Lungo.FS Lungo.AtomicWrite

abbrev prog : List Step := Expected.atomicWriteSteps

/-- `path` durably holds `old`: the durable and the volatile directory and every pending directory
    operation give `path` a fully synced inode with content `old` (or no inode if `old = none`) -/
def DurablyHolds (s : State) (path : Name) (old : Option Bytes) : Prop :=
  WF s ∧ PathInv s path (· = old)

theorem interpUpTo_eq (path tmp : Name) (chunks : List Bytes) (f : Faults) (k : Nat) (s : State) :
    interpUpTo prog path tmp chunks f k s =
      runUpTo path tmp f C2 k (iRemove :: iCreate :: (chunks.map iWrite ++ tail5)) (initM s) 0 := rfl

theorem bound_eq (chunks : List Bytes) : bound prog chunks = chunks.length + 10 := by
  simp [bound, prog, compile_expected, tail5, C2]

/-- with `master`: every run of the program, under any fault plan, has returned after `chunks.length + 10` system calls -/
theorem master_done (path tmp : Name) (chunks : List Bytes) (f : Faults) (s : State) {k : Nat}
    (hk : chunks.length + 10 ≤ k) : (interpUpTo prog path tmp chunks f k s).2 = true :=
  interpUpTo_done prog path tmp chunks f s (bound_eq chunks ▸ hk)

section
variable {path tmp : Name} (hne : tmp ≠ path) {s : State} {old : Option Bytes} {new : Bytes} {chunks : List Bytes}
  (hc : chunks.flatten = new) (f : Faults)
include hne hc

/-- the phase analysis instantiated at the whole program -/
theorem master {A₀ : Option Bytes → Prop} (hw : WF s) (hp : PathInv s path A₀) :
    Tri (fun k => interpUpTo prog path tmp chunks f k s)
      (fun m => Base m.fs path (fun x => A₀ x ∨ x = some new))
      (Post path tmp f A₀ new (f 0 = none) 0 (chunks.length + 7) (chunks.length + 5)) := by
  simp only [interpUpTo_eq]
  exact phase_remove (A := fun x => A₀ x ∨ x = some new) (f := f) hne (fun _ h => Or.inl h) (Or.inr rfl) chunks (initM s) 0 ⟨hw, hp⟩ rfl hc

/-- the state after the first `k` system calls satisfies the old-or-new invariant -/
theorem cut_base (hd : DurablyHolds s path old) (k : Nat) :
    Base (interpUpTo prog path tmp chunks f k s).1.fs path (fun x => x = old ∨ x = some new) :=
  (master hne hc f hd.1 hd.2 k).1

/-- **crash_old_or_new.** Power loss after ANY number `k` of system calls of the commit's file write,
    under ANY fault plan: the file loads as exactly the old or exactly the new content. -/
theorem crash_old_or_new (hd : DurablyHolds s path old) (k : Nat) (s' : State)
    (hcr : Crash (interpUpTo prog path tmp chunks f k s).1.fs s') :
    load s' path = old ∨ load s' path = some new :=
  (cut_base hne hc f hd k).inv.crash_load hcr

/-- **kill_old_or_new.** Process death (no data loss) after any number of system calls. -/
theorem kill_old_or_new (hd : DurablyHolds s path old) (k : Nat) :
    load (kill (interpUpTo prog path tmp chunks f k s).1.fs) path = old ∨
    load (kill (interpUpTo prog path tmp chunks f k s).1.fs) path = some new :=
  (kill_preserves (cut_base hne hc f hd k).wf (cut_base hne hc f hd k).inv).2.load_ok

/-- the complete run satisfies the post-condition -/
theorem run_post {A₀ : Option Bytes → Prop} (hw : WF s) (hp : PathInv s path A₀) :
    Base (interp prog path tmp chunks f s).fs path (fun x => A₀ x ∨ x = some new) ∧
    Post path tmp f A₀ new (f 0 = none) 0 (chunks.length + 7) (chunks.length + 5) (interp prog path tmp chunks f s) := by
  have t := master hne hc f hw hp (bound prog chunks)
  unfold interp
  exact ⟨t.1, t.2 (interpUpTo_done prog path tmp chunks f s (Nat.le_refl _))⟩

/-- **durable_after_return.** If AtomicWriteFile returned nil (whatever faults hit ignored calls),
    then after ANY crash the file loads as exactly the new content; the temp name is gone. -/
theorem durable_after_return (hd : DurablyHolds s path old)
    (hret : (interp prog path tmp chunks f s).err = false) (s' : State)
    (hcr : Crash (interp prog path tmp chunks f s).fs s') :
    load s' path = some new :=
  ((run_post hne hc f hd.1 hd.2).2.ok hret).1.crash_load hcr

/-- no fault, no error: a fault-free run returns nil (so by `durable_after_return` the new content is durable) -/
theorem clean_run_ok {A₀ : Option Bytes → Prop} (hw : WF s) (hp : PathInv s path A₀) :
    (interp prog path tmp chunks noFaults s).err = false ∧
    DurablyHolds (interp prog path tmp chunks noFaults s).fs path (some new) ∧
    (interp prog path tmp chunks noFaults s).fs.vdir tmp = none := by
  have r := run_post hne hc noFaults hw hp
  have he := r.2.clean (fun _ _ => rfl)
  exact ⟨he, ⟨r.1.wf, (r.2.ok he).1⟩, (r.2.ok he).2⟩

/-- **fault_reports** (general form). If the first faulted call `j` is one of the main-line calls
    (`j < chunks.length + 7`: remove, create, writes, fsync, close, rename, open dir, fsync dir):
    * the function returns an error;
    * after any crash, and in the volatile state, `path` holds old or new — and exactly OLD if the
      fault hit at or before the rename (`j < chunks.length + 5`); a failure of open-dir / dir-sync
      returns an error although `path` already shows the new content;
    * with no second fault the temp file is removed (unless the very first `Remove` was the faulted call);
    * the state again satisfies the invariants, so a following run works (`rerun_after_fault`). -/
theorem fault_reports (hd : DurablyHolds s path old) (j : Nat) (hj : FirstFault f 0 j) (hlt : j < chunks.length + 7) :
    let m := interp prog path tmp chunks f s
    m.err = true ∧
    (load m.fs path = old ∨ load m.fs path = some new) ∧
    (∀ s', Crash m.fs s' → load s' path = old ∨ load s' path = some new) ∧
    (j < chunks.length + 5 → load m.fs path = old ∧ ∀ s', Crash m.fs s' → load s' path = old) ∧
    (AtMostOne f → j ≠ 0 → m.fs.vdir tmp = none) := by
  have r := run_post hne hc f hd.1 hd.2
  have hf := r.2.fault j hj (by omega)
  refine ⟨hf.1, r.1.inv.load_ok, fun s' h => r.1.inv.crash_load h, fun h5 => ?_, fun hamo hj0 => r.2.gone hamo ?_⟩
  · have := hf.2 (by omega)
    exact ⟨this.load_ok, fun s' h => this.crash_load h⟩
  · -- a fault at call 0 would be the only one, so `j = 0`
    cases h0 : f 0 with
    | none => rfl
    | some x => exact absurd (hamo 0 j (by rw [h0]; nofun) hj.2.1).symm hj0

/-- single-fault instance of `fault_reports`: exactly the `j`-th system call fails -/
theorem fault_reports_single (hd : DurablyHolds s path old) (j x : Nat) (hlt : j < chunks.length + 7) :
    let m := interp prog path tmp chunks (singleFault j (some x)) s
    m.err = true ∧
    (∀ s', Crash m.fs s' → load s' path = old ∨ load s' path = some new) ∧
    (j < chunks.length + 5 → load m.fs path = old ∧ ∀ s', Crash m.fs s' → load s' path = old) ∧
    (j ≠ 0 → m.fs.vdir tmp = none) := by
  have r := fault_reports hne hc _ hd j (singleFault_first j x) hlt
  exact ⟨r.1, r.2.2.1, r.2.2.2.1, r.2.2.2.2 (singleFault_atMostOne j _)⟩

omit hc in
/-- **rerun_after_fault.** After a run that ended with ANY faults (no crash), a following fault-free
    run with content `new'` returns nil, makes `new'` durable and leaves no temp file. -/
theorem rerun_after_fault (hd : DurablyHolds s path old) {new' : Bytes} {chunks' : List Bytes}
    (hc' : chunks'.flatten = new') :
    let s1 := (interp prog path tmp chunks f s).fs
    (interp prog path tmp chunks' noFaults s1).err = false ∧
    (∀ s', Crash (interp prog path tmp chunks' noFaults s1).fs s' → load s' path = some new') ∧
    (interp prog path tmp chunks' noFaults s1).fs.vdir tmp = none := by
  have r := run_post hne (new := chunks.flatten) rfl f hd.1 hd.2
  have c := clean_run_ok hne hc' r.1.wf r.1.inv
  exact ⟨c.1, fun s' h => c.2.1.2.crash_load h, c.2.2⟩

omit hc in
/-- **rerun_after_crash.** From ANY post-crash state of a run cut at ANY point, a complete fault-free
    run with content `new'` returns nil and `new'` is durable (the stale temp is handled by the initial remove). -/
theorem rerun_after_crash (hd : DurablyHolds s path old) (k : Nat) (s' : State)
    (hcr : Crash (interpUpTo prog path tmp chunks f k s).1.fs s') {new' : Bytes} {chunks' : List Bytes}
    (hc' : chunks'.flatten = new') :
    (interp prog path tmp chunks' noFaults s').err = false ∧
    (∀ s'', Crash (interp prog path tmp chunks' noFaults s').fs s'' → load s'' path = some new') ∧
    load (interp prog path tmp chunks' noFaults s').fs path = some new' := by
  have b := cut_base hne (new := chunks.flatten) rfl f hd k
  have p := crash_preserves b.wf b.inv hcr
  have c := clean_run_ok hne hc' p.1 p.2
  exact ⟨c.1, fun s'' h => c.2.1.2.crash_load h, c.2.1.2.load_ok⟩

end

/-! ### Engine level: what clients see is what the store accepted -/

open Lungo.CommitStore in
/-- invariant of the store-then-publish skeleton -/
def EngInv {C : Type} (e : Engine C) : Prop := e.catalog = e.accepted ∧ e.token = e.txn.isSome

open Lungo.CommitStore in
theorem step_inv {C : Type} (e : Engine C) (op : Op C) (h : EngInv e) : EngInv (step e op).1 := by
  -- with the invariant put into the state, `step` computes in every case
  obtain ⟨cat, acc, file, txn, token⟩ := e
  have ⟨(h1 : cat = acc), (h2 : token = txn.isSome)⟩ := h
  subst h1 h2
  cases txn with
  | none => cases op <;> exact ⟨rfl, rfl⟩
  | some t =>
    obtain ⟨c, dirty⟩ := t
    cases op with
    | commit r => cases dirty <;> cases r <;> exact ⟨rfl, rfl⟩
    | _ => exact ⟨rfl, rfl⟩

open Lungo.CommitStore in
/-- **visible_le_durable.** Over ANY sequence of begin/write/commit/abort with ANY store outcomes
    (accepted, failed, failed-after-rename, panicked): the catalog visible to clients is the last
    catalog the store accepted, and the token is held exactly while a transaction is active. -/
theorem visible_le_durable {C : Type} (c0 : C) (ops : List (Op C)) :
    (run (init c0) ops).catalog = (run (init c0) ops).accepted ∧
    (run (init c0) ops).token = (run (init c0) ops).txn.isSome := by
  suffices ∀ e : Engine C, EngInv e → EngInv (run e ops) from this (init c0) ⟨rfl, rfl⟩
  induction ops with
  | nil => exact fun e h => h
  | cons op ops ih => exact fun e h => ih _ (step_inv e op h)

open Lungo.CommitStore in
/-- a failing (or panicking) store: the error is reported, the visible catalog is unchanged, the token is
    released and the transaction cleared; a later begin/write/commit with an accepting store publishes. -/
theorem store_failure_recovers {C : Type} (e : Engine C) (t : Txn C) (ht : e.txn = some t)
    (hdirty : t.dirty = true) (r : StoreRes) (hr : r ≠ .ok) (c : C) :
    let e1 := (step e (.commit r)).1
    (step e (.commit r)).2 ≠ .ok ∧ e1.catalog = e.catalog ∧ e1.accepted = e.accepted ∧ e1.token = false ∧ e1.txn = none ∧
    (run e1 [.begin, .write c, .commit .ok]).catalog = c ∧ (run e1 [.begin, .write c, .commit .ok]).accepted = c ∧
    (run e1 [.begin, .write c, .commit .ok]).file = c ∧ (run e1 [.begin, .write c, .commit .ok]).token = false := by
  cases r with
  | ok => exact absurd rfl hr
  | fail => simp [step, run, ht, hdirty]
  | failWritten => simp [step, run, ht, hdirty]
  | panic => simp [step, run, ht, hdirty]

/-! ### Non-vacuity (concrete bytes) -/

/-- `path` = name 0 durably holds [1,2,3] in inode 0; a stale `.tmp` = name 1 ↦ inode 1 with
    half-synced garbage; allocation counter 2 -/
def exS : State :=
  { ino := fun i => if i = 0 then ⟨[1, 2, 3], []⟩ else if i = 1 then ⟨[9], [9, 9]⟩ else ⟨[], []⟩,
    next := 2,
    vdir := fun n => if n = 0 then some 0 else if n = 1 then some 1 else none,
    ddir := fun n => if n = 0 then some 0 else if n = 1 then some 1 else none,
    pending := [], fds := [] }

def exOld : Bytes := [1, 2, 3]
def exNew : Bytes := [4, 5, 6, 7]
def exChunks : List Bytes := [[4, 5], [6, 7]]

/-- the hypotheses of all C05 theorems are met by a concrete state with a stale temp file -/
theorem exS_holds : DurablyHolds exS 0 (some exOld) := by
  have hino : ∀ n i, exS.vdir n = some i → i < 2
    | 0, i, h => by cases h; decide
    | 1, i, h => by cases h; decide
    | n + 2, i, h => nomatch h
  exact ⟨⟨hino, hino, fun _ h => absurd h List.not_mem_nil⟩,
    ⟨⟨exOld, rfl, rfl⟩, ⟨exOld, rfl, rfl⟩, fun _ h => absurd h List.not_mem_nil⟩⟩

example : (1 : Name) ≠ 0 ∧ exChunks.flatten = exNew := by decide

/-- both outcomes occur: cut after the rename (7 calls: remove, create, 2 writes, fsync, close, rename),
    crash dropping every pending directory operation → old; crash keeping them → new -/
example : load (crashImage (interpUpTo prog 0 1 exChunks noFaults 7 exS).1.fs [] (fun _ => [])) 0 = some exOld := by decide
example : load (crashImage (interpUpTo prog 0 1 exChunks noFaults 7 exS).1.fs [true, true, true] (fun _ => [])) 0 = some exNew := by decide
/-- cut in the middle of the writes, crash with garbage in the temp inode: path still old, temp torn -/
example : load (crashImage (interpUpTo prog 0 1 exChunks noFaults 3 exS).1.fs [true, true] (fun _ => [0xEE, 0xEE])) 0 = some exOld ∧
          load (crashImage (interpUpTo prog 0 1 exChunks noFaults 3 exS).1.fs [true, true] (fun _ => [0xEE, 0xEE])) 1 = some [0xEE, 0xEE] := by decide
/-- a complete fault-free run returns nil, and the instance of `crash_old_or_new` / `durable_after_return` -/
example : (interp prog 0 1 exChunks noFaults exS).err = false := by decide
example (f : Faults) (k : Nat) (s' : State) (h : Crash (interpUpTo prog 0 1 exChunks f k exS).1.fs s') :
    load s' 0 = some exOld ∨ load s' 0 = some exNew :=
  crash_old_or_new (by decide) (by decide) f exS_holds k s' h
example (s' : State) (h : Crash (interp prog 0 1 exChunks noFaults exS).fs s') : load s' 0 = some exNew :=
  durable_after_return (by decide) (by decide) noFaults exS_holds (by decide) s' h
/-- a failing directory sync (call 8) returns an error although `path` already shows the new content -/
example : (interp prog 0 1 exChunks (singleFault 8 (some 0)) exS).err = true ∧
          load (interp prog 0 1 exChunks (singleFault 8 (some 0)) exS).fs 0 = some exNew ∧
          load (crashImage (interp prog 0 1 exChunks (singleFault 8 (some 0)) exS).fs [] (fun _ => [])) 0 = some exOld := by decide
/-- a failing fsync of the temp file (call 4): error, path old, temp removed -/
example : (interp prog 0 1 exChunks (singleFault 4 (some 0)) exS).err = true ∧
          load (interp prog 0 1 exChunks (singleFault 4 (some 0)) exS).fs 0 = some exOld ∧
          (interp prog 0 1 exChunks (singleFault 4 (some 0)) exS).fs.vdir 1 = none := by decide

/-! ### Negative sanity: mutated programs violate the theorems (the model is not vacuous) -/

/-- AtomicWriteFile WITHOUT `tempFile.Sync()` -/
def noFsyncSteps : List Step :=
  [ .call .removeTmp .retUnlessNotExist, .call .createExclTmp .ret, .defer [.closeTmp, .removeTmp],
    .call .writeTmp .ret, .call .closeTmp .ret, .call .renameTmpToPath .ret,
    .call .openDir .ret, .defer [.closeDir], .call .fsyncDir .ret ]

/-- … with the rename BEFORE the fsync -/
def renameFirstSteps : List Step :=
  [ .call .removeTmp .retUnlessNotExist, .call .createExclTmp .ret, .defer [.closeTmp, .removeTmp],
    .call .writeTmp .ret, .call .renameTmpToPath .ret, .call .fsyncTmp .ret, .call .closeTmp .ret,
    .call .openDir .ret, .defer [.closeDir], .call .fsyncDir .ret ]

/-- … WITHOUT the directory fsync -/
def noDirSyncSteps : List Step :=
  [ .call .removeTmp .retUnlessNotExist, .call .createExclTmp .ret, .defer [.closeTmp, .removeTmp],
    .call .writeTmp .ret, .call .fsyncTmp .ret, .call .closeTmp .ret, .call .renameTmpToPath .ret ]

/-- … WITHOUT the initial removal of a stale temp file (O_EXCL then fails for ever) -/
def noRemoveSteps : List Step := prog.drop 1

/-- without the temp-file fsync a returned-nil write can load as a torn file (neither old nor new) -/
theorem neg_no_fsync :
    ∃ (s s' : State) (path tmp : Name) (old new : Bytes) (chunks : List Bytes),
      tmp ≠ path ∧ DurablyHolds s path (some old) ∧ chunks.flatten = new ∧
      (interp noFsyncSteps path tmp chunks noFaults s).err = false ∧
      Crash (interp noFsyncSteps path tmp chunks noFaults s).fs s' ∧
      load s' path ≠ some old ∧ load s' path ≠ some new :=
  ⟨exS, crashImage (interp noFsyncSteps 0 1 exChunks noFaults exS).fs [] (fun _ => [4, 0xEE]), 0, 1, exOld, exNew, exChunks,
    by decide, exS_holds, by decide, by decide, crashImage_crash _ _ _, by decide, by decide⟩

/-- with the rename before the fsync a crash right after the rename can expose a torn file -/
theorem neg_rename_before_fsync :
    ∃ (s s' : State) (path tmp : Name) (old new : Bytes) (chunks : List Bytes) (k : Nat),
      tmp ≠ path ∧ DurablyHolds s path (some old) ∧ chunks.flatten = new ∧
      Crash (interpUpTo renameFirstSteps path tmp chunks noFaults k s).1.fs s' ∧
      load s' path ≠ some old ∧ load s' path ≠ some new :=
  ⟨exS, crashImage (interpUpTo renameFirstSteps 0 1 exChunks noFaults 5 exS).1.fs [true, true, true] (fun _ => []), 0, 1,
    exOld, exNew, exChunks, 5,
    by decide, exS_holds, by decide, crashImage_crash _ _ _, by decide, by decide⟩

/-- without the directory fsync a returned-nil write can be lost by a crash (`durable_after_return` fails) -/
theorem neg_no_dir_fsync :
    ∃ (s s' : State) (path tmp : Name) (old new : Bytes) (chunks : List Bytes),
      tmp ≠ path ∧ DurablyHolds s path (some old) ∧ chunks.flatten = new ∧
      (interp noDirSyncSteps path tmp chunks noFaults s).err = false ∧
      Crash (interp noDirSyncSteps path tmp chunks noFaults s).fs s' ∧
      load s' path ≠ some new :=
  ⟨exS, crashImage (interp noDirSyncSteps 0 1 exChunks noFaults exS).fs [] (fun _ => []), 0, 1, exOld, exNew, exChunks,
    by decide, exS_holds, by decide, by decide, crashImage_crash _ _ _, by decide⟩

/-- without the initial remove a stale temp file makes even a fault-free run fail (`rerun_after_crash` fails) -/
theorem neg_no_remove :
    (interp noRemoveSteps 0 1 exChunks noFaults exS).err = true := by decide

/-! ### Counterexample search on ANY step list (driver op `fs.search`, run on the list regenerated from /repo)

  `AtomicSearch.search P` explores fault plan × cut × post-crash image of the interpreter on `P.steps` and
  returns the first violation of atomicity / durability / failed-run / re-run (see `Model/AtomicSearch.lean`).
  The theorems above are about the EXPECTED protocol; these say that what the search reports about the
  CURRENT protocol is real in the model. -/

open Lungo.AtomicSearch in
/-- **search_ce_sound.** A counterexample returned by the search on the step list `P.steps` is real: its
    post-crash state `ce.st` is reachable — it is the process-kill image or a power-loss outcome (`Crash`,
    via `crashImages_sound`) of the interpreter on `P.steps` after the first `ce.k` system calls under the
    fault plan `ce.fault` — and it violates the clause named by `ce.kind`:
    * `notOldOrNew`: `path` loads as neither the old nor the new content (mixture / truncated / absent);
    * `ackedLost`: the run had returned success, yet `path` does not load as the new content;
    * `failedChanged`: the run had returned an error (no crash), yet `path` shows neither the old content nor —
      provided a rename onto `path` had succeeded — the new one;
    * `rerunFails`: a complete fault-free run of the same protocol started on `ce.st` returns an error or does
      not leave the new content at `path`. -/
theorem search_ce_sound (P : Params) (ce : CE) (h : search P = some ce) :
    let r := interpUpTo P.steps P.path P.tmp P.chunks (faultsOf ce.fault) ce.k P.s0
    (ce.st = kill r.1.fs ∨ Crash r.1.fs ce.st) ∧
    (ce.kind = .notOldOrNew → load ce.st P.path ≠ P.old ∧ load ce.st P.path ≠ some P.chunks.flatten) ∧
    (ce.kind = .ackedLost → r.2 = true ∧ r.1.err = false ∧ load ce.st P.path ≠ some P.chunks.flatten) ∧
    (ce.kind = .failedChanged → r.2 = true ∧ r.1.err = true ∧ ce.st = kill r.1.fs ∧ load ce.st P.path ≠ P.old ∧
      ¬ (renamed (traceUpTo P.steps P.path P.tmp P.chunks (faultsOf ce.fault) ce.k P.s0) = true ∧
         load ce.st P.path = some P.chunks.flatten)) ∧
    (ce.kind = .rerunFails →
      (interp P.steps P.path P.tmp P.chunks noFaults ce.st).err = true ∨
      load (interp P.steps P.path P.tmp P.chunks noFaults ce.st).fs P.path ≠ some P.chunks.flatten) := by
  intro r
  obtain ⟨hr, hv⟩ := search_sound P ce h
  refine ⟨hr.crash, ?_, ?_, ?_, ?_⟩ <;> intro hk <;> simp only [CE.Violates, hk] at hv
  · exact hv
  · exact hv
  · obtain ⟨h1, h2, h3, h4, h5⟩ := hv
    exact ⟨h1, h2, hr.of_none h3, h4, h5⟩
  · exact hv

open Lungo.AtomicSearch in
/-- **search_ce_image.** The scenario printed with a counterexample is the one of its state: `ce.img = none` is
    the process-kill image; `ce.img = some d` is the member of `crashImages` that keeps the pending directory
    operations selected by `d.mask` and `d.len` of the temp inode's un-synced bytes (bit-flipped if `d.flipped`). -/
theorem search_ce_image (P : Params) (ce : CE) (h : search P = some ce) :
    let r := interpUpTo P.steps P.path P.tmp P.chunks (faultsOf ce.fault) ce.k P.s0
    (ce.img = none → ce.st = kill r.1.fs) ∧
    (∀ d, ce.img = some d → ce.st = crashImage r.1.fs d.mask (garbage r.1 d) ∧ ce.st ∈ crashImages r.1) :=
  ⟨(search_sound P ce h).1.of_none, fun _ => (search_sound P ce h).1.of_some⟩

open Lungo.AtomicSearch in
/-- **no_rename_keeps_old.** Meaning of the trace used by the `failedChanged` clause, for ANY step list run by
    the search with a temp name distinct from the path: as long as the executed calls contain no successful
    rename onto `path`, `path` still shows the old content (no other call of the vocabulary can change it). -/
theorem no_rename_keeps_old (steps : List Step) (old : Option Bytes) (chunks : List Bytes) (stale : Bool)
    (f : Faults) (k : Nat)
    (h : renamed (traceUpTo steps 0 1 chunks f k (fsInit old stale)) = false) :
    load (interpUpTo steps 0 1 chunks f k (fsInit old stale)).1.fs 0 = old := by
  have := load_of_not_renamed (path := 0) (tmp := 1) (by decide) steps chunks f k (fsInit old stale) (keep_fsInit old stale) h
  rw [load_fsInit] at this
  exact this

open Lungo.AtomicSearch in
/-- the initial states of the search meet the hypothesis of the C05 theorems -/
theorem fsInit_holds (old : Option Bytes) (stale : Bool) : DurablyHolds (fsInit old stale) 0 old := by
  have hino : ∀ n i, (fsInit old stale).vdir n = some i → i < 2
    | 0, i, h => by cases old <;> cases h; decide
    | 1, i, h => by cases stale <;> cases h; decide
    | n + 2, i, h => nomatch h
  have hval : ValOK (fsInit old stale) (· = old) (if old.isSome then some 0 else none) := by
    cases old with
    | none => exact rfl
    | some c => exact ⟨c, rfl, rfl⟩
  exact ⟨⟨hino, hino, fun _ h => absurd h List.not_mem_nil⟩, ⟨hval, hval, fun _ h => absurd h List.not_mem_nil⟩⟩

open Lungo.AtomicSearch in
/-- **search_no_false_alarm.** On the EXPECTED protocol (temp name ≠ path) the search returns no counterexample —
    for ALL old contents (or none), all new contents and splits into write calls, with or without a stale temp
    file: the check cannot raise a `model-ce` violation unless the regenerated protocol differs from the
    expected one.  (By `search_sound` every reported scenario would contradict `master` / `reach_preserves` /
    `clean_run_ok` / `no_rename_keeps_old`.) -/
theorem search_no_false_alarm (old : Option Bytes) (chunks : List Bytes) (stale : Bool) :
    search (paramsOf Expected.atomicWriteSteps false ⟨old, chunks, stale⟩) = none := by
  cases hs : search (paramsOf prog false ⟨old, chunks, stale⟩) with
  | none => rfl
  | some ce =>
    exfalso
    obtain ⟨hr, hv⟩ := search_sound _ ce hs
    have hne : (1 : Name) ≠ 0 := by decide
    have hd := fsInit_holds old stale
    have hm := master hne (new := chunks.flatten) rfl (faultsOf ce.fault) hd.1 hd.2 ce.k
    -- the state the counterexample speaks of satisfies the invariants again, so `path` loads as old or new there
    have hst := reach_preserves hm.1.wf hm.1.inv hr.crash
    have hl := hst.2.load_ok
    unfold CE.Violates at hv
    split at hv
    · exact hl.elim hv.1 hv.2
    · obtain ⟨h1, h2, h3⟩ := hv
      exact h3 (reach_preserves hm.1.wf ((hm.2 h1).ok h2).1 hr.crash).2.load_ok
    · obtain ⟨_, _, h3, h4, h5⟩ := hv
      cases hren : renamed (traceUpTo prog 0 1 chunks (faultsOf ce.fault) ce.k (fsInit old stale)) with
      | false =>
        -- no crash (`ce.img = none`), no rename: `path` is untouched
        have hk : load ce.st 0 = old := by
          rw [hr.of_none h3, load_kill]
          exact no_rename_keeps_old prog old chunks stale (faultsOf ce.fault) ce.k hren
        exact h4 hk
      | true => exact hl.elim h4 fun e => h5 ⟨hren, e⟩
    · have c := clean_run_ok hne (chunks := chunks) rfl hst.1 hst.2
      exact hv.elim (fun e => absurd (c.1.symm.trans e) nofun) fun e => e c.2.1.2.load_ok

open Lungo.AtomicSearch in
/-- **search_expected_safe.** Instance of `search_no_false_alarm` at the concrete shapes `AtomicSearch.shapes`
    which the stream's corpus fetches (driver op `fs.shapes`) and sends: the search answers "safe". -/
theorem search_expected_safe :
    ∀ sh ∈ shapes, (search (paramsOf Expected.atomicWriteSteps false sh)).isNone = true := by
  intro sh _
  rw [search_no_false_alarm sh.old sh.chunks sh.stale]
  rfl

/-! Non-vacuity / TESTS by kernel evaluation (`decide +kernel` on concrete parameters; these are tests, not
    theorems): the search really explores states on the expected protocol, and the executable search agrees
    with `search_no_false_alarm` on the first corpus shape. -/
open Lungo.AtomicSearch in
example : explored (paramsOf prog false ⟨some [1, 2, 3], [[9]], true⟩) = 755 := by decide +kernel
open Lungo.AtomicSearch in
example : (search (paramsOf prog false ⟨none, [[1, 2]], false⟩)).isNone = true := by decide +kernel

/-! teeth of the search (kernel-evaluated examples): each mutated protocol of the section above yields a
    counterexample of the expected kind on a corpus shape -/
open Lungo.AtomicSearch in
example : (search (paramsOf noFsyncSteps false ⟨some [1, 2, 3], [[9]], true⟩)).map (·.kind) = some .notOldOrNew := by decide +kernel
open Lungo.AtomicSearch in
example : (search (paramsOf renameFirstSteps false ⟨some [1, 2, 3], [[9]], true⟩)).map (·.kind) = some .notOldOrNew := by decide +kernel
open Lungo.AtomicSearch in
example : (search (paramsOf noDirSyncSteps false ⟨some [1, 2, 3], [[9]], true⟩)).map (·.kind) = some .ackedLost := by decide +kernel
open Lungo.AtomicSearch in
example : (search (paramsOf noRemoveSteps false ⟨some [1, 2, 3], [[9]], true⟩)).map (·.kind) = some .rerunFails := by decide +kernel
open Lungo.AtomicSearch in
/-- the expected calls applied IN PLACE (`tempPath := path`): the initial remove deletes the store file -/
example : (search (paramsOf prog true ⟨some [1, 2, 3], [[9]], false⟩)).map (fun ce => (ce.kind, ce.k, ce.img)) =
    some (.notOldOrNew, 1, none) := by decide +kernel

end Lungo.C05
