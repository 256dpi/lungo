/-
  C04 — "Concurrent operations are strictly serializable; no update is lost."

  Theorems about `Lungo.Conc` (Model/Conc.lean), for every reachable state, any number of actors,
  all interleavings (including those inside the Begin/Commit/Abort critical sections) and all
  fault choices.  Data is abstract: the catalog is the log of applied operation ids; an operation's
  result is a function of the log prefix it ran on (`HEntry.seen`), so "replaying the committed
  writes one at a time in log order reproduces every result" is: each committed transaction's base
  equals the log produced by its predecessors (`serializable`) and each write's `seen` is a prefix
  position of its transaction's log (`write_history`).
  Ghost fields used: `commitLog` (records appended at the commit step), `hist` (writes),
  `reads` (finished read-only calls), `done`/`before` (returned commits, snapshot at invocation).
-/
import Lungo.Proofs.ConcLogAll
import Lungo.Proofs.ConcFreeze
namespace Lungo.Conc.C04
open Lungo.Conc

/-- While a write transaction is installed (its owner holds the token) its
    start snapshot is the engine's catalog; likewise for the actor inside `Commit` between
    `e.txn = nil` and the catalog swap. -/
theorem base_is_current {n : Nat} {s : State} (h : Reachable n s) :
    (∀ t, s.eng.txn = some t → (s.txns t).base = s.eng.catalog) ∧
    (∀ a t, (s.loc a).pc = .cStore → (s.loc a).t = some t → (s.txns t).base = s.eng.catalog) :=
  ⟨(linv_reachable h).1, (linv_reachable h).2.1⟩

/-- The catalog is the concatenation of the committed transactions' operations in
    commit order (the change log), and the `i`-th committed transaction ran on exactly the log
    produced by transactions `0..i-1` — so replaying the log one transaction at a time reproduces
    the base every committed call observed, and its own operations follow directly. -/
theorem serializable {n : Nat} {s : State} (h : Reachable n s) :
    s.eng.catalog = logOf s.commitLog ∧
    ∀ i r, s.commitLog[i]? = some r →
      r.base = logOf (s.commitLog.take i) ∧
      ∃ rest, s.eng.catalog = r.base ++ r.ops ++ rest := by
  obtain ⟨_, _, l3, l4⟩ := linv_reachable h
  refine ⟨l3, fun i r hi => ?_⟩
  have hb := serialFrom_get l4 hi
  simp only [List.nil_append] at hb
  refine ⟨hb, ?_⟩
  obtain ⟨rest, hr⟩ := logOf_take_lt hi (Nat.lt_succ_self i)
  refine ⟨rest ++ logOf (s.commitLog.drop (i + 1)), ?_⟩
  rw [l3, ← logOf_take_drop s.commitLog (i + 1), hr, hb]
  simp [List.append_assoc]

/-- Two committed transactions never start from the same base once the earlier
    one wrote something — the later one's base contains the earlier one's operations.  In
    particular two committed read-modify-write calls never overwrite each other. -/
theorem no_lost_update {n : Nat} {s : State} (h : Reachable n s) {i j : Nat} {r1 r2 : CRec}
    (hi : s.commitLog[i]? = some r1) (hj : s.commitLog[j]? = some r2) (hij : i < j) :
    (∃ rest, r2.base = r1.base ++ r1.ops ++ rest) ∧ (r1.ops ≠ [] → r1.base ≠ r2.base) := by
  obtain ⟨_, hser⟩ := serializable h
  have h1 := (hser i r1 hi).1
  have h2 := (hser j r2 hj).1
  obtain ⟨rest, hr⟩ := logOf_take_lt hi hij
  have hb : r2.base = r1.base ++ r1.ops ++ rest := by rw [h2, hr, h1]
  refine ⟨⟨rest, hb⟩, fun hne heq => ?_⟩
  have hl := congrArg List.length hb
  rw [← heq] at hl
  simp only [List.length_append] at hl
  have : r1.ops.length = 0 := by omega
  exact hne (List.length_eq_zero_iff.mp this)

/-- In every reachable state (sessions may be shared) every write a callback
    performed ran on log `seen`, and its operation directly follows `seen` in its transaction's
    private log `base ++ ops`. -/
theorem write_history_local {n : Nat} {s : State} (h : Reachable n s) :
    ∀ e ∈ s.hist, Pre (e.seen ++ [e.op]) ((s.txns e.tid).base ++ (s.txns e.tid).ops) :=
  fun e he => ((inv3_reachable h).hinv e he).2

/-- The part of `serializable` about individual calls (configuration: no session is
    used by two actors at once, `ReachableU`): for every write `e` a callback performed and every
    commit record `r` of its transaction, the log `e.seen` the write ran on followed by its operation
    is a prefix of `r.base ++ r.ops`, hence of the catalog: replaying the change log one operation at
    a time reaches exactly the state the call observed and then applies its operation — every
    committed call's returned result is reproduced.  (The committed transaction object is frozen:
    `(s.txns r.tid).ops = r.ops`.) -/
theorem write_history {n : Nat} {s : State} (h : ReachableU n s) :
    ∀ e ∈ s.hist, ∀ r ∈ s.commitLog, r.tid = e.tid →
      Pre (e.seen ++ [e.op]) (r.base ++ r.ops) ∧ Pre (e.seen ++ [e.op]) s.eng.catalog := by
  intro e he r hr htid
  have hl := write_history_local h.reachable e he
  obtain ⟨-, -, -, hops, hbase⟩ := (zfrz_reachable h).1 r hr
  rw [← htid, hops, hbase] at hl
  refine ⟨hl, ?_⟩
  obtain ⟨i, hi⟩ := List.getElem?_of_mem hr
  obtain ⟨rest, hcat⟩ := ((serializable h.reachable).2 i r hi).2
  rw [hcat]
  exact hl.app rest

/-- the restriction is necessary: with a session shared by two actors, a goroutine that obtained
    `sess.Transaction()` before the other goroutine's `CommitTransaction` can still run its callback
    on the (now committed) transaction object; its acknowledged write never reaches the catalog.
    (MongoDB sessions are not safe for concurrent use, so this is outside the property's domain.) -/
def staleWrite : List (ActorId × Choice) :=
  [(1, .call (.sessStart 5)), (1, .go), (1, .go), (1, .go), (1, .go), (1, .tok), (1, .go), (1, .go),
   (1, .go), (1, .go), (1, .go),                                   -- session 5 has transaction 0
   (2, .call (.useTx true (some 5))), (2, .go), (2, .go),          -- 2 read sess.Transaction() = txn 0
   (1, .call (.sessCommit 5)), (1, .go), (1, .go), (1, .go), (1, .go), (1, .go),   -- 1 commits txn 0
   (2, .cbWrite)]                                                  -- 2's callback writes into txn 0

theorem write_history_fails_shared :
    ∃ s, Reachable 2 s ∧ ∃ e ∈ s.hist, ∃ r ∈ s.commitLog, r.tid = e.tid ∧
      (s.loc 2).res = .ok ∧ ¬ Pre (e.seen ++ [e.op]) s.eng.catalog := by
  have hsome : (run (init 2) staleWrite).isSome = true := by rfl
  refine ⟨(run (init 2) staleWrite).get hsome, run_reachable .init staleWrite _ (by simp), ?_⟩
  refine ⟨⟨0, [], 0⟩, ?_, ⟨0, [], [], 0, []⟩, ?_, rfl, ?_, ?_⟩
  · show _ ∈ ((run (init 2) staleWrite).get hsome).hist
    have : ((run (init 2) staleWrite).get hsome).hist = [⟨0, [], 0⟩] := by rfl
    rw [this]; simp
  · show _ ∈ ((run (init 2) staleWrite).get hsome).commitLog
    have : ((run (init 2) staleWrite).get hsome).commitLog = [⟨0, [], [], 0, []⟩] := by rfl
    rw [this]; simp
  · rfl
  · have : ((run (init 2) staleWrite).get hsome).eng.catalog = [] := by rfl
    rw [this]
    rintro ⟨r, hr⟩
    simp at hr

/-- The log order respects real time.  `rB.before` is the snapshot, taken when the call
    that began `rB` was INVOKED, of `done` = the (transaction, end position) pairs appended whenever a
    call that committed RETURNS.  Every such pair is an actual commit record `rA`, and `rA`'s
    operations end at or before the position where `rB`'s operations start: a transaction whose
    committing call returned before another's call was issued comes first in the log.  Moreover the
    commit point lies inside the call's interval (`rB.invLen ≤ |rB.base|`), and `rB`'s operations are
    in the catalog from the commit step on. -/
theorem real_time {n : Nat} {s : State} (h : Reachable n s) :
    ∀ rB ∈ s.commitLog,
      (∀ p ∈ rB.before, ∃ rA ∈ s.commitLog, rA.tid = p.1 ∧ rA.base.length + rA.ops.length = p.2 ∧
          rA.base.length + rA.ops.length ≤ rB.base.length) ∧
      rB.invLen ≤ rB.base.length ∧ rB.base.length + rB.ops.length ≤ s.eng.catalog.length := by
  intro r hr
  obtain ⟨h1, h2, h3⟩ := (inv3_reachable h).rinv.1 r hr
  refine ⟨fun p hp => ?_, h2, h1⟩
  obtain ⟨rA, hA, hA1, hA2⟩ := (ninv_reachable h).2.2.2 r hr p hp
  exact ⟨rA, hA, hA1, hA2, by rw [hA2]; exact Nat.le_trans (h3 p hp) h2⟩

/-- `real_time`, returned side: every entry of `done` (appended when the committing call returns)
    names an actual commit record whose operations are inside the current log. -/
theorem returned_in_log {n : Nat} {s : State} (h : Reachable n s) :
    ∀ p ∈ s.done, (∃ rA ∈ s.commitLog, rA.tid = p.1 ∧ rA.base.length + rA.ops.length = p.2) ∧
      p.2 ≤ s.eng.catalog.length :=
  fun p hp => ⟨(ninv_reachable h).1 p hp, (inv3_reachable h).rinv.2.1 p hp⟩

/-- Every finished read-only call observed a prefix of the log whose length lies
    between the log length at its invocation and at its return — the state after a committed
    prefix that was current at some instant during the call (the log is append-only:
    `log_append_only`). -/
theorem read_prefix {n : Nat} {s : State} (h : Reachable n s) :
    ∀ r ∈ s.reads, Pre r.obs s.eng.catalog ∧ r.invLen ≤ r.obs.length ∧ r.obs.length ≤ r.retLen :=
  (inv3_reachable h).pinv.1

/-- the catalog only ever grows by appending -/
theorem log_append_only {n : Nat} {s s' : State} {a : ActorId} {c : Choice} (h : Reachable n s)
    (hs : step s a c = some s') : ∃ ops, s'.eng.catalog = s.eng.catalog ++ ops :=
  catalog_grows h hs

/-! ### non-vacuity: two writers racing for the token, one reader in between -/

/-- actor 1 alone issues one auto-commit write and runs it to its return -/
def writeOnce : List (ActorId × Choice) :=
  [(1, .call (.useTx true none)), (1, .go), (1, .go), (1, .tok), (1, .go), (1, .go), (1, .go),
   (1, .cbWrite), (1, .go), (1, .go), (1, .storeOk), (1, .go), (1, .go), (1, .go), (1, .go)]

/-- actor 1 and actor 2 both issue an auto-commit write; 2 acquires only after 1 released;
    actor 3 takes an unlocked snapshot read between the two commits -/
def race : List (ActorId × Choice) :=
  [(1, .call (.useTx true none)), (2, .call (.useTx true none)),
   (1, .go), (1, .go), (2, .go), (2, .go), (1, .tok), (1, .go), (1, .go), (1, .go),
   (1, .cbWrite), (1, .go), (1, .go), (1, .storeOk),
   (3, .call (.useTx false none)), (3, .go), (3, .go), (3, .go),
   (2, .tok), (2, .go), (2, .go), (2, .go), (2, .cbWrite),
   (1, .go), (1, .go), (1, .go), (1, .go),
   (2, .go), (2, .go), (2, .storeOk), (2, .go), (2, .go), (2, .go), (2, .go),
   (3, .cbNoop)]

example : ((run (init 3) race).map fun s =>
    (s.eng.catalog, s.commitLog.map (fun r => (r.tid, r.base, r.ops, r.before)), s.done,
      s.reads.map (fun r => (r.obs, r.invLen, r.retLen)), s.eng.token)) =
    some ([0, 1], [(0, [], [0], []), (2, [0], [1], [])], [(0, 1), (2, 2)], [([0], 1, 2)], 1) := by rfl

/-- a later call sees the earlier commit in its `before` list -/
example : ((run (init 3) (writeOnce ++ writeOnce)).map fun s =>
    s.commitLog.map (fun r => (r.base, r.ops, r.before))) =
    some [([], [0], []), ([0], [1], [(0, 1)])] := by rfl

end Lungo.Conc.C04
