/-
  C16 — "The engine never wedges: the writer slot is always freed, shutdown completes."

  All theorems are about `Lungo.Conc` (Model/Conc.lean) and hold for EVERY reachable state of the
  transition system, for any number `n` of client actors, any interleaving, with nondeterministic
  context cancellation / acquire timeout / store failure / store panic / callback error / callback
  panic at every step where the code admits one.
-/
import Lungo.Proofs.ConcDeadlock
import Lungo.Proofs.ConcClosed
import Lungo.Proofs.ConcNoDeadlock
namespace Lungo.Conc.C16
open Lungo.Conc

/-- Slot content + (an actor holding the token itself) + (an installed write
    transaction) = 1; the ghost `holder` is exactly the actor whose control state lies between a
    successful `Acquire` and `e.txn = …`/`Release`, or inside `Commit` after `e.txn = nil`. -/
theorem token_conservation {n : Nat} {s : State} (h : Reachable n s) :
    s.eng.token + (if s.eng.holder.isSome then 1 else 0) + (if s.eng.txn.isSome then 1 else 0) = 1 ∧
    (∀ a, s.eng.holder = some a ↔ THold (s.loc a)) :=
  ⟨(inv_reachable h).1.conserv, (inv_reachable h).1.holder_iff⟩

/-- No reachable step executed `Semaphore.Release` with the slot full. -/
theorem release_never_panics {n : Nat} {s : State} (h : Reachable n s) : s.eng.relPanic = false :=
  (inv_reachable h).1.noPanic

/-- the next step of actor `a` executes `e.token.Release()` -/
def AtRelease (s : State) (a : ActorId) : Prop :=
  let l := s.loc a
  (l.pc = .bPost ∧ l.okF = true ∧ (s.eng.alive = false ∨ s.eng.txn.isSome = true)) ∨
  l.pc = .cStore ∨
  (l.pc = .cCheck ∧ s.eng.alive = true ∧ s.eng.txn.isSome = true ∧ s.eng.txn = l.t) ∨
  (l.pc = .aBody ∧ s.eng.alive = true ∧ s.eng.txn.isSome = true ∧ s.eng.txn = l.t)

/-- explicit form: whenever an actor is about to release, the slot is empty. -/
theorem release_slot_empty {n : Nat} {s : State} (h : Reachable n s) (a : ActorId)
    (hr : AtRelease s a) : s.eng.token = 0 := by
  have i := (inv_reachable h).1
  have h2 := i.holder_iff a
  have h3 := i.conserv
  simp only [AtRelease, THold] at *
  grind

/-- At most one actor is between a successful acquire and its release; then no
    write transaction is installed and the slot is empty; an installed transaction means the slot
    is empty and nobody else holds the token. -/
theorem single_writer {n : Nat} {s : State} (h : Reachable n s) :
    (∀ a b, THold (s.loc a) → THold (s.loc b) → a = b) ∧
    (∀ a, THold (s.loc a) → s.eng.txn = none ∧ s.eng.token = 0) ∧
    (∀ t, s.eng.txn = some t → s.eng.token = 0 ∧ ∀ a, ¬ THold (s.loc a)) := by
  have i := (inv_reachable h).1
  have h2 := i.holder_iff
  have h3 := i.conserv
  refine ⟨fun a b ha hb => ?_, fun a ha => ?_, fun t ht => ⟨?_, fun a ha => ?_⟩⟩
  · have := (h2 a).2 ha; have := (h2 b).2 hb; simp_all
  · have := (h2 a).2 ha
    cases htx : s.eng.txn <;> simp_all
  · simp_all <;> omega
  · have := (h2 a).2 ha; simp_all

/-- every started call has returned (the expiry goroutine is parked at its select or has exited) -/
def Quiescent (s : State) : Prop :=
  ∀ a, (s.loc a).pc = .idle ∨ (s.loc a).pc = .xWait ∨ (s.loc a).pc = .xExited

/-- When every started call has returned and no client holds the installed
    transaction open (no session's `txn`, no direct-API handle), the writer slot is free, no
    transaction is installed and `e.mutex` is free — so the next write acquires immediately.
    (After `Close` the slot is irrelevant: see `closed_prompt`.) -/
theorem quiescent_free {n : Nat} {s : State} (h : Reachable n s) (hq : Quiescent s)
    (halive : s.eng.alive = true)
    (hsess : ∀ sid, (s.sess sid).txn = none ∨ (s.sess sid).txn ≠ s.eng.txn)
    (hhandle : ∀ a, (s.loc a).handle = none ∨ (s.loc a).handle ≠ s.eng.txn) :
    s.eng.token = 1 ∧ s.eng.txn = none ∧ s.eng.mutex = none := by
  obtain ⟨i, j⟩ := inv_reachable h
  have htx : s.eng.txn = none := by
    cases htx : s.eng.txn with
    | none => rfl
    | some t =>
      exfalso
      have ho := j.oinv.1 halive t htx
      unfold Owned at ho
      cases hown : s.eng.own with
      | actor b =>
        rw [hown] at ho
        have := hq b; have := hhandle b
        simp only [OwnsL] at ho
        grind
      | sess sid =>
        rw [hown] at ho
        have := hsess sid
        simp_all
  have hh : s.eng.holder = none := by
    cases hh : s.eng.holder with
    | none => rfl
    | some b =>
      have := (i.holder_iff b).1 hh
      have := hq b
      simp only [THold] at *
      grind
  have hm : s.eng.mutex = none := by
    cases hm : s.eng.mutex with
    | none => rfl
    | some b =>
      have := (i.mutex_iff b).1 hm
      have := hq b
      simp only [EHold] at *
      grind
  have := i.conserv
  simp_all

/-- session machine: `starting` is set only while some actor is inside `startTransaction` of
    that session (so it is cleared on every path, including errors, cancellation and shutdown),
    and while it is set the session has no transaction. -/
theorem starting_cleared {n : Nat} {s : State} (h : Reachable n s) (sid : SessId)
    (hs : (s.sess sid).starting = true) :
    (∃ a, StartFlow (s.loc a) sid) ∧ (s.sess sid).txn = none := by
  obtain ⟨_, j⟩ := inv_reachable h
  obtain ⟨s1, s2, s3⟩ := j.sinv
  refine ⟨?_, s1 sid hs⟩
  have := s3 sid
  rw [hs] at this
  cases hst : (s.sess sid).starter with
  | none => simp [hst] at this
  | some a => exact ⟨a, (s2 a sid).1 hst⟩

/-- In EVERY reachable state — sessions may be shared between actors — an actor holding `e.mutex` has an
    enabled next step: `e.mutex` critical sections never block.  (Holds since /repo commit 1490243 "read the session before taking
    the engine lock in Begin"; for the previous order see `old_order_shared_session_deadlock`.) -/
theorem mutex_holder_enabled {n : Nat} {s : State} {a : ActorId} (h : Reachable n s)
    (hm : s.eng.mutex = some a) : ∃ c s', step s a c = some s' :=
  mutex_holder_enabled_aux h hm

/-- WHY THE FIX WAS NEEDED.  With the OLD step order of `Engine.Begin` (`stepOld`, Model/ConcOld.lean:
    `sess.Transaction()` called while holding `e.mutex`) and one session used by two actors, the
    reachable state `deadState` (schedule `deadSched`) has actor 2 holding `e.mutex` inside
    `Engine.Begin` waiting for `s.mutex`, actor 1 holding `s.mutex` inside
    `Session.AbortTransaction` waiting for `e.mutex` (Engine.Abort), the expiry goroutine waiting
    for `e.mutex` — and NO step of any actor is enabled: the engine is wedged (lock-order inversion
    e→s vs s→e; had been reproduced on the real code, DESIGN §10 #13). -/
theorem old_order_shared_session_deadlock :
    ∃ s, ReachableOld 2 s ∧ s.eng.alive = true ∧ s.eng.mutex = some 2 ∧ (s.loc 2).pc = .bSessLock ∧
      (s.sess 5).mutex = some 1 ∧ (s.loc 1).pc = .aLock ∧ ∀ (a : Nat) (c : Choice), stepOld s a c = none :=
  ⟨deadState, dead_reachable, dead_facts.2.2.2.2.2, dead_facts.1, dead_facts.2.1, dead_facts.2.2.1,
    dead_facts.2.2.2.1, dead_stuck⟩

/-- hence `mutex_holder_enabled` was false for the old order -/
theorem old_order_mutex_holder_enabled_fails :
    ¬ ∀ (n : Nat) (s : State) (a : ActorId), ReachableOld n s → s.eng.mutex = some a →
        ∃ c s', stepOld s a c = some s' := by
  intro hall
  obtain ⟨s, hr, _, hm, _, _, _, hstuck⟩ := old_order_shared_session_deadlock
  obtain ⟨c, s', hs⟩ := hall 2 s 2 hr hm
  rw [hstuck 2 c] at hs
  cases hs

/-- the same calls under the CURRENT order do not wedge (actor 1's AbortTransaction completes,
    actor 2 then reads the session, begins and acquires the freed token) -/
theorem fixed_order_same_calls_progress :
    ((run (init 2) fixedSched).map fun s =>
      (s.eng.token, s.eng.holder, (s.loc 1).pc, (s.loc 2).pc, (s.sess 5).mutex)) =
    some (0, some 2, .idle, .bRelock, none) :=
  fixed_run

/-- `closed_prompt` (1): once the engine is killed it stays killed -/
theorem closed_stays_closed {n : Nat} {s s' : State} {a : ActorId} {c : Choice} (_h : Reachable n s)
    (hd : s.eng.alive = false) (hs : step s a c = some s') : s'.eng.alive = false :=
  alive_mono hd hs

/-- `closed_prompt` (2): after `Close`'s kill step no call contains a blocking token acquire — the
    `tomb dying` outcome of `token.Acquire` is enabled — and the expiry goroutine's select can
    take its `Dying` arm. -/
theorem closed_acquire_never_blocks {n : Nat} {s : State} {a : ActorId} (h : Reachable n s)
    (hd : s.eng.alive = false) :
    ((s.loc a).pc = .bAcquire → ∃ s', step s a .dying = some s') ∧
    ((s.loc a).pc = .xWait → ∃ s', step s a .dying = some s') := by
  have hr := (inv_reachable h).2.rng a
  have hle : (s.loc a).pc ≠ .idle → ¬ a > s.n := fun hp hgt => hp (hr hgt)
  constructor
  · intro hp
    have := hle (by simp [hp])
    exact Option.isSome_iff_exists.mp (by simp [step, this, hp, stepBegin, hd])
  · intro hp
    have := hle (by simp [hp])
    exact Option.isSome_iff_exists.mp (by simp [step, this, hp, stepExp, hd])

/-- `closed_prompt` (3): after the kill step every step of an actor inside a call strictly decreases
    `rank` (≤ 20), so every call returns within a bounded number of its own steps; the calls issued
    after the kill return `ErrEngineClosed` from the first alive check.  The only non-decreasing
    step is the expiry goroutine's `tick` (Go's select chooses randomly between a ready ticker and
    `Dying`; each loop iteration fails with ErrEngineClosed and returns to the select).
    Mutex acquisitions remain blocking steps, but their holders always progress
    (`mutex_holder_enabled`), and `Release` still balances (`token_conservation` holds in every
    reachable state, dead or alive). -/
theorem closed_prompt {n : Nat} {s s' : State} {a : ActorId} {c : Choice} (_h : Reachable n s)
    (hd : s.eng.alive = false) (hs : step s a c = some s') (hidle : (s.loc a).pc ≠ .idle)
    (htick : c ≠ .tick) : rank (s'.loc a) < rank (s.loc a) ∧ rank (s.loc a) ≤ 20 :=
  ⟨rank_decreases hs hidle htick, rank_le _⟩

/-- `closed_prompt` (4): a call issued after the kill returns the closed error at its first
    alive check without touching the token: `Begin` from `bCheck`. -/
theorem closed_begin_returns_closed {n : Nat} {s s' : State} {a : ActorId} (_h : Reachable n s)
    (hd : s.eng.alive = false) (hp : (s.loc a).pc = .bCheck) (hs : step s a .go = some s') :
    (s'.loc a).pc = .after ∧ (s'.loc a).res = .err .closed ∧ s'.eng.token = s.eng.token := by
  have hle : ¬ a > s.n := by
    intro hgt; simp [step, hgt] at hs
  simp [step, hle, hp, stepBegin, hd] at hs
  subst hs
  simp [State.put, Local.back, Eng.unlock]

/-- In EVERY reachable state (sessions may be shared between actors) in which some call
    is unfinished, some step is enabled that is neither a fault (cancel, store failure/panic, callback
    error/panic), nor the one-minute acquire timeout, nor a new call, nor a ticker event — unless
    the engine is alive, every actor is idle or parked at the token acquire, and the token is held
    by a transaction that a client deliberately keeps open (a session's transaction or a direct
    handle).  (In that last case the 1-minute acquire timeout of `Begin` still ends every waiter.) -/
theorem no_deadlock {n : Nat} {s : State} (h : Reachable n s)
    (hun : ∃ a, (s.loc a).pc ≠ .idle ∧ (s.loc a).pc ≠ .xWait ∧ (s.loc a).pc ≠ .xExited) :
    CanStep s ∨ TokenWait s :=
  no_deadlock_aux h hun

/-- … and `no_deadlock` was FALSE for the old step order of Begin: `deadState` has unfinished calls,
    no enabled step at all, and actor 1 is not parked at the acquire. -/
theorem old_order_no_deadlock_fails :
    ∃ s, ReachableOld 2 s ∧ (∃ a, (s.loc a).pc ≠ .idle ∧ (s.loc a).pc ≠ .xWait ∧ (s.loc a).pc ≠ .xExited) ∧
      (∀ (a : Nat) (c : Choice), stepOld s a c = none) ∧ ¬ TokenWait s := by
  refine ⟨deadState, dead_reachable, ⟨1, ?_⟩, dead_stuck, ?_⟩
  · rw [dead_facts.2.2.2.1]; simp
  · rintro ⟨_, _, _, hp⟩
    have := hp 1
    rw [dead_facts.2.2.2.1] at this
    simp [Parked] at this

/-! ### non-vacuity -/

/-- one auto-commit write (acquire, callback, store, release, deferred abort) by actor 1 -/
def writeOnce : List (ActorId × Choice) :=
  [(1, .call (.useTx true none)), (1, .go), (1, .go), (1, .tok), (1, .go), (1, .go), (1, .go),
   (1, .cbWrite), (1, .go), (1, .go), (1, .storeOk), (1, .go), (1, .go), (1, .go), (1, .go)]

example : ((run (init 2) writeOnce).map fun s =>
    (s.eng.token, s.eng.txn, s.eng.mutex, s.eng.catalog, (s.loc 1).pc, (s.loc 1).res)) =
    some (1, none, none, [0], .idle, .ok) := by rfl

/-- mid-run (after the acquire, before the re-lock) the token is held by actor 1 -/
example : ((run (init 2) (writeOnce.take 4)).map fun s => (s.eng.token, s.eng.holder)) =
    some (0, some 1) := by rfl

/-- a session transaction left open by its client keeps the slot (not quiescent-free) -/
def sessOpen : List (ActorId × Choice) :=
  [(1, .call (.sessStart 1)), (1, .go), (1, .go), (1, .go), (1, .go), (1, .tok), (1, .go), (1, .go),
   (1, .go), (1, .go), (1, .go)]

example : ((run (init 2) sessOpen).map fun s =>
    (s.eng.token, s.eng.txn, (s.sess 1).txn, (s.sess 1).starting, (s.loc 1).pc)) =
    some (0, some 0, some 0, false, .idle) := by rfl

/-- close while a writer waits for the token held by a session: the waiter is released with the
    closed error and Close returns after the expiry goroutine exited -/
def closeRun : List (ActorId × Choice) :=
  sessOpen ++
  [(2, .call (.useTx true none)), (2, .go), (2, .go),               -- 2 parked at the acquire
   (1, .call .close), (1, .go), (1, .go), (1, .go),                   -- kill, close streams; Close waits
   (2, .dying), (2, .go), (2, .go), (2, .go),                         -- 2: ErrEngineClosed
   (0, .dying), (1, .go)]                                             -- expiry exits; Close returns

example : ((run (init 2) closeRun).map fun s =>
    (s.eng.alive, (s.loc 2).pc, (s.loc 2).res, (s.loc 1).pc, (s.loc 0).pc, s.eng.mutex)) =
    some (false, .idle, .err .closed, .idle, .xExited, none) := by rfl

/-- the `TokenWait` disjunct of `no_deadlock` is real: a session transaction left open and a writer
    parked at the acquire -/
example : ((run (init 2) (sessOpen ++ [(2, .call (.useTx true none)), (2, .go), (2, .go)])).map fun s =>
    (s.eng.alive, s.eng.token, s.eng.txn, (s.sess 1).txn, (s.loc 1).pc, (s.loc 2).pc,
      (step s 2 .tok).isSome, (step s 2 .timeout).isSome)) =
    some (true, 0, some 0, some 0, .idle, .bAcquire, false, true) := by rfl

end Lungo.Conc.C16

