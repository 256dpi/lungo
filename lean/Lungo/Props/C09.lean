/-
  Lungo.Props.C09 — change streams deliver each matching event once, in order, without stalls.

  All theorems quantify over ALL reachable states of the transition system `Lungo.StreamTS`
  (any number of actors, streams, commits, any interleaving) and are proved by induction over
  the step relation (Lungo.Proofs.StreamTS*). Ghost fields used in the statements:
    `committed`  full change log, never trimmed; ids are positions + 1 (`committed_ids`)
    `delivered`  events returned by `next` on the stream, in return order
    `startPos`   id after which events count for the stream
    `trimmed`    some commit was asked to trim;  `nilStart`  Watch positioned `last` at nil
    `multi`      two `next` calls on the stream overlapped at some time (not the intended use)
-/
import Lungo.Proofs.StreamTSInv
namespace Lungo.StreamTS

/-- ids of the change log are positions + 1: "after position p" = "id > p" -/
theorem committed_ids {s : State} (hr : Reachable s) :
    ∀ i e, s.committed[i]? = some e → e.id = i + 1 :=
  (reachable_inv hr).g.1

/-- the oplog is a suffix of the change log (retention removes a prefix only) -/
theorem oplog_suffix {s : State} (hr : Reachable s) :
    ∃ k, k ≤ s.committed.length ∧ s.oplog = s.committed.drop k :=
  (reachable_inv hr).g.2.1

/-- the wake-up step `recv` of a parked consumer is enabled when its signal channel is non-empty -/
theorem recv_enabled {s : State} {a : ActorId} {sid : StreamId} {r : Nat}
    (hpc : (s.actors a).pc = .parked sid r) (hsig : (s.streams sid).signal ≠ .empty) :
    (step s a .recv).isSome = true := by
  simp only [step, hpc, stepRecv]
  cases h : (s.streams sid).signal <;> simp_all

/-- **no_lost_wakeup.** A consumer parked in the select of `next` (single consumer on its stream):
    if any commit happened since its oplog read (`r < version`), or the stream has been
    closed (Stream.Close, Engine.Close), then its wake-up step is enabled, or a Stream.Close holds
    `s.mutex` right before its non-blocking send, that send step is enabled, and after it the
    signal slot is full. -/
theorem no_lost_wakeup {s : State} (hr : Reachable s) {a : ActorId} {sid : StreamId} {r : Nat}
    (hpc : (s.actors a).pc = .parked sid r) (hm : (s.streams sid).multi = false)
    (hnew : r < s.version ∨ (s.streams sid).closed = true) :
    (step s a .recv).isSome = true ∨
    ∃ b, (s.streams sid).mutex = some b ∧ (s.actors b).pc = .cSend sid ∧
         ∃ s', step s b .tau = some s' ∧ (s'.streams sid).signal = .full := by
  have i := reachable_inv hr
  rcases (i.w a sid r (.inr hpc) hm).2 hnew with h | h
  · exact .inl (recv_enabled hpc h)
  · right
    obtain ⟨b, hmx, hb⟩ := i.sp.2 sid h
    have hnc := (i.sp.1 b sid hb).2
    refine ⟨b, hmx, hb, stepCSend s b sid, by simp [step, hb], ?_⟩
    simp only [stepCSend, setBoth, upd_same]
    cases hs : (s.streams sid).signal <;> simp_all

/-- **no_lost_wakeup**, event form: a parked single consumer for which the engine's current oplog
    holds an event after its `last` (or no longer holds `last` at all: `nextEvent ≠ some none`) has
    its wake-up enabled, or the send of a Stream.Close is enabled and fills the slot. -/
theorem no_lost_wakeup_event {s : State} (hr : Reachable s) {a : ActorId} {sid : StreamId} {r : Nat}
    (hpc : (s.actors a).pc = .parked sid r) (hm : (s.streams sid).multi = false)
    (hev : nextEvent (s.streams sid).last s.oplog ≠ some none) :
    (step s a .recv).isSome = true ∨
    ∃ b, (s.streams sid).mutex = some b ∧ (s.actors b).pc = .cSend sid ∧
         ∃ s', step s b .tau = some s' ∧ (s'.streams sid).signal = .full := by
  have ⟨h1, h2⟩ := ((reachable_inv hr).w a sid r (.inr hpc) hm).1
  have : r < s.version := by
    rcases Nat.lt_or_eq_of_le h1 with h | h
    · exact h
    · exact absurd (h2 h) hev
  exact no_lost_wakeup hr hpc hm (.inl this)

/-- **no_lost_wakeup, gap variant.** A consumer between its oplog read and the park (holding
    `s.mutex`, about to unlock and select): if anything was committed since the read, the signal
    slot is full (so the select will not block). -/
theorem no_lost_wakeup_gap {s : State} (hr : Reachable s) {a : ActorId} {sid : StreamId} {r : Nat}
    (hpc : (s.actors a).pc = .nGap sid r) (hm : (s.streams sid).multi = false)
    (hnew : r < s.version) : (s.streams sid).signal = .full := by
  have i := reachable_inv hr
  have hcl := (i.h a sid).2.2 r hpc
  have hmx := (i.h a sid).1 (by rw [hpc]; rfl)
  rcases (i.w a sid r (.inl hpc) hm).2 (.inl hnew) with h | h
  · cases hs : (s.streams sid).signal with
    | empty => exact absurd hs h
    | full => rfl
    | closed => have := (i.sg sid).1 hs; simp_all
  · obtain ⟨b, hb, hp⟩ := i.sp.2 sid h
    rw [hmx] at hb; cases hb
    rw [hpc] at hp; cases hp

/-- context cancellation is always an enabled choice at the wait -/
theorem wake_by_ctx {s : State} {a : ActorId} {sid : StreamId} {r : Nat}
    (hpc : (s.actors a).pc = .parked sid r) :
    ∃ s', step s a .ctxDone = some s' ∧ (s'.actors a).pc = .nCtx sid := by
  refine ⟨_, by simp only [step, hpc]; rfl, by simp [setActor]⟩

/-- **wake by Engine.Close.** After the engine died, every parked single consumer either has its
    wake-up enabled, or a Stream.Close is about to send, or Engine.Close still has the stream in its
    snapshot; and visiting an unclosed stream closes its signal channel (`engine_close_visit`). -/
theorem wake_by_engine_close {s : State} (hr : Reachable s) {a : ActorId} {sid : StreamId} {r : Nat}
    (hpc : (s.actors a).pc = .parked sid r) (hm : (s.streams sid).multi = false)
    (hdead : s.alive = false) :
    (step s a .recv).isSome = true ∨
    (∃ b, (s.streams sid).mutex = some b ∧ (s.actors b).pc = .cSend sid) ∨
    (∃ b rest, (s.actors b).pc = .eLoop rest ∧ sid ∈ rest) := by
  have i := reachable_inv hr
  by_cases hc : (s.streams sid).closed = true
  · rcases no_lost_wakeup hr hpc hm (.inr hc) with h | ⟨b, h1, h2, _⟩
    · exact .inl h
    · exact .inr (.inl ⟨b, h1, h2⟩)
  · have hreg : (s.streams sid).registered = true := (i.sg sid).2.2.1.resolve_right hc
    right; right
    obtain ⟨⟨e1, _⟩, e2⟩ := i.e
    cases hcl : s.closer with
    | none => exact absurd hcl (e1 hdead)
    | some b =>
      have := e2 b sid hcl hreg (by simpa using hc)
      cases hb : (s.actors b).pc <;> simp [hb, Pc.eRest] at this
      exact ⟨b, _, hb, this⟩

theorem engine_close_visit {s s' : State} {b : ActorId} {sid : StreamId} {rest : List StreamId}
    (hpc : (s.actors b).pc = .eLoop (sid :: rest)) (hs : step s b .tau = some s')
    (hc : (s.streams sid).closed = false) :
    (s'.streams sid).signal = .closed ∧ (s'.streams sid).closed = true := by
  simp only [step, hpc, stepELoop] at hs
  split at hs
  · cases hs
  · simp only [Option.some.injEq] at hs; subst hs
    simp [setBoth, hc]

/-- **no_send_on_closed.** No send on a closed signal channel ever happens (the Go program would
    panic): neither Commit's broadcast nor Stream.Close's wake-up send. -/
theorem no_send_on_closed {s : State} (hr : Reachable s) (sid : StreamId) :
    (s.streams sid).panic = false :=
  ((reachable_inv hr).sg sid).2.2.2.2

/-- **delivered_exact** (no retention: no commit trimmed). The delivered sequence of a stream is
    exactly the scope-filtered slice of the change log after the start position up to the stream's
    position (`last`), in commit order. -/
theorem delivered_exact {s : State} (hr : Reachable s) (sid : StreamId) (hnt : s.trimmed = false) :
    (s.streams sid).startPos ≤ (s.streams sid).pos ∧ (s.streams sid).pos ≤ s.committed.length ∧
    (s.streams sid).delivered =
      expected (s.streams sid).handle s.committed (s.streams sid).startPos (s.streams sid).pos :=
  ((reachable_inv hr).d sid).2.2.2.2 (.inl hnt)

/-- `delivered_exact` / `lost_position_explicit_partial` in id form: delivered = the committed events
    `e` with `startPos < e.id ≤ pos` that are in scope, in commit order. -/
theorem delivered_exact_ids {s : State} (hr : Reachable s) (sid : StreamId)
    (hp : s.trimmed = false ∨ (s.streams sid).nilStart = false) :
    (s.streams sid).delivered =
      s.committed.filter (fun e => decide ((s.streams sid).startPos < e.id) &&
        decide (e.id ≤ (s.streams sid).pos) && inScope (s.streams sid).handle e) := by
  have i := reachable_inv hr
  rw [((i.d sid).2.2.2.2 hp).2.2, expected_eq_filter i.g.1]
  rfl

/-- **lost_position_explicit_partial** (retention allowed). For a stream that Watch positioned at an
    existing event (`nilStart = false`: start = now on a non-empty oplog, resume token, start time
    after the first retained event), `last` stays an event forever and NO event is ever skipped:
    delivered is exactly the scope-filtered slice up to its position, whatever retention does.
    (When the position was discarded the lookup fails and `next` sets `error := lost`:
    `lost_lookup_fails`.)
    Missing w.r.t. the full statement: streams with `nilStart = true`; for those the property is
    FALSE in the code, see `lost_position_explicit_fails_for_nil_last`. -/
theorem lost_position_explicit_partial {s : State} (hr : Reachable s) (sid : StreamId)
    (hns : (s.streams sid).nilStart = false) :
    (s.streams sid).last ≠ none ∧
    (s.streams sid).startPos ≤ (s.streams sid).pos ∧ (s.streams sid).pos ≤ s.committed.length ∧
    (s.streams sid).delivered =
      expected (s.streams sid).handle s.committed (s.streams sid).startPos (s.streams sid).pos :=
  ⟨((reachable_inv hr).d sid).2.1 hns, ((reachable_inv hr).d sid).2.2.2.2 (.inr hns)⟩

/-- the explicit failure: when `last` is an event that is no longer in the oplog, the consumer's
    read step moves to the lost-position exit, whose step sets `error := lost`, closes and
    deregisters the stream and returns false -/
theorem lost_lookup_fails {s : State} {a : ActorId} {sid : StreamId} {block : Bool} {e : Event}
    (hpc : (s.actors a).pc = .nRead sid block) (hl : (s.streams sid).last = some e)
    (hgone : e ∉ s.oplog) :
    ∃ s1 s2, step s a .tau = some s1 ∧ step s1 a .tau = some s2 ∧
      (s2.streams sid).error = some .lost ∧ (s2.streams sid).closed = true ∧
      (s2.streams sid).registered = false ∧ (s2.actors a).ret = some false ∧
      (s2.streams sid).delivered = (s.streams sid).delivered := by
  have h1 : stepNRead s a sid block false = setActor s a { pc := .nLost sid, ret := none } := by
    simp [stepNRead, lookupNext, hl, hgone]
  refine ⟨stepNRead s a sid block false, stepNLost (stepNRead s a sid block false) a sid,
    by simp only [step, hpc], ?_, ?_⟩
  · rw [h1]; simp only [step, setActor, upd_same]
  · rw [h1]; simp [setActor, stepNLost, setBoth]

/-- the lost-position error is truthful: it is only ever set on a stream whose `last` is an event
    that retention has removed from the oplog -/
theorem lost_error_truthful {s : State} (hr : Reachable s) (sid : StreamId)
    (he : (s.streams sid).error = some .lost) :
    ∃ e, (s.streams sid).last = some e ∧ e ∉ s.oplog ∧ e ∈ s.committed ∧
      (s.streams sid).closed = true := by
  have i := reachable_inv hr
  obtain ⟨h1, h2⟩ := i.l.2 sid he
  cases hl : (s.streams sid).last with
  | none => exact absurd hl h1
  | some e =>
    exact ⟨e, rfl, h2 e hl, (i.d sid).1 e hl, (i.v3 sid).2 he⟩

/-- **no skipping**, the form used for the negative result: under the hypotheses of
    `delivered_exact` or `lost_position_explicit_partial`, every in-scope committed event with
    `startPos < id ≤ pos` is in `delivered`. -/
theorem no_skip {s : State} (hr : Reachable s) (sid : StreamId)
    (hp : s.trimmed = false ∨ (s.streams sid).nilStart = false)
    {e : Event} (he : e ∈ s.committed) (hs : inScope (s.streams sid).handle e = true)
    (h1 : (s.streams sid).startPos < e.id) (h2 : e.id ≤ (s.streams sid).pos) :
    e ∈ (s.streams sid).delivered := by
  rw [delivered_exact_ids hr sid hp, List.mem_filter, Bool.and_eq_true, Bool.and_eq_true,
    decide_eq_true_eq, decide_eq_true_eq]
  exact ⟨he, ⟨h1, h2⟩, hs⟩

/-- delivered events are in commit order, each once (strictly increasing ids), all in scope and
    committed -/
theorem delivered_in_order_once {s : State} (hr : Reachable s) (sid : StreamId)
    (hp : s.trimmed = false ∨ (s.streams sid).nilStart = false) :
    (s.streams sid).delivered.Pairwise (fun x y => x.id < y.id) ∧
    ∀ e ∈ (s.streams sid).delivered, e ∈ s.committed ∧ inScope (s.streams sid).handle e = true ∧
      (s.streams sid).startPos < e.id ∧ e.id ≤ (s.streams sid).pos := by
  have hids := committed_ids hr
  have hpw : s.committed.Pairwise (fun x y => x.id < y.id) := by
    rw [List.pairwise_iff_getElem]
    intro a b ha hb hab
    have h1 := hids a _ (List.getElem?_eq_getElem ha)
    have h2 := hids b _ (List.getElem?_eq_getElem hb)
    omega
  rw [delivered_exact_ids hr sid hp]
  refine ⟨hpw.sublist List.filter_sublist, fun e he => ?_⟩
  rw [List.mem_filter, Bool.and_eq_true, Bool.and_eq_true, decide_eq_true_eq, decide_eq_true_eq] at he
  exact ⟨he.1, he.2.2, he.2.1.1, he.2.1.2⟩

/-- **resume_next.** A stream started with the resume token of event `k` (present in the oplog)
    has start position `k`, and what it has delivered is a prefix of the scope-filtered events
    after `k`: its first delivered event is the first in-scope event after `k` (event `k+1` if in
    scope), the second the next one, etc. Holds with retention too (a resumed stream never has a nil
    position); if the position is lost the stream stops with the explicit error instead. -/
theorem resume_next {s : State} (hr : Reachable s) (sid : StreamId) (k : Nat)
    (hspec : (s.streams sid).spec = .token k) :
    (s.streams sid).startPos = k ∧
    ∃ rest, (s.committed.drop k).filter (inScope (s.streams sid).handle) =
      (s.streams sid).delivered ++ rest := by
  have i := reachable_inv hr
  obtain ⟨hk, hns⟩ := (i.d sid).2.2.2.1 k hspec
  refine ⟨hk, ((s.committed.drop k).drop (posOf (s.streams sid).last k - k)).filter
    (inScope (s.streams sid).handle), ?_⟩
  rw [((i.d sid).2.2.2.2 (.inr hns)).2.2, hk, expected, List.drop_take, ← List.filter_append,
    List.take_append_drop]

/-- first delivered event of a resumed stream = first in-scope event after the token -/
theorem resume_first {s : State} (hr : Reachable s) (sid : StreamId) (k : Nat)
    (hspec : (s.streams sid).spec = .token k) (hne : (s.streams sid).delivered ≠ []) :
    (s.streams sid).delivered.head? =
      ((s.committed.drop k).filter (inScope (s.streams sid).handle)).head? := by
  obtain ⟨_, rest, h⟩ := resume_next hr sid k hspec
  rw [h]
  cases hd : (s.streams sid).delivered with
  | nil => exact absurd hd hne
  | cons x xs => rfl

/-- `dropped` is set exactly by delivering an in-scope drop (collection stream) / dropDatabase
    event, which is then the last delivered event; before that no delivered event is such a drop -/
theorem dropped_iff_last_delivered {s : State} (hr : Reachable s) (sid : StreamId) :
    ((s.streams sid).dropped = false →
       ∀ e ∈ (s.streams sid).delivered, setsDropped (s.streams sid).handle e = false) ∧
    ((s.streams sid).dropped = true →
       ∃ pre e, (s.streams sid).delivered = pre ++ [e] ∧
         setsDropped (s.streams sid).handle e = true ∧
         ∀ e' ∈ pre, setsDropped (s.streams sid).handle e' = false) :=
  (reachable_inv hr).v sid

/-- **invalidate_on_drop**, step part: once `dropped` is set, the next `next` call that gets the
    mutex (stream neither closed nor in error) returns true with the invalidate event, closes and
    deregisters the stream and delivers no change-log event. -/
theorem invalidate_on_drop {s : State} {a : ActorId} {sid : StreamId} {block : Bool}
    (hpc : (s.actors a).pc = .nLock sid block) (hmx : (s.streams sid).mutex = none)
    (hd : (s.streams sid).dropped = true) (hc : (s.streams sid).closed = false)
    (he : (s.streams sid).error = none) :
    ∃ s', step s a .tau = some s' ∧ (s'.actors a).ret = some true ∧ (s'.actors a).pc = .idle ∧
      (s'.streams sid).event = .invalidate ∧ (s'.streams sid).invalidated = true ∧
      (s'.streams sid).closed = true ∧ (s'.streams sid).registered = false ∧
      (s'.streams sid).delivered = (s.streams sid).delivered := by
  refine ⟨_, by simp only [step, hpc, stepNLock, hmx, hd, hc, he]; simp; rfl, ?_⟩
  simp [setBoth]

/-- **invalidate_on_drop**, history part: after `dropped` is set nothing else is ever delivered on
    the stream (only the synthetic invalidate can follow); an invalidated stream is closed and stays
    invalidated and closed. -/
theorem nothing_after_drop {s s' : State} (hr : Reachable s) (hs : Steps s s') (sid : StreamId)
    (hd : (s.streams sid).dropped = true) :
    (s'.streams sid).delivered = (s.streams sid).delivered ∧ (s'.streams sid).dropped = true :=
  (frozen hr hs sid).1 hd

theorem invalidated_closed {s : State} (hr : Reachable s) (sid : StreamId)
    (hv : (s.streams sid).invalidated = true) :
    (s.streams sid).closed = true ∧ (s.streams sid).dropped = true :=
  ((reachable_inv hr).v3 sid).1 hv

theorem invalidated_stable {s s' : State} (hr : Reachable s) (hs : Steps s s') (sid : StreamId)
    (hv : (s.streams sid).invalidated = true) :
    (s'.streams sid).invalidated = true ∧
    (s'.streams sid).delivered = (s.streams sid).delivered :=
  ⟨(frozen hr hs sid).2.2 hv, ((frozen hr hs sid).1 (invalidated_closed hr sid hv).2).1⟩

/-- a closed stream (Stream.Close, Engine.Close, lost position, invalidate) delivers nothing more -/
theorem nothing_after_close {s s' : State} (hr : Reachable s) (hs : Steps s s') (sid : StreamId)
    (hc : (s.streams sid).closed = true) (hx : sid ∈ s.created) :
    (s'.streams sid).delivered = (s.streams sid).delivered ∧ (s'.streams sid).closed = true :=
  ⟨((frozen hr hs sid).2.1 hc hx).1, ((frozen hr hs sid).2.1 hc hx).2.1⟩


/-! ## the negative result: nil start position + retention = silent skipping -/

/-- an insert into collection 0 of database 0 -/
def pIns : Proto := ⟨0, some 0, .normal⟩

/-- Watch(now) on an empty oplog (last = nil, start position 0); commit event 1; commit event 2
    while retention discards event 1; then `Next`. -/
def nilTrace : List (ActorId × Choice) :=
  [ (0, .call (.watch 0 (none, none) .now)),
    (1, .commit [pIns] 0),
    (1, .commit [pIns] 1),
    (0, .call (.next 0 true)), (0, .tau), (0, .tau) ]

/-- **lost_position_explicit is FALSE for a stream whose `last` is nil**: reachable state in which an
    in-scope event committed after the start position (event 1) lies before the stream's position,
    was never delivered, `Next` returned true with event 2 instead, and no error is set. -/
theorem lost_position_explicit_fails_for_nil_last :
    ∃ s, Reachable s ∧ ∃ sid e, e ∈ s.committed ∧ inScope (s.streams sid).handle e = true ∧
      (s.streams sid).startPos < e.id ∧ e.id ≤ (s.streams sid).pos ∧
      e ∉ (s.streams sid).delivered ∧ (s.streams sid).error = none ∧
      (s.streams sid).closed = false ∧ (s.streams sid).nilStart = true ∧
      (s.streams sid).delivered.map (·.id) = [2] ∧ (s.actors 0).ret = some true :=
  ⟨runD nilTrace, runD_reachable (by decide), 0, ⟨1, 0, some 0, .normal⟩, by decide⟩

/-- commit events 1..3, retention keeps only event 3; Watch with start time 2 (≤ first retained
    event, so last = nil); `Next` returns event 3: event 2 (at/after the start time) is skipped
    without an error — the same defect reached through `startAtOperationTime`. -/
def timeTrace : List (ActorId × Choice) :=
  [ (1, .commit [pIns] 0),
    (1, .commit [pIns, pIns] 2),
    (0, .call (.watch 0 (none, none) (.time 2))),
    (0, .call (.next 0 true)), (0, .tau), (0, .tau) ]

theorem start_time_before_oplog_skips_silently :
    ∃ s, Reachable s ∧ ∃ sid e, e ∈ s.committed ∧ inScope (s.streams sid).handle e = true ∧
      (s.streams sid).startPos < e.id ∧ e.id ≤ (s.streams sid).pos ∧
      e ∉ (s.streams sid).delivered ∧ (s.streams sid).error = none ∧
      (s.streams sid).delivered.map (·.id) = [3] :=
  ⟨runD timeTrace, runD_reachable (by decide), 0, ⟨2, 0, some 0, .normal⟩, by decide⟩

/-! ## why `multi = false` is a hypothesis of the wake-up theorems -/

/-- two goroutines block in `Next` on the SAME stream; Stream.Close sends one wake-up token; the
    second consumer stays parked on a closed stream with an empty slot and nobody about to send.
    (mongo-driver's ChangeStream is not safe for concurrent use, so this is outside the intended use;
    it is the reason for the explicit single-consumer hypothesis `multi = false`.) -/
def twoConsumersTrace : List (ActorId × Choice) :=
  [ (0, .call (.watch 0 (none, none) .now)),
    (0, .call (.next 0 true)), (0, .tau), (0, .tau), (0, .tau),
    (1, .call (.next 0 true)), (1, .tau), (1, .tau), (1, .tau),
    (2, .call (.closeStream 0)), (2, .tau), (2, .tau),
    (0, .recv), (0, .tau) ]

theorem single_consumer_needed :
    ∃ s, Reachable s ∧ ∃ a sid r, (s.actors a).pc = .parked sid r ∧
      (s.streams sid).closed = true ∧ (s.streams sid).multi = true ∧
      (s.streams sid).signal = .empty ∧ (s.streams sid).mutex = none ∧
      (step s a .recv).isSome = false :=
  ⟨runD twoConsumersTrace, runD_reachable (by decide), 1, 0, 0, by decide⟩

/-! ## non-vacuity: concrete runs that meet the hypotheses non-trivially -/

/-- consumer parks on an empty stream, then a writer commits -/
def parkTrace : List (ActorId × Choice) :=
  [ (0, .call (.watch 0 (none, none) .now)),
    (0, .call (.next 0 true)), (0, .tau), (0, .tau), (0, .tau),
    (1, .commit [pIns] 0) ]

-- no_lost_wakeup (commit): hypotheses hold, wake-up enabled, and the woken consumer gets event 1
example : (run init parkTrace).isSome = true ∧
    ((runD parkTrace).actors 0).pc = .parked 0 0 ∧ ((runD parkTrace).streams 0).multi = false ∧
    0 < (runD parkTrace).version ∧ (step (runD parkTrace) 0 .recv).isSome = true ∧
    ((runD (parkTrace ++ [(0, .recv), (0, .tau), (0, .tau)])).streams 0).delivered.map (·.id) = [1] := by
  decide

-- no_lost_wakeup_event: the oplog now holds event 1 after the parked consumer's nil position
example : nextEvent ((runD parkTrace).streams 0).last (runD parkTrace).oplog =
    some (some ⟨1, 0, some 0, .normal⟩) := by
  decide

-- no_lost_wakeup (Stream.Close, second disjunct): the closer holds the mutex before its send
example : ((runD (parkTrace.take 5 ++ [(1, .call (.closeStream 0)), (1, .tau)])).actors 0).pc = .parked 0 0 ∧
    ((runD (parkTrace.take 5 ++ [(1, .call (.closeStream 0)), (1, .tau)])).streams 0).closed = true ∧
    ((runD (parkTrace.take 5 ++ [(1, .call (.closeStream 0)), (1, .tau)])).streams 0).signal = .empty ∧
    ((runD (parkTrace.take 5 ++ [(1, .call (.closeStream 0)), (1, .tau)])).actors 1).pc = .cSend 0 ∧
    ((runD (parkTrace.take 5 ++ [(1, .call (.closeStream 0)), (1, .tau), (1, .tau), (0, .recv), (0, .tau)])).actors 0).ret = some false := by
  decide

-- no_lost_wakeup_gap: the writer lands between the consumer's oplog read and its park
example : ((runD (parkTrace.take 4 ++ [(1, .commit [pIns] 0)])).actors 0).pc = .nGap 0 0 ∧
    0 < (runD (parkTrace.take 4 ++ [(1, .commit [pIns] 0)])).version ∧
    ((runD (parkTrace.take 4 ++ [(1, .commit [pIns] 0)])).streams 0).signal = .full := by
  decide

-- wake_by_ctx / wake_by_engine_close: parked consumer, engine closed by actor 1
example : ((runD (parkTrace.take 5 ++ [(1, .call .closeEngine)])).actors 0).pc = .parked 0 0 ∧
    (runD (parkTrace.take 5 ++ [(1, .call .closeEngine)])).alive = false ∧
    ((runD (parkTrace.take 5 ++ [(1, .call .closeEngine)])).actors 1).pc = .eLoop [0] ∧
    ((runD (parkTrace.take 5 ++ [(1, .call .closeEngine), (1, .tau)])).streams 0).signal = .closed ∧
    ((runD (parkTrace.take 5 ++ [(1, .call .closeEngine), (1, .tau), (0, .recv), (0, .tau)])).actors 0).ret = some false ∧
    ((runD (parkTrace.take 5 ++ [(0, .ctxDone), (0, .tau)])).streams 0).error = some .ctx := by
  decide

/-- database stream on db 0; events: db0/c0, db1/c0 (out of scope), db0/c1, consumed one by one -/
def exactTrace : List (ActorId × Choice) :=
  [ (0, .call (.watch 0 (some 0, none) .now)),
    (1, .commit [⟨0, some 0, .normal⟩, ⟨1, some 0, .normal⟩] 0),
    (0, .call (.next 0 false)), (0, .tau), (0, .tau),
    (1, .commit [⟨0, some 1, .normal⟩] 0),
    (0, .call (.next 0 false)), (0, .tau), (0, .tau), (0, .tau), (0, .tau) ]

-- delivered_exact: no trim, delivered = [1, 3] (event 2 out of scope), position 3
example : (run init exactTrace).isSome = true ∧ (runD exactTrace).trimmed = false ∧
    ((runD exactTrace).streams 0).delivered.map (·.id) = [1, 3] ∧
    ((runD exactTrace).streams 0).pos = 3 ∧ ((runD exactTrace).streams 0).startPos = 0 := by
  decide

/-- stream opened at event 1 (now on a non-empty oplog); retention discards event 1 and 2 before the
    consumer reads: explicit lost-position error -/
def lostTrace : List (ActorId × Choice) :=
  [ (1, .commit [pIns] 0),
    (0, .call (.watch 0 (none, none) .now)),
    (1, .commit [pIns, pIns] 2),
    (0, .call (.next 0 true)), (0, .tau), (0, .tau), (0, .tau) ]

-- lost_position_explicit_partial / lost_lookup_fails: nilStart = false, trimmed, error = lost
example : (run init lostTrace).isSome = true ∧ ((runD lostTrace).streams 0).nilStart = false ∧
    (runD lostTrace).trimmed = true ∧ ((runD lostTrace).streams 0).error = some .lost ∧
    ((runD lostTrace).streams 0).delivered = [] ∧ ((runD lostTrace).actors 0).ret = some false ∧
    (runD lostTrace).oplog.map (·.id) = [3] := by
  decide

-- ... and with retention that does not reach the position, delivery continues exactly
example : ((runD [ (1, .commit [pIns, pIns] 0), (0, .call (.watch 0 (none, none) .now)),
      (1, .commit [pIns, pIns] 1), (0, .call (.next 0 true)), (0, .tau), (0, .tau) ]).streams 0).delivered.map (·.id) = [3] ∧
    ((runD [ (1, .commit [pIns, pIns] 0), (0, .call (.watch 0 (none, none) .now)),
      (1, .commit [pIns, pIns] 1), (0, .call (.next 0 true)), (0, .tau), (0, .tau) ]).streams 0).nilStart = false := by
  decide

/-- resume after event 1 with events 1..3 in the oplog (2 out of scope for the collection stream) -/
def resumeTrace : List (ActorId × Choice) :=
  [ (1, .commit [⟨0, some 0, .normal⟩, ⟨0, some 1, .normal⟩, ⟨0, some 0, .normal⟩] 0),
    (0, .call (.watch 0 (some 0, some 0) (.token 1))),
    (0, .call (.next 0 true)), (0, .tau), (0, .tau), (0, .tau), (0, .tau) ]

-- resume_next: spec = token 1, first delivered = event 3 = first in-scope event after 1
example : (run init resumeTrace).isSome = true ∧
    ((runD resumeTrace).streams 0).spec = .token 1 ∧
    ((runD resumeTrace).streams 0).delivered.map (·.id) = [3] := by
  decide

/-- collection stream; its collection is dropped; Next returns the drop, then the invalidate -/
def dropTrace : List (ActorId × Choice) :=
  [ (0, .call (.watch 0 (some 0, some 0) .now)),
    (1, .commit [⟨0, some 0, .drop⟩, ⟨0, some 0, .normal⟩] 0),
    (0, .call (.next 0 true)), (0, .tau), (0, .tau) ]

-- invalidate_on_drop: hypotheses of the step theorem hold after delivering the drop, and the
-- following Next yields the invalidate; event 2 is never delivered
example : (run init dropTrace).isSome = true ∧ ((runD dropTrace).streams 0).dropped = true ∧
    ((runD dropTrace).streams 0).closed = false ∧ ((runD dropTrace).streams 0).error = none ∧
    ((runD dropTrace).streams 0).delivered.map (·.id) = [1] ∧
    ((runD (dropTrace ++ [(0, .call (.next 0 true)), (0, .tau)])).streams 0).event = .invalidate ∧
    ((runD (dropTrace ++ [(0, .call (.next 0 true)), (0, .tau)])).streams 0).invalidated = true ∧
    ((runD (dropTrace ++ [(0, .call (.next 0 true)), (0, .tau)])).actors 0).ret = some true ∧
    ((runD (dropTrace ++ [(0, .call (.next 0 true)), (0, .tau), (0, .call (.next 0 true)), (0, .tau)])).actors 0).ret = some false ∧
    ((runD (dropTrace ++ [(0, .call (.next 0 true)), (0, .tau), (0, .call (.next 0 true)), (0, .tau)])).streams 0).delivered.map (·.id) = [1] := by
  decide

-- a collection stream on db 0 / coll 0 is invalidated by dropDatabase of db 0 (event without ns.coll)
example : ((runD [ (0, .call (.watch 0 (some 0, some 0) .now)), (1, .commit [⟨0, none, .dropDatabase⟩] 0),
      (0, .call (.next 0 true)), (0, .tau), (0, .tau) ]).streams 0).dropped = true := by
  decide

-- no_send_on_closed is not vacuous: Stream.Close after Engine.Close closed the signal skips its send
example : ((runD (parkTrace.take 1 ++ [(1, .call .closeEngine), (1, .tau), (1, .tau),
      (1, .call (.closeStream 0)), (1, .tau)])).streams 0).signal = .closed ∧
    ((runD (parkTrace.take 1 ++ [(1, .call .closeEngine), (1, .tau), (1, .tau),
      (1, .call (.closeStream 0)), (1, .tau)])).actors 1).pc = .idle ∧
    (run init (parkTrace.take 1 ++ [(1, .call .closeEngine), (1, .tau), (1, .tau),
      (1, .call (.closeStream 0)), (1, .tau)])).isSome = true := by
  decide

end Lungo.StreamTS
