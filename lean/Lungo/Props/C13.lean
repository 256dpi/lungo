/-
  Lungo.Props.C13 — "Sort, skip, limit and distinct".

  List level: what `bsonkit.Sort` / `mongokit.Sort` (model: `sortDocs`, `order`, `sortKey`,
  `columns`) and `mongokit.Distinct` (model: `Distinct`, `collect`, `dedupSorted`) do to a list of
  documents.  Collection level, below it: the find/skip/limit window over the collection model.

  The lemmas are in Lungo/Proofs/SortLaws.lean — the sorting theorems there hold for any comparator that
  is a total preorder on a subset, `order · · cols` is the instance (`order_preorder`) — and
  Lungo/Proofs/FindLaws.lean; the order laws come from C12 (`V.cmp` is a lawful
  total preorder on values whose int64 payloads are in range, `V.i64Ok`).  Accordingly the theorems
  that need transitivity carry the hypothesis `∀ d ∈ list, (V.doc d).i64Ok = true` (implied by
  `V.wf`; every Go document satisfies it).

  Modelling notes (trusted, see Model/Sort.lean): Go's `sort.SliceStable` is modelled by core's
  `List.mergeSort`; the theorems below pin its result down uniquely (`sort_unique`), so any stable
  sorting routine yields the same list.  `sort.Slice` inside `Collect` (unstable) is modelled by the
  same function; its output is only used modulo `cmp = .eq`.
-/
import Lungo.Proofs.SortLaws
import Lungo.Proofs.FindLaws
import Lungo.Props.C12
namespace Lungo.C13
open Lungo Lungo.Ord

/-! # List level -/

/-! ### The comparison `order` (bsonkit.Order) is a total preorder -/

/-- Every document ties with itself. -/
theorem order_refl (cols : List Column) (a : Doc) : order a a cols = .eq := Lungo.order_refl cols a

/-- Swapping the documents flips the result (totality: one of `a ≤ b`, `b ≤ a` always holds). -/
theorem order_swap (cols : List Column) (a b : Doc) : order b a cols = (order a b cols).swap :=
  Lungo.order_swap cols a b

/-- `≤` is transitive on documents with in-range int64 payloads. -/
theorem order_trans (cols : List Column) (a b d : Doc)
    (oa : (V.doc a).i64Ok = true) (ob : (V.doc b).i64Ok = true) (od : (V.doc d).i64Ok = true) :
    order a b cols ≠ .gt → order b d cols ≠ .gt → order a d cols ≠ .gt :=
  Lungo.order_trans cols a b d oa ob od

/-- Tied documents are interchangeable in every comparison. -/
theorem order_congr (cols : List Column) (a a' b : Doc)
    (oa : (V.doc a).i64Ok = true) (oa' : (V.doc a').i64Ok = true) (ob : (V.doc b).i64Ok = true) :
    order a a' cols = .eq → order a b cols = order a' b cols :=
  Lungo.order_congr cols a a' b oa oa' ob

/-- The specification's per-field rule: compare the columns lexicographically; each column compares
    the sort keys in BSON order, reversed for a descending column. -/
theorem order_lexicographic (l r : Doc) (col : Column) (cols : List Column) :
    order l r (col :: cols) =
      ((if col.reverse then (V.cmp (sortKey (Get l col.path) col.reverse)
                                   (sortKey (Get r col.path) col.reverse)).swap
        else V.cmp (sortKey (Get l col.path) col.reverse) (sortKey (Get r col.path) col.reverse)).then
        (order l r cols)) :=
  Lungo.order_cons l r col cols

/-- One ascending column is the BSON order of the ascending sort keys … -/
theorem order_ascending (l r : Doc) (p : String) :
    order l r [⟨p, false⟩] = V.cmp (sortKey (Get l p) false) (sortKey (Get r p) false) :=
  by simp only [order]; cases V.cmp (sortKey (Get l p) false) (sortKey (Get r p) false) <;> rfl

/-- … and one descending column is the reversed BSON order of the descending sort keys. -/
theorem order_reverse (l r : Doc) (p : String) :
    order l r [⟨p, true⟩] = (V.cmp (sortKey (Get l p) true) (sortKey (Get r p) true)).swap :=
  by simp only [order]; cases V.cmp (sortKey (Get l p) true) (sortKey (Get r p) true) <;> rfl

/-! ### Sort keys: arrays by smallest element ascending, largest descending; missing as null -/

/-- Ascending: the key of a non-empty array is one of its elements and no element is smaller. -/
theorem sortKey_spec_ascending (x : V) (rest : List V) (ok : (V.arr (x :: rest)).i64Ok = true) :
    sortKey (.arr (x :: rest)) false ∈ x :: rest ∧
      ∀ y ∈ x :: rest, V.cmp (sortKey (.arr (x :: rest)) false) y ≠ .gt :=
  sortKey_asc_spec x rest (by simpa [V.i64Ok] using ok)

/-- Descending: the key of a non-empty array is one of its elements and no element is larger. -/
theorem sortKey_spec_descending (x : V) (rest : List V) (ok : (V.arr (x :: rest)).i64Ok = true) :
    sortKey (.arr (x :: rest)) true ∈ x :: rest ∧
      ∀ y ∈ x :: rest, V.cmp y (sortKey (.arr (x :: rest)) true) ≠ .gt :=
  sortKey_desc_spec x rest (by simpa [V.i64Ok] using ok)

/-- Non-arrays (including Missing) and the empty array are their own key, in both directions. -/
theorem sortKey_spec_other (v : V) (r : Bool) (h : v.isArr = false ∨ v = .arr []) : sortKey v r = v := by
  rcases h with h | rfl
  · exact sortKey_nonarr v r h
  · rfl

/-- Missing and null compare equal, and Missing behaves like null against every value. -/
theorem missing_is_null (x : V) :
    V.cmp .missing .null = .eq ∧ V.cmp .missing x = V.cmp .null x ∧ V.cmp x .missing = V.cmp x .null :=
  ⟨V.cmp_missing_null, V.cmp_missing_left x, V.cmp_missing_right x⟩

/-- A document lacking sort fields sorts exactly like the document holding `null` at them:
    if `l'` agrees with `l` on every sort path except that missing ones read `null`,
    the two are indistinguishable for `order` (left argument; the right one follows by `order_swap`). -/
theorem order_missing_as_null (l l' r : Doc) (cols : List Column)
    (h : ∀ c ∈ cols, Get l' c.path = nullify (Get l c.path)) : order l r cols = order l' r cols :=
  Lungo.order_missing_as_null l l' r cols h

/-! ### Sort: a permutation, non-decreasing, stable — and uniquely determined by that -/

/-- The sorted list has exactly the input documents (as a multiset). -/
theorem sort_perm (list : List Doc) (cols : List Column) : (sortDocs list cols).Perm list :=
  sortDocs_perm list cols

/-- No earlier result is greater than a later one (all pairs, hence consecutive ones). -/
theorem sort_nondecreasing (list : List Doc) (cols : List Column)
    (ok : ∀ d ∈ list, (V.doc d).i64Ok = true) :
    (sortDocs list cols).Pairwise (fun a b => order a b cols ≠ .gt) :=
  stableSort_pairwise (order_preorder cols) list ok

/-- The same by positions. -/
theorem sort_nondecreasing_index (list : List Doc) (cols : List Column)
    (ok : ∀ d ∈ list, (V.doc d).i64Ok = true) (i j : Nat) (hij : i < j)
    (hj : j < (sortDocs list cols).length) :
    order ((sortDocs list cols)[i]'(Nat.lt_trans hij hj)) ((sortDocs list cols)[j]) cols ≠ .gt :=
  List.pairwise_iff_getElem.mp (sort_nondecreasing list cols ok) i j (Nat.lt_trans hij hj) hj hij

/-- Consecutive results never decrease. -/
theorem sort_consecutive (list : List Doc) (cols : List Column)
    (ok : ∀ d ∈ list, (V.doc d).i64Ok = true) (i : Nat) (hi : i + 1 < (sortDocs list cols).length) :
    order ((sortDocs list cols)[i]'(Nat.lt_of_succ_lt hi)) ((sortDocs list cols)[i + 1]) cols ≠ .gt :=
  sort_nondecreasing_index list cols ok i (i + 1) (Nat.lt_succ_self i) hi

/-- Stability, pairwise: if `a` precedes `b` in the input and `a` is not greater than `b`
    (in particular if they tie), `a` precedes `b` in the result. -/
theorem sort_stable (list : List Doc) (cols : List Column) (ok : ∀ d ∈ list, (V.doc d).i64Ok = true)
    (a b : Doc) (hab : order a b cols ≠ .gt) (h : [a, b].Sublist list) :
    [a, b].Sublist (sortDocs list cols) :=
  stableSort_sublist (order_preorder cols) list ok (List.pairwise_pair.mpr hab) h

/-- Ties are kept in insertion order: the documents tied with `a` occur in the result exactly as in
    the input (same documents, same multiplicity, same relative order). -/
theorem ties_in_insertion_order (list : List Doc) (cols : List Column)
    (ok : ∀ d ∈ list, (V.doc d).i64Ok = true) (a : Doc) (oa : (V.doc a).i64Ok = true) :
    (sortDocs list cols).filter (fun b => order a b cols == .eq) =
      list.filter (fun b => order a b cols == .eq) :=
  stableSort_ties (order_preorder cols) list ok a oa

/-- Every non-decreasing sublist of the input survives as a sublist of the output. -/
theorem sort_keeps_sorted_sublists (list : List Doc) (cols : List Column)
    (ok : ∀ d ∈ list, (V.doc d).i64Ok = true) (ys : List Doc)
    (hp : ys.Pairwise (fun a b => order a b cols ≠ .gt)) (hs : ys.Sublist list) :
    ys.Sublist (sortDocs list cols) :=
  stableSort_sublist (order_preorder cols) list ok hp hs

/-- The three facts above determine the result: ANY list that is a permutation of the input,
    non-decreasing, and keeps every tie class in input order is `sortDocs list cols`.  Hence the
    choice of core's `List.mergeSort` as the model of Go's `sort.SliceStable` is immaterial. -/
theorem sort_unique (list : List Doc) (cols : List Column) (ok : ∀ d ∈ list, (V.doc d).i64Ok = true)
    (l' : List Doc) (hp : l'.Perm list) (hs : l'.Pairwise (fun a b => order a b cols ≠ .gt))
    (ht : ∀ a ∈ list, l'.filter (fun b => order a b cols == .eq) =
      list.filter (fun b => order a b cols == .eq)) :
    l' = sortDocs list cols :=
  stableSort_unique (order_preorder cols) list ok l' hp hs ht

/-- `mongokit.Sort`: a valid specification sorts by its columns; an invalid one is an error and
    nothing else happens. -/
theorem sortBySpec_spec (list : List Doc) (spec : Doc) :
    (∀ cols, columns spec = .ok cols → sortBySpec list spec = .ok (sortDocs list cols)) ∧
    (∀ e, columns spec = .error e → sortBySpec list spec = .error e) := by
  constructor <;> intro x h <;> simp [sortBySpec, h]

/-- A specification of int32 directions ±1 yields one column per entry, `-1` descending. -/
theorem columns_int32 (spec : List (String × Int)) (h : ∀ kv ∈ spec, kv.2 = 1 ∨ kv.2 = -1) :
    columns (spec.map fun kv => (kv.1, V.i32 kv.2)) =
      .ok (spec.map fun kv => { path := kv.1, reverse := kv.2 == -1 }) := by
  induction spec with
  | nil => rfl
  | cons kv r ih =>
    have h1 := h kv (by simp)
    have ih' := ih (fun kv hkv => h kv (by simp [hkv]))
    simp only [List.map_cons, columns, ih']
    rcases h1 with e | e <;> simp [e]

/-! ### Distinct: each occurring value exactly once, ascending -/

/-- The result is strictly ascending in BSON order — so no two results are `cmp`-equal
    ("exactly once") and adjacent results increase. -/
theorem distinct_ascending (list : List Doc) (path : String)
    (ok : ∀ d ∈ list, (V.doc d).i64Ok = true) :
    (Distinct list path).Pairwise (fun a b => V.cmp a b = .lt) :=
  Distinct_strict list path ok

/-- Every result is one of the collected values (the value at the path, array elements
    individually, in the given documents). -/
theorem distinct_sound (list : List Doc) (path : String) :
    ∀ v ∈ Distinct list path, v ∈ collected list path :=
  Distinct_sound list path

/-- Every collected value is represented: some result compares equal to it. -/
theorem distinct_complete (list : List Doc) (path : String) :
    ∀ v ∈ collected list path, ∃ w ∈ Distinct list path, V.cmp v w = .eq :=
  Distinct_complete list path

/-- What is collected.  For a path (without empty segments) that meets no array strictly inside
    the documents, each document contributes: nothing if the path is missing, the elements if the
    value is an array, else the value itself — in document order.

    `collect_elements_partial`: the full statement would also describe paths that fan out over
    arrays of sub-documents (`All` with merge); there `collected` is defined by the model function
    `All` (validated against bsonkit.All by the `distinct` stream) and no independent
    characterisation is proved.  Missing: a closed form of `get _ _ (collect := true) (compact := true)`
    across arrays (`getCollect`). -/
theorem collect_elements_partial (list : List Doc) (path : String) (hne : "" ∉ splitPath path)
    (h : ∀ d ∈ list, noArrayBefore (.doc d) (splitPath path)) :
    collected list path = list.flatMap (fun d => plainContribution (Get d path)) := by
  rw [collected, List.flatMap_def, List.flatMap_def,
    List.map_congr_left fun d hd => contribution_noArray d path hne (h d hd)]

/-- `Distinct` is `Collect` with compact, merge, flatten, distinct; its pre-deduplication list is
    `Collect` without `distinct`. -/
theorem distinct_is_collect (list : List Doc) (path : String) :
    Distinct list path = dedupSorted ((collect list path true true true false).mergeSort cmpLe) := by
  rw [collect_nodistinct]; exact Distinct_eq list path

/-! ### Tests (evaluated; strings do not reduce in the kernel, so these are `#guard`s, not proofs) -/

section tests
/-- documents: ids 1..6 with a field `a` (numbers of mixed type, an array, null, missing) and `b` -/
def docs : List Doc :=
  [ [("_id", .i32 1), ("a", .i32 3), ("b", .str "x")],
    [("_id", .i32 2), ("a", .arr [.i32 5, .i32 1]), ("b", .str "y")],
    [("_id", .i32 3), ("b", .str "x")],
    [("_id", .i32 4), ("a", .null), ("b", .str "y")],
    [("_id", .i32 5), ("a", .f64 0x4008000000000000), ("b", .str "x")],   -- 3.0
    [("_id", .i32 6), ("a", .i64 2), ("b", .str "x")] ]

def ids (l : List Doc) : List V := l.map (Get · "_id")

-- hypotheses of the theorems hold on the sample
#guard docs.all fun d => (V.doc d).i64Ok
-- ascending by a: missing/null first (tie 3,4 in insertion order), array by its minimum 1, then 2, then 3 = 3.0 (tie 1,5)
#guard ids (sortDocs docs [⟨"a", false⟩]) == [.i32 3, .i32 4, .i32 2, .i32 6, .i32 1, .i32 5]
-- descending by a: array by its maximum 5 first, ties 1,5 and 3,4 still in insertion order
#guard ids (sortDocs docs [⟨"a", true⟩]) == [.i32 2, .i32 1, .i32 5, .i32 6, .i32 3, .i32 4]
-- two columns: b ascending then a descending
#guard ids (sortDocs docs [⟨"b", false⟩, ⟨"a", true⟩]) == [.i32 1, .i32 5, .i32 6, .i32 3, .i32 2, .i32 4]
-- sort keys
#guard sortKey (.arr [.i32 5, .i32 1, .i32 3]) false == .i32 1
#guard sortKey (.arr [.i32 5, .i32 1, .i32 3]) true == .i32 5
#guard sortKey (.arr []) true == .arr [] && sortKey .missing false == .missing
-- the specification parser
#guard (match columns [("b", .i32 1), ("a", .f64 0xBFF0000000000000)] with
        | .ok cs => cs == [⟨"b", false⟩, ⟨"a", true⟩] | _ => false)
#guard (match columns [("b", .i32 2)] with | .error _ => true | _ => false)
-- distinct: 3 and 3.0 once, array elements individually, missing skipped, null kept, ascending
#guard Distinct docs "a" == [.null, .i32 1, .i64 2, .i32 3, .i32 5]
#guard collected docs "a" == [.i32 3, .i32 5, .i32 1, .null, .f64 0x4008000000000000, .i64 2]
#guard docs.flatMap (fun d => plainContribution (Get d "a")) == collected docs "a"
#guard splitPath "a" == ["a"]
end tests

/-! ### Non-vacuity of the hypotheses (kernel-checked where no string operation is involved) -/

example : (V.arr [.i32 5, .i64 1, .f64 0x4008000000000000]).i64Ok = true := by decide
example : ∃ a b : V, V.cmp a b = .lt := ⟨.i32 1, .i32 2, by decide +kernel⟩

/-! # Collection level

  `selectDocs sch c q sort skip limit` is the common prefix of mongokit.Collection.Find / Update /
  Replace / Delete: sort the stored documents (stable), scan them with the filter until
  `limit + skip` matches are found (`filterDocs`, limit 0 = no limit), drop `skip`.
  `Coll.find` is `selectDocs`; `runCall … (.find/.count/.distinct …)` are the driver calls.

  Vocabulary (Proofs/FindLaws.lean): `matchesB sch q sd` — `Match` returns true on the stored
  document; `noMatchError sch q l` — `Match` raises an error on no document of `l`;
  `sortBy sort docs` — `docs` itself for no / an empty sort document, the stable sort by the columns
  of the sort document otherwise (an invalid sort document is an error);
  `windowOf skip limit l` — `l` after dropping `skip`, cut to `limit` elements if `limit > 0`.
-/

/-- `windowOf` is the specification's `take' limit (drop skip ·)`. -/
theorem window_def {α} (skip limit : Int) (l : List α) :
    windowOf skip limit l =
      if limit > 0 then (l.drop skip.toNat).take limit.toNat else l.drop skip.toNat := rfl

/-- `sortBy`, case by case. -/
theorem sortBy_cases (docs : List SDoc) :
    sortBy none docs = .ok docs ∧
    (∀ s, s.isEmpty = true → sortBy (some s) docs = .ok docs) ∧
    (∀ s cols, s.isEmpty = false → columns s = .ok cols →
      sortBy (some s) docs = .ok (sortSDocs docs cols)) ∧
    (∀ s e, s.isEmpty = false → columns s = .error e → sortBy (some s) docs = .error e) := by
  refine ⟨rfl, fun s h => by simp [sortBy, h], fun s cols h hc => by simp [sortBy, h, hc],
    fun s e h hc => by simp [sortBy, h, hc]⟩

/-- The stable sort of stored documents is the list-level sort of their documents (identities
    ride along), and satisfies the list-level laws: permutation, non-decreasing, ties in
    insertion order. -/
theorem sortSDocs_is_sortDocs (list : List SDoc) (cols : List Column)
    (ok : ∀ sd ∈ list, (V.doc sd.doc).i64Ok = true) :
    (sortSDocs list cols).map (·.doc) = sortDocs (list.map (·.doc)) cols ∧
    (sortSDocs list cols).Perm list ∧
    (sortSDocs list cols).Pairwise (fun a b => order a.doc b.doc cols ≠ .gt) ∧
    (∀ a ∈ list, (sortSDocs list cols).filter (fun b => order a.doc b.doc cols == .eq) =
      list.filter (fun b => order a.doc b.doc cols == .eq)) :=
  ⟨sortSDocs_map_doc list cols, stableSort_perm list,
   stableSort_pairwise (sorder_preorder cols) list ok,
   fun a ha => stableSort_ties (sorder_preorder cols) list ok a (ok a ha)⟩

/-- Filtering commutes with the stable sort (for ANY predicate): sorting the matching documents
    gives the matching documents of the sorted list, in the same order. -/
theorem filter_sort_comm (docs : List SDoc) (cols : List Column)
    (ok : ∀ sd ∈ docs, (V.doc sd.doc).i64Ok = true) (p : SDoc → Bool) :
    (sortSDocs docs cols).filter p = sortSDocs (docs.filter p) cols :=
  filter_sortSDocs docs cols ok p

/-- … also through the sort-document parser. -/
theorem filter_sortBy_comm (sort : Option Doc) (docs L : List SDoc)
    (ok : ∀ sd ∈ docs, (V.doc sd.doc).i64Ok = true) (p : SDoc → Bool)
    (h : sortBy sort docs = .ok L) : sortBy sort (docs.filter p) = .ok (L.filter p) :=
  sortBy_filter sort docs L ok p h

/-- A negative skip is an error (the Go code would re-slice with it). -/
theorem negative_skip_rejected (sch : SchemaEval) (c : Coll) (q : Doc) (sort : Option Doc)
    (skip limit : Int) (h : skip < 0) : selectDocs sch c q sort skip limit = .error .err := by
  simp [selectDocs, h]

/-- **find_window.**  If `Match` raises an error on no stored document, a successful find returns
    exactly the window `take' limit (drop skip ·)` of the stably sorted list of the matching
    documents. -/
theorem find_window (sch : SchemaEval) (c : Coll) (q : Doc) (sort : Option Doc) (skip limit : Int)
    (ok : ∀ sd ∈ c.docs, (V.doc sd.doc).i64Ok = true) (hne : noMatchError sch q c.docs)
    (l : List SDoc) (h : selectDocs sch c q sort skip limit = .ok l) :
    0 ≤ skip ∧ ∃ S, sortBy sort (c.docs.filter (matchesB sch q)) = .ok S ∧ l = windowOf skip limit S :=
  selectDocs_window sch c q sort skip limit ok hne l h

/-- … and conversely the find succeeds whenever the skip is non-negative and the sort document is
    valid; the same window, written over the sorted list of ALL documents. -/
theorem find_window_total (sch : SchemaEval) (c : Coll) (q : Doc) (sort : Option Doc)
    (skip limit : Int) (hs : 0 ≤ skip) (L : List SDoc) (hL : sortBy sort c.docs = .ok L)
    (hne : noMatchError sch q c.docs) :
    selectDocs sch c q sort skip limit = .ok (windowOf skip limit (L.filter (matchesB sch q))) :=
  selectDocs_noerr sch c q sort skip limit hs L hL
    (noMatchError_perm sch q (sortBy_perm sort c.docs L hL) hne)

/-- An invalid sort document fails the find before anything is scanned. -/
theorem find_bad_sort (sch : SchemaEval) (c : Coll) (q : Doc) (sort : Option Doc) (skip limit : Int)
    (hs : 0 ≤ skip) (e : Err) (hL : sortBy sort c.docs = .error e) :
    selectDocs sch c q sort skip limit = .error e := by
  have : ¬ skip < 0 := by omega
  rw [selectDocs_eq, sortedList_eq, hL]; simp [this]

/-- **When `Match` does raise errors.**  Let `L` be the sorted list, `ms` the matching documents
    among those that precede the first erroring document of `L`, and `n = limit + skip` for
    `limit > 0` (else "no limit").  The scan stops at the `n`-th match, so:
    if `limit > 0` and `ms` has at least `limit + skip` elements the find SUCCEEDS with the window of
    `ms` (the error is never reached); otherwise the error of the first erroring document of `L`
    (in sorted order, not insertion order) is returned; with no erroring document, the window. -/
theorem find_with_match_errors (sch : SchemaEval) (c : Coll) (q : Doc) (sort : Option Doc)
    (skip limit : Int) (hs : 0 ≤ skip) (L : List SDoc) (hL : sortBy sort c.docs = .ok L) :
    let ms := (L.takeWhile fun sd => (matchErr sch q sd).isNone).filter (matchesB sch q)
    selectDocs sch c q sort skip limit =
      if scanLimit skip limit ≠ 0 ∧ scanLimit skip limit ≤ ms.length then .ok (windowOf skip limit ms)
      else match L.findSome? (matchErr sch q) with
        | none => .ok (windowOf skip limit ms)
        | some e => .error e := by
  have := selectDocs_scan sch c q sort skip limit hs L hL
  rw [scan_eq] at this
  exact this

/-- the scan limit: `limit + skip` matches are needed for a positive limit, else all -/
theorem scanLimit_def (skip limit : Int) :
    scanLimit skip limit = if limit > 0 then (limit + skip).toNat else 0 := rfl

/-- A limit of zero (or a negative one) returns everything from `skip` on. -/
theorem limit_zero_is_all {α} (skip limit : Int) (hl : limit ≤ 0) (l : List α) :
    windowOf skip limit l = l.drop skip.toNat := by
  have : ¬ limit > 0 := by omega
  simp [windowOf, this]

/-- `find` of the driver without projection replies with the documents of the window. -/
theorem find_api (sch : SchemaEval) (t0 : Txn) (nu : Nu) (h : Handle) (c : Coll) (q : Doc)
    (o : FindOpts) (hp : o.proj = none) (hv : h.validate true = .ok ())
    (hg : t0.catalog.get? h = some c) :
    runCall sch t0 nu (.find h q o) =
      match selectDocs sch c q o.sort o.skip o.limit with
      | .error e => .error e
      | .ok l => .ok (t0, nu, .docs (l.map (·.doc))) :=
  runCall_find sch t0 nu h c q o hp hv hg

/-- `CountDocuments` replies with the length of the (unsorted) window; the transaction and ν are
    unchanged. -/
theorem count_is_window_length (sch : SchemaEval) (t0 : Txn) (nu : Nu) (h : Handle) (c : Coll)
    (q : Doc) (skip limit : Int) (hv : h.validate true = .ok ()) (hg : t0.catalog.get? h = some c)
    (hs : 0 ≤ skip) (hne : noMatchError sch q c.docs) :
    runCall sch t0 nu (.count h q skip limit) =
      .ok (t0, nu, .num (windowOf skip limit (c.docs.filter (matchesB sch q))).length) := by
  rw [runCall_count sch t0 nu h c q skip limit hv hg,
    find_window_total sch c q none skip limit hs c.docs rfl hne]

/-- `Distinct` of the driver is `mongokit.Distinct` over the matching documents in insertion order
    (no sort, no window). -/
theorem distinct_api (sch : SchemaEval) (t0 : Txn) (nu : Nu) (h : Handle) (c : Coll) (q : Doc)
    (field : String) (hv : h.validate true = .ok ()) (hg : t0.catalog.get? h = some c)
    (hne : noMatchError sch q c.docs) :
    runCall sch t0 nu (.distinct h field q) =
      .ok (t0, nu, .vals (Distinct ((c.docs.filter (matchesB sch q)).map (·.doc)) field)) := by
  rw [runCall_distinct sch t0 nu h c q field hv hg,
    find_window_total sch c q none 0 0 (by omega) c.docs rfl hne, windowOf_zero_zero]

/-- **one_doc_write_targets_head.**  `selectDocs … 0 1` — the selection made by Replace, by Update
    with limit 1 and by Delete with limit 1 — returns the head of the full sorted list of matching
    documents (what `selectDocs … 0 0` returns), or nothing if that list is empty. -/
theorem one_doc_write_targets_head (sch : SchemaEval) (c : Coll) (q : Doc) (sort : Option Doc)
    (L : List SDoc) (hL : sortBy sort c.docs = .ok L) (hne : noMatchError sch q c.docs) :
    selectDocs sch c q sort 0 0 = .ok (L.filter (matchesB sch q)) ∧
    selectDocs sch c q sort 0 1 = .ok ((L.filter (matchesB sch q)).take 1) := by
  constructor
  · rw [find_window_total sch c q sort 0 0 (by omega) L hL hne, windowOf_zero_zero]
  · rw [find_window_total sch c q sort 0 1 (by omega) L hL hne, windowOf_zero_one]

/-- The documents a write reports as matched are exactly its selection: `Delete` returns it,
    `Update` records it in `matched`, `Replace` records the (at most one) selected document. -/
theorem write_targets_selection :
    (∀ (sch : SchemaEval) (c c' : Coll) (q : Doc) (sort : Option Doc) (skip limit : Int)
        (list : List SDoc), Coll.delete sch c q sort skip limit = .ok (c', list) →
        selectDocs sch c q sort skip limit = .ok list) ∧
    (∀ (ac : ACtx) (c : Coll) (q u : Doc) (sort : Option Doc) (skip limit : Int) (fs : List Doc)
        (nu nu' : Nu) (r : CResult), Coll.update ac c q u sort skip limit fs nu = .ok (r, nu') →
        selectDocs ac.sch c q sort skip limit = .ok r.matched) ∧
    (∀ (sch : SchemaEval) (c : Coll) (q repl : Doc) (sort : Option Doc) (nu nu' : Nu) (r : CResult),
        Coll.replace sch c q repl sort nu = .ok (r, nu') →
        ∃ l, selectDocs sch c q sort 0 1 = .ok l ∧ r.matched = l.take 1) :=
  ⟨fun sch c c' q sort skip limit list h => delete_matched sch c c' q sort skip limit list h,
   fun ac c q u sort skip limit fs nu nu' r h => update_matched ac c q u sort skip limit fs nu nu' r h,
   fun sch c q repl sort nu nu' r h => replace_matched sch c q repl sort nu nu' r h⟩

/-! ### Tests (evaluated) -/

section colltests
def sds : List SDoc := docs.zipIdx.map fun (d, i) => { id := i, doc := d }
def coll0 : Coll := { docs := sds, indexes := [] }
def sidsOf (r : Res (List SDoc)) : Option (List V) :=
  match r with | .ok l => some (l.map fun sd => Get sd.doc "_id") | .error _ => none

-- b = "x": ids 1,3,5,6; sorted by a descending: 1 (3), 5 (3.0), 6 (2), 3 (missing)
#guard sidsOf (selectDocs schemaUnmodelled coll0 [("b", .str "x")] (some [("a", .i32 (-1))]) 0 0) ==
  some [.i32 1, .i32 5, .i32 6, .i32 3]
#guard sidsOf (selectDocs schemaUnmodelled coll0 [("b", .str "x")] (some [("a", .i32 (-1))]) 1 2) ==
  some [.i32 5, .i32 6]
#guard sidsOf (selectDocs schemaUnmodelled coll0 [("b", .str "x")] (some [("a", .i32 (-1))]) 0 1) ==
  some [.i32 1]
#guard sidsOf (selectDocs schemaUnmodelled coll0 [("b", .str "x")] none 3 0) == some [.i32 6]
#guard sidsOf (selectDocs schemaUnmodelled coll0 [("b", .str "x")] none 9 5) == some []
#guard sidsOf (selectDocs schemaUnmodelled coll0 [] none (-1) 0) == none
#guard sidsOf (selectDocs schemaUnmodelled coll0 [] (some [("a", .i32 2)]) 0 0) == none
-- a filter that raises an error only on some documents: {$or: [{k: 1}, {e: 1, z: {$bad: 1}}]}
def errDocs : List SDoc :=
  [ ⟨0, [("_id", .i32 1), ("k", .i32 1)]⟩, ⟨1, [("_id", .i32 2), ("k", .i32 1)]⟩,
    ⟨2, [("_id", .i32 3), ("e", .i32 1)]⟩, ⟨3, [("_id", .i32 4), ("k", .i32 1)]⟩ ]
def errQ : Doc := [("$or", .arr [.doc [("k", .i32 1)], .doc [("e", .i32 1), ("z", .doc [("$bad", .i32 1)])]])]
def collE : Coll := { docs := errDocs, indexes := [] }
#guard errDocs.map (fun sd => (matchErr schemaUnmodelled errQ sd).isSome) == [false, false, true, false]
-- the limit cuts the scan before the erroring third document …
#guard sidsOf (selectDocs schemaUnmodelled collE errQ none 0 2) == some [.i32 1, .i32 2]
#guard sidsOf (selectDocs schemaUnmodelled collE errQ none 1 1) == some [.i32 2]
-- … but not here: limit + skip = 3 matches are needed, or no limit at all
#guard sidsOf (selectDocs schemaUnmodelled collE errQ none 0 3) == none
#guard sidsOf (selectDocs schemaUnmodelled collE errQ none 1 2) == none
#guard sidsOf (selectDocs schemaUnmodelled collE errQ none 0 0) == none
-- sorted descending by _id the erroring document is met after ONE match
#guard sidsOf (selectDocs schemaUnmodelled collE errQ (some [("_id", .i32 (-1))]) 0 1) == some [.i32 4]
#guard sidsOf (selectDocs schemaUnmodelled collE errQ (some [("_id", .i32 (-1))]) 0 2) == none
end colltests

end Lungo.C13
