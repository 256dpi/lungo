/-
  Lungo.Props.C14 — "Projections return exactly the requested part, unchanged".

  Subject: `Lungo.Project` (Model/Project.lean), the model of `mongokit.Project`
  (validated against the Go code by the `project` stream).  The lemmas are in
  Lungo/Proofs/ProjectLaws.lean (the processing of the projection document) and
  Lungo/Proofs/ProjectPaths.lean (the copy phase: what `Put` does to the result).

  Reading guide.
  * `sch : SchemaEval` is the (unmodelled) `$jsonSchema` evaluator that query matching is
    parametric in; it only matters inside `$elemMatch` conditions.
  * A *flag* is a projection value `true/false` or a number of any numeric type equal to 1 / 0
    (`flagOf`).  `isOpKey k` is "k starts with `$`".
  * Dotted paths: `String.splitOn` does not reduce in the kernel, so a top-level path `p` is
    characterised by the hypothesis `splitPath p = [p]` (checked on concrete strings by the `#guard`
    tests at the end); likewise `isOpKey "$slice" = true` is taken as a hypothesis where needed.
  * "projecting never alters the stored document or later results": at the value level of the model
    `Project` is a function returning a NEW value, so this half of the property is trivially true of
    the model and says nothing about the Go code's aliasing.  It is checked on the real code by the
    `project` stream's stored-document monitor (document bytes before/after, and a second projection
    after mutating the first result).  What IS proved here about order-dependence is
    `project_deterministic_order`.
-/
import Lungo.Proofs.ProjectLaws
import Lungo.Proofs.ProjectPaths
namespace Lungo.C14
open Lungo

/-! ### 1. Mixing inclusion and exclusion -/

/-- The order of checks in `mongokit.Project`: (1) the projection document is processed entry by
    entry — an operator key at top level, an unknown operator, a malformed `$slice`/`$elemMatch`
    argument, a non-flag value or an error inside an `$elemMatch` query all fail here, first entry
    first; (2) the inclusion/exclusion mixing check; (3) the copy / unset / overlay phase
    (`projectFinish`), which can still fail in `Put` (e.g. `_id` missing, conflicting paths). -/
theorem project_check_order (sch : SchemaEval) (d proj : Doc) :
    Project sch d proj = match projProcess sch {} d proj with
      | .error e => .error e
      | .ok st => projectFinish d st :=
  Project_eq sch d proj

/-- A projection containing an inclusion flag and an exclusion flag on a path other than `_id` is an
    error, for every document: the mixing error itself if all entries are individually acceptable,
    else the error of the first unacceptable entry. -/
theorem mix_is_error (sch : SchemaEval) (d proj : Doc) (pi pe : String) (vi ve : V)
    (hi : (pi, vi) ∈ proj) (fi : flagOf vi = some true)
    (he : (pe, ve) ∈ proj) (fe : flagOf ve = some false) (hne : pe ≠ "_id") :
    (∀ st, projProcess sch {} d proj = .ok st → Project sch d proj = .error .err) ∧
    (∀ e, projProcess sch {} d proj = .error e → Project sch d proj = .error e) :=
  ⟨fun st h => by
    rw [Project_eq, h]
    exact projectFinish_mix d ((projProcess_registers h hi fi).1 rfl) ((projProcess_registers h he fe).2.1 rfl hne),
   fun e h => by rw [Project_eq, h]⟩

/-- … in particular it never returns a document. -/
theorem mix_is_never_ok (sch : SchemaEval) (d proj : Doc) (pi pe : String) (vi ve : V)
    (hi : (pi, vi) ∈ proj) (fi : flagOf vi = some true)
    (he : (pe, ve) ∈ proj) (fe : flagOf ve = some false) (hne : pe ≠ "_id") :
    ∃ e, Project sch d proj = .error e := by
  obtain ⟨h1, h2⟩ := mix_is_error sch d proj pi pe vi ve hi fi he fe hne
  cases h : projProcess sch {} d proj with
  | error e => exact ⟨e, h2 e h⟩
  | ok st => exact ⟨.err, h1 st h⟩

/-- `$elemMatch` is inclusion-style: together with an exclusion flag on another path (not `_id`) it
    is the same error. -/
theorem mix_elemMatch_is_error (sch : SchemaEval) (d proj : Doc) (pi pe : String) (q ve : V)
    (hop : isOpKey "$elemMatch" = true)
    (hi : (pi, .doc [("$elemMatch", q)]) ∈ proj)
    (he : (pe, ve) ∈ proj) (fe : flagOf ve = some false) (hne : pe ≠ "_id") :
    (∀ st, projProcess sch {} d proj = .ok st → Project sch d proj = .error .err) ∧
    (∀ e, projProcess sch {} d proj = .error e → Project sch d proj = .error e) :=
  ⟨fun st h => by
    rw [Project_eq, h]
    exact projectFinish_mix d (projProcess_elemMatch_includes h hop hi) ((projProcess_registers h he fe).2.1 rfl hne),
   fun e h => by rw [Project_eq, h]⟩

/-- For a flag-only projection in which every exclusion flag sits on `_id`, processing succeeds with
    NO exclusion registered, so the mixing check does not fire; `_id: 0` only sets `hideID`.
    (What the result then is: `inclusion_result_toplevel`.) -/
theorem id_exclusion_is_not_mixing (sch : SchemaEval) (d proj : Doc)
    (hk : ∀ kv ∈ proj, isOpKey kv.1 = false ∧ (flagOf kv.2).isSome = true)
    (hex : ∀ kv ∈ proj, flagOf kv.2 = some false → kv.1 = "_id") :
    ∃ st, projProcess sch {} d proj = .ok st ∧ st.excludes = [] ∧
      st.includes = ((flagsOf proj).filter (·.2)).map (·.1) ∧
      st.hideID = (flagsOf proj).any (fun pb => !pb.2 && pb.1 == "_id") :=
  ⟨_, projProcess_flags sch d proj hk {}, flagsOf_excludes_nil proj (fun kv hkv => (hk kv hkv).2) hex, rfl, rfl⟩

/-! ### 2. `$slice` -/

/-- `$slice: k` (any numeric `k`, converted like Go's `int(k)` by `sliceInt`) on an array `a`
    registers exactly MongoDB's window: the first `min k n` elements for `k > 0`, the last
    `min (-k) n` for `k < 0`, none for `k = 0` (`countWindow`), for ALL integers `k`. -/
theorem slice_window_count (s : PState) (d : Doc) (path : String) (v : V) (k : Int) (a : List V)
    (hk : sliceInt v = some k) (ha : Get d path = .arr a) :
    projectSlice s d path v =
      .ok (s.overlay path (.arr ((a.drop (countWindow a.length k).1).take (countWindow a.length k).2))) ∧
    (countWindow a.length k).1 + (countWindow a.length k).2 ≤ a.length :=
  ⟨projectSlice_count s d path v k a hk ha, count_bounds a.length k⟩

/-- The closed formulas of the count form, case by case. -/
theorem slice_count_formulas (n : Nat) (k : Int) :
    (0 < k → countWindow n k = (0, min k.toNat n)) ∧
    (k < 0 → countWindow n k = (n - min (-k).toNat n, min (-k).toNat n)) ∧
    (k = 0 → countWindow n k = (0, 0)) := by
  refine ⟨fun h => ?_, fun h => ?_, fun h => ?_⟩
  · simp [countWindow, h]
  · have : ¬ k > 0 := by omega
    simp [countWindow, h, this]
  · subst h; simp [countWindow]

/-- `$slice: [skip, limit]` with `limit ≥ 0` registers `limit` elements (clamped to what is left)
    starting at `skip` from the front, or `-skip` from the end for negative `skip` (clamped to the
    array), for ALL integers `skip` and `limit ≥ 0`. -/
theorem slice_window_pair (s : PState) (d : Doc) (path : String) (va vb : V) (sk l : Int) (a : List V)
    (hs : sliceInt va = some sk) (hl : sliceInt vb = some l) (hl0 : 0 ≤ l) (ha : Get d path = .arr a) :
    projectSlice s d path (.arr [va, vb]) =
      .ok (s.overlay path (.arr ((a.drop (pairStart a.length sk)).take (pairLen a.length sk l)))) ∧
    pairStart a.length sk + pairLen a.length sk l ≤ a.length :=
  ⟨projectSlice_pair s d path va vb sk l a hs hl hl0 ha, pair_bounds a.length sk l⟩

/-- The closed formulas of the pair form. -/
theorem slice_pair_formulas (n : Nat) (s l : Int) :
    (0 ≤ s → pairStart n s = min s.toNat n) ∧
    (s < 0 → pairStart n s = n - min (-s).toNat n) ∧
    pairLen n s l = min l.toNat (n - pairStart n s) := by
  refine ⟨fun h => ?_, fun h => ?_, rfl⟩
  · have : ¬ s < 0 := by omega
    simp [pairStart, this]
  · simp only [pairStart, h, ↓reduceIte]; omega

/-- A negative limit in the pair form is rejected. -/
theorem slice_pair_negative_limit (s : PState) (d : Doc) (path : String) (va vb : V) (sk l : Int)
    (hs : sliceInt va = some sk) (hl : sliceInt vb = some l) (hl0 : l < 0) :
    projectSlice s d path (.arr [va, vb]) = .error .err := by
  simp only [projectSlice_eq, sliceArg_pair hs hl, if_pos hl0]

/-- Both windows are contiguous parts of the array: `a = before ++ window ++ after` with
    `before.length = start`; hence sublists, and element `i` of the window is element `start + i`
    of the array. -/
theorem slice_is_contiguous_sublist (a : List V) (w : Nat × Nat) :
    a = a.take w.1 ++ (a.drop w.1).take w.2 ++ (a.drop w.1).drop w.2 ∧
    ((a.drop w.1).take w.2).Sublist a ∧
    (∀ i, i < w.2 → ((a.drop w.1).take w.2)[i]? = a[w.1 + i]?) ∧
    (w.1 + w.2 ≤ a.length → ((a.drop w.1).take w.2).length = w.2) :=
  ⟨by rw [List.append_assoc, List.take_append_drop, List.take_append_drop],
   (List.take_sublist _ _).trans (List.drop_sublist _ _),
   fun i h => by simp [h],
   fun h => by rw [List.length_take, List.length_drop]; omega⟩

/-- `$slice` leaves non-arrays alone (no overlay is registered). -/
theorem slice_nonarray (s : PState) (d : Doc) (path : String) (v : V) (k : Int)
    (hk : sliceInt v = some k) (ha : ∀ a, Get d path ≠ .arr a) : projectSlice s d path v = .ok s := by
  rw [projectSlice_eq, sliceArg_count hk]
  show (match Get d path with | .arr a => _ | _ => _) = _
  split
  · next a h => exact absurd h (ha a)
  · rfl

/-- The integer arguments are int64s (`sliceInt` truncates doubles; out-of-range ones and NaN become
    MinInt64, as Go's `int(x)` does on amd64), and on int64 arguments and array lengths none of the
    intermediate values of the Go arithmetic leaves the int64 range — including `skip, k = MinInt64`
    and `limit = MaxInt64`, where the Go code used to overflow.  So the model's `Int` arithmetic is
    the machine arithmetic. -/
theorem slice_no_overflow (n skip limit k : Int) (hn : 0 ≤ n ∧ n ≤ i64Max)
    (hs : i64Min ≤ skip ∧ skip ≤ i64Max) (hl : 0 ≤ limit ∧ limit ≤ i64Max)
    (hk : i64Min ≤ k ∧ k ≤ i64Max) :
    (let start : Int :=
        if skip < 0 then (if n + skip < 0 then 0 else n + skip) else (if skip > n then n else skip)
     (skip < 0 → i64Min ≤ n + skip ∧ n + skip ≤ i64Max) ∧
     (0 ≤ start ∧ start ≤ n) ∧ (0 ≤ n - start ∧ n - start ≤ i64Max) ∧
     (limit < n - start → 0 ≤ start + limit ∧ start + limit ≤ n)) ∧
    ((i64Min ≤ -n ∧ -n ≤ i64Max) ∧ (k < 0 → k > -n → 0 ≤ n + k ∧ n + k ≤ n)) :=
  by
  simp only [i64Min, i64Max] at *
  generalize hst : (if skip < 0 then (if n + skip < 0 then 0 else n + skip) else if skip > n then n else skip) = start
  have hstart : 0 ≤ start ∧ start ≤ n := by omega
  exact ⟨⟨fun h => by omega, hstart, by omega, fun h => by omega⟩, by omega, fun h1 h2 => by omega⟩

theorem slice_argument_is_int64 (v : V) (k : Int) (hw : v.wf = true) (hk : sliceInt v = some k) :
    i64Min ≤ k ∧ k ≤ i64Max :=
  sliceInt_range v k hw hk

/-- End to end: the projection `{p: {$slice: k}}` of a document whose top-level field `p` is the
    array `a` is the document with that field replaced in place by the window, everything else as
    stored. -/
theorem slice_project_toplevel (sch : SchemaEval) (d : Doc) (p : String) (v : V) (k : Int) (a : List V)
    (hop : isOpKey "$slice" = true) (hp : isOpKey p = false) (hs : splitPath p = [p]) (hne : p ≠ "")
    (hk : sliceInt v = some k) (ha : Get d p = .arr a) :
    Project sch d [(p, .doc [("$slice", v)])] =
      .ok (upsert d p (.arr ((a.drop (countWindow a.length k).1).take (countWindow a.length k).2))) :=
  project_slice_count_toplevel sch d p v k a hop hp hs hne hk ha

/-! ### 3. `$elemMatch` -/

/-- `elemMatches sch q x` is the verdict of a projection `$elemMatch` on one element: the element
    must be ELIGIBLE — a query consisting of field conditions only (no `$` key) applies to embedded
    documents only, every other element is skipped without evaluating the query — and the query
    must accept the virtual document `{item: x}`. -/
theorem elemMatch_eligibility (sch : SchemaEval) (query : Doc) (x : V) :
    (elemEligible query x = !((query.all fun (k, _) => !isOpKey k) && !x.isDoc)) ∧
    (elemMatches sch query x = .ok () ↔
      elemEligible query x = true ∧ mProcess sch [("item", x)] query "item" false = .ok ()) ∧
    (elemMatches sch query x = .error .notMatched ↔
      elemEligible query x = false ∨
        mProcess sch [("item", x)] query "item" false = .error .notMatched) :=
  ⟨rfl, by unfold elemMatches; cases elemEligible query x <;> simp,
   by unfold elemMatches; cases elemEligible query x <;> simp⟩

/-- The element picked by `$elemMatch` is the FIRST element that is eligible and on which the query
    matches: it matches, and every element before it is ineligible or rejected
    (`elemMatches … = .error .notMatched`, see `elemMatch_eligibility`). -/
theorem elemMatch_first (sch : SchemaEval) (query : Doc) (arr : List V) (x : V) :
    firstElemMatch sch query arr = .ok (some x) ↔
      ∃ pre post, arr = pre ++ x :: post ∧
        (∀ y ∈ pre, elemMatches sch query y = .error .notMatched) ∧
        elemMatches sch query x = .ok () :=
  firstElemMatch_some

/-- Nothing is picked iff every element is ineligible or rejected. -/
theorem elemMatch_none (sch : SchemaEval) (query : Doc) (arr : List V) :
    firstElemMatch sch query arr = .ok none ↔
      ∀ y ∈ arr, elemMatches sch query y = .error .notMatched :=
  firstElemMatch_none

/-- A query error on an ELIGIBLE element aborts — unless an earlier element already matched;
    ineligible elements are never evaluated, so they cannot raise an error. -/
theorem elemMatch_error (sch : SchemaEval) (query : Doc) (arr : List V) (e : Err) :
    firstElemMatch sch query arr = .error e ↔
      ∃ pre x post, arr = pre ++ x :: post ∧
        (∀ y ∈ pre, elemMatches sch query y = .error .notMatched) ∧
        elemMatches sch query x = .error e ∧ e ≠ .notMatched :=
  firstElemMatch_error

/-- What `projectElemMatch` registers: the path is included but never copied from the document
    (`elemMatchMark`); the overlay is `[x]` for the first matching element `x`; absent if none
    matches or the value is not an array; a non-document argument is an error. -/
theorem elemMatch_overlay (sch : SchemaEval) (s : PState) (d : Doc) (path : String) (query : Doc) :
    (∀ a x, Get d path = .arr a → firstElemMatch sch query a = .ok (some x) →
      projectElemMatch sch s d path (.doc query) =
        .ok ((s.elemMatchMark path).overlay path (.arr [x]))) ∧
    (∀ a, Get d path = .arr a → firstElemMatch sch query a = .ok none →
      projectElemMatch sch s d path (.doc query) = .ok (s.elemMatchMark path)) ∧
    ((∀ a, Get d path ≠ .arr a) →
      projectElemMatch sch s d path (.doc query) = .ok (s.elemMatchMark path)) ∧
    (∀ v, (∀ q, v ≠ .doc q) → projectElemMatch sch s d path v = .error .err) :=
  ⟨fun a x ha hx => by simp only [projectElemMatch_doc, ha, hx],
   fun a ha hx => by simp only [projectElemMatch_doc, ha, hx],
   fun ha => by
    rw [projectElemMatch_doc]
    split
    · next a h => exact absurd h (ha a)
    · rfl,
   fun v hv => projectElemMatch_nondoc sch s d path v hv⟩

/-- End to end: `{p: {$elemMatch: q}}` returns `_id` and, if some element of the top-level array
    `p` matches, `p: [first matching element]`; nothing else. -/
theorem elemMatch_project_toplevel (sch : SchemaEval) (d : Doc) (p : String) (q : Doc) (a : List V)
    (hop : isOpKey "$elemMatch" = true) (hp : isOpKey p = false) (hs : splitPath p = [p])
    (hne : p ≠ "") (hpid : p ≠ "_id") (hid : (Get d "_id").isMissing = false)
    (ha : Get d p = .arr a) :
    (∀ x, firstElemMatch sch q a = .ok (some x) →
      Project sch d [(p, .doc [("$elemMatch", .doc q)])] =
        .ok [("_id", Get d "_id"), (p, .arr [x])]) ∧
    (firstElemMatch sch q a = .ok none →
      Project sch d [(p, .doc [("$elemMatch", .doc q)])] = .ok [("_id", Get d "_id")]) ∧
    (∀ e, firstElemMatch sch q a = .error e →
      Project sch d [(p, .doc [("$elemMatch", .doc q)])] = .error e) :=
  project_elemMatch_toplevel sch d p q a hop hp hs hne hpid hid ha

/-! ### 4. Exclusion -/

/-- An exclusion-only projection (every value a 0/false flag) returns the document with the
    excluded paths (other than `_id`) unset one after the other in projection order, and `_id`
    unset last if `_id: 0` is present.  (`Unset` follows dotted paths through embedded documents —
    and, outside the property's domain, array indexes — and is a no-op on absent paths.) -/
theorem exclusion_result (sch : SchemaEval) (d proj : Doc)
    (hk : ∀ kv ∈ proj, isOpKey kv.1 = false ∧ flagOf kv.2 = some false) :
    Project sch d proj = .ok
      (let r := ((proj.map (·.1)).filter (· != "_id")).foldl
          (fun acc p => (Unset acc (splitPath p)).1) d
       if proj.any (·.1 == "_id") then (Unset r ["_id"]).1 else r) :=
  exclusion_project sch d proj hk

/-- Unsetting a top-level field removes the first field of that name and nothing else. -/
theorem unset_toplevel (d : Doc) (k : String) (hk : k ≠ "") :
    (Unset d [k]).1 = d.eraseP (·.1 == k) :=
  Unset_single d k hk

/-- Top-level exclusion on a document with distinct field names: exactly the fields not named in
    the projection remain — in stored order, with stored values (`_id: 0` included). -/
theorem exclusion_toplevel (sch : SchemaEval) (d proj : Doc)
    (hk : ∀ kv ∈ proj, isOpKey kv.1 = false ∧ flagOf kv.2 = some false)
    (hs : ∀ kv ∈ proj, splitPath kv.1 = [kv.1] ∧ kv.1 ≠ "")
    (nd : (d.map (·.1)).Nodup) :
    Project sch d proj = .ok (d.filter fun kv => !(proj.map (·.1)).contains kv.1) :=
  Lungo.exclusion_toplevel sch d proj hk hs nd

/-- … so every field of the result is a field of the stored document, unchanged. -/
theorem exclusion_toplevel_values (sch : SchemaEval) (d proj res : Doc)
    (hk : ∀ kv ∈ proj, isOpKey kv.1 = false ∧ flagOf kv.2 = some false)
    (hs : ∀ kv ∈ proj, splitPath kv.1 = [kv.1] ∧ kv.1 ≠ "")
    (nd : (d.map (·.1)).Nodup) (h : Project sch d proj = .ok res) :
    res.Sublist d ∧ ∀ kv ∈ d, (kv ∈ res ↔ kv.1 ∉ proj.map (·.1)) := by
  rw [exclusion_toplevel sch d proj hk hs nd] at h
  cases h
  refine ⟨List.filter_sublist, fun kv hkv => ?_⟩
  simp [List.mem_filter, hkv]

/-! ### 5. Inclusion -/

/-- Top-level inclusion (flags only, `_id: 0` allowed) on a document that has an `_id`:
    the result is `_id` first, then — in projection order — each included field that is present in
    the document, with the value stored at it (`Get d k`).  Exact behaviour in the corner cases:
    a name listed twice is emitted once, at its first position (`newKeys`); `_id: 1` listed
    explicitly changes nothing (`_id` stays first); included names absent from the document are
    skipped; `_id: 0` removes `_id` from the finished result. -/
theorem inclusion_result_toplevel (sch : SchemaEval) (d proj : Doc)
    (hk : ∀ kv ∈ proj, isOpKey kv.1 = false ∧ (flagOf kv.2).isSome = true)
    (hex : ∀ kv ∈ proj, flagOf kv.2 = some false → kv.1 = "_id")
    (hinc : ((flagsOf proj).filter (·.2)).map (·.1) ≠ [])
    (hs : ∀ kv ∈ proj, splitPath kv.1 = [kv.1] ∧ kv.1 ≠ "")
    (hid : (Get d "_id").isMissing = false) :
    Project sch d proj = .ok
      (let incs := ((flagsOf proj).filter (·.2)).map (·.1)
       let present := incs.filter fun p => !(Get d p).isMissing
       let full := ("_id" :: newKeys ["_id"] present).map fun k => (k, Get d k)
       if (flagsOf proj).any (fun pb => !pb.2 && pb.1 == "_id") then full.tail else full) :=
  inclusion_toplevel sch d proj hk hex hinc hs hid

/-- `newKeys seen ps` is `ps` without repetitions and without the names in `seen`, in order of
    first occurrence; it is `ps` itself when `ps` has no repetitions and avoids `seen`. -/
theorem newKeys_is_dedup (seen ps : List String) :
    (newKeys seen ps).Nodup ∧ (∀ p ∈ newKeys seen ps, p ∈ ps ∧ p ∉ seen) ∧
    (∀ p ∈ ps, p ∈ seen ∨ p ∈ newKeys seen ps) ∧
    (ps.Nodup → (∀ p ∈ ps, p ∉ seen) → newKeys seen ps = ps) :=
  ⟨(newKeys_spec ps seen).1, (newKeys_spec ps seen).2.1, (newKeys_spec ps seen).2.2,
   fun nd h => newKeys_fresh ps seen nd h⟩

/-- The stored value at a top-level path is the value of the first field of that name. -/
theorem stored_value_toplevel (d : Doc) (k : String) (hs : splitPath k = [k]) (hk : k ≠ "") :
    Get d k = (d.find? k).getD .missing := by
  rw [Get, hs, get_child _ _ _ _ (by simp [hk]), get_nil]; rfl

/-- Top-level flag-only inclusion, field by field: each field `(k, v)` of the result has
    `v = Get d k`, `v` is present, no name occurs twice, and every name is `_id` or an included name. -/
theorem inclusion_toplevel_values (sch : SchemaEval) (d proj res : Doc)
    (hk : ∀ kv ∈ proj, isOpKey kv.1 = false ∧ (flagOf kv.2).isSome = true)
    (hex : ∀ kv ∈ proj, flagOf kv.2 = some false → kv.1 = "_id")
    (hinc : ((flagsOf proj).filter (·.2)).map (·.1) ≠ [])
    (hs : ∀ kv ∈ proj, splitPath kv.1 = [kv.1] ∧ kv.1 ≠ "")
    (hid : (Get d "_id").isMissing = false) (h : Project sch d proj = .ok res) :
    (∀ kv ∈ res, kv.2 = Get d kv.1 ∧ kv.2.isMissing = false ∧
      (kv.1 = "_id" ∨ kv.1 ∈ ((flagsOf proj).filter (·.2)).map (·.1))) ∧
    (res.map (·.1)).Nodup := by
  rw [inclusion_result_toplevel sch d proj hk hex hinc hs hid] at h
  cases h
  dsimp only
  -- with and without `_id` the result is a sublist of the full list of copied fields
  suffices hfull : ∀ res : Doc, res.Sublist (("_id" :: newKeys ["_id"]
      ((((flagsOf proj).filter (·.2)).map (·.1)).filter fun p => !(Get d p).isMissing)).map
        fun k => (k, Get d k)) →
      (∀ kv ∈ res, kv.2 = Get d kv.1 ∧ kv.2.isMissing = false ∧
        (kv.1 = "_id" ∨ kv.1 ∈ ((flagsOf proj).filter (·.2)).map (·.1))) ∧ (res.map (·.1)).Nodup by
    split
    · exact hfull _ (List.tail_sublist _)
    · exact hfull _ (List.Sublist.refl _)
  intro res hsub
  obtain ⟨nd, hmem, _⟩ := newKeys_spec
    ((((flagsOf proj).filter (·.2)).map (·.1)).filter fun p => !(Get d p).isMissing) ["_id"]
  refine ⟨fun kv hkv => ?_, (List.nodup_cons.mpr ⟨fun hm => (hmem "_id" hm).2 (by simp), nd⟩).sublist ?_⟩
  · obtain ⟨k, hk', rfl⟩ := List.mem_map.mp (hsub.subset hkv)
    rcases List.mem_cons.mp hk' with rfl | hk''
    · exact ⟨rfl, hid, Or.inl rfl⟩
    · have := List.mem_filter.mp (hmem k hk'').1
      exact ⟨rfl, by simpa using this.2, Or.inr this.1⟩
  · simpa [List.map_map, Function.comp_def] using hsub.map (·.1)

/-- "Every value present in a projected result equals the stored value at that path" — inclusion
    mode, dotted paths.  For a flag-only inclusion projection (`_id: 0` allowed) all of whose paths
    descend through embedded documents only in `d` (no empty segment, no array met before the end:
    `noArrayBefore`), a successful result `res` is a projection of `d`: reading ANY path (without
    empty segments) in `res` gives nothing, or a value that is a projection (`SubV`) of the value
    stored at the same path in `d` — and if it is not a document, exactly the stored value.
    (`splitPath "_id" = ["_id"]` and `splitPath p ≠ []` are facts about `String.splitOn`, which does
    not reduce in the kernel; see the tests.)

    Not covered by a theorem (covered by the `project` stream only): results that also carry
    `$slice`/`$elemMatch` overlays BELOW or ABOVE an included path (for a single operator entry see
    `slice_project_toplevel`, `elemMatch_project_toplevel`), inclusion paths that fan out over
    arrays of sub-documents (outside the property's domain), and the value-equality reading of
    EXCLUSION on dotted paths (`exclusion_result` gives the result as iterated `Unset`;
    `exclusion_toplevel_values` is the top-level statement).  For exclusion the path-wise law needs
    field names to be unique inside every embedded document: unsetting `a` in `{a: 1, a: 2}` exposes
    the shadowed `a: 2` (Go and model agree), so `getP res ["a"] ≠ getP d ["a"]` there. -/
theorem inclusion_values_are_stored (sch : SchemaEval) (d proj res : Doc)
    (hk : ∀ kv ∈ proj, isOpKey kv.1 = false ∧ (flagOf kv.2).isSome = true)
    (hex : ∀ kv ∈ proj, flagOf kv.2 = some false → kv.1 = "_id")
    (hinc : ((flagsOf proj).filter (·.2)).map (·.1) ≠ [])
    (hdom : ∀ kv ∈ proj, "" ∉ splitPath kv.1 ∧ splitPath kv.1 ≠ [] ∧
      noArrayBefore (.doc d) (splitPath kv.1))
    (hidp : splitPath "_id" = ["_id"])
    (h : Project sch d proj = .ok res) :
    SubV (.doc res) (.doc d) ∧
    ∀ path, "" ∉ path → (getP res path).isMissing = false →
      SubV (getP res path) (getP d path) ∧ ((getP res path).isDoc = false → getP res path = getP d path) := by
  have hsub := inclusion_sub sch d proj res hk hex hinc hdom hidp h
  refine ⟨hsub, fun path hne hm => ?_⟩
  have := SubV.get path hsub hne
  simp only [getP] at hm ⊢
  rcases this with h0 | h1
  · rw [h0] at hm; simp [V.isMissing] at hm
  · exact ⟨h1, fun hd => h1.eq_of_not_doc hd⟩

/-- What "projection of" means, unfolded one level: equal, or both documents and every visible
    field of the smaller one is a projection of the field of the same name of the larger one. -/
theorem subdocument_unfold (x y : V) :
    SubV x y ↔ x = y ∨ ∃ fs gs, x = .doc fs ∧ y = .doc gs ∧
      (∀ k v, Doc.find? fs k = some v → (Doc.find? gs k).isSome = true) ∧
      (∀ k v w, Doc.find? fs k = some v → Doc.find? gs k = some w → SubV v w) := by
  constructor
  · intro h
    cases h with
    | refl => exact Or.inl rfl
    | doc fs gs hdom hsub => exact Or.inr ⟨fs, gs, rfl, rfl, hdom, hsub⟩
  · rintro (rfl | ⟨fs, gs, rfl, rfl, hdom, hsub⟩)
    · exact SubV.refl _
    · exact SubV.doc fs gs hdom hsub

/-- The Access lemma behind it ("get after put"): writing the value stored at `q` in `y` into a
    projection of `y` at `q` yields a projection of `y`. -/
theorem put_stored_value_keeps_projection (q : Path) (x y x' prev : V) (hx : x = .missing ∨ SubV x y)
    (hne : "" ∉ q) (hna : noArrayBefore y q) (hv : ((get y q false false).1).isMissing = false)
    (h : put x q (get y q false false).1 false = .ok (x', prev)) : SubV x' y :=
  put_preserves_sub q x y x' prev hx hne hna hv h

/-! ### 6. Determinism of overlays -/

/-- Overlays (`$slice` / `$elemMatch` values) are kept in registration order: registering a path
    again keeps its FIRST position and takes the LAST value, other entries are untouched — and
    `Project` writes them into the result one after the other in that order (`putAll` is a
    left-to-right fold, see `project_check_order` / `projectFinish`).  So the result does not depend
    on Go's map iteration order. -/
theorem project_deterministic_order (m : List (String × V)) (p : String) (v : V) :
    ((mergeSet m p v).map (·.1) =
      if (m.map (·.1)).contains p then m.map (·.1) else m.map (·.1) ++ [p]) ∧
    (∀ x, (p, x) ∈ mergeSet m p v → x = v) ∧
    (∀ q x, q ≠ p → ((q, x) ∈ mergeSet m p v ↔ (q, x) ∈ m)) ∧
    (∀ res a b, putAll res (a ++ b) = match putAll res a with
      | .error e => .error e
      | .ok r => putAll r b) :=
  ⟨mergeSet_keys m p v, fun x h => mergeSet_same m p v x h, fun q x hq => mergeSet_other m p v q x hq,
   fun res a b => putAll_append res a b⟩

/-! ### Tests (evaluated; strings do not reduce in the kernel, so these are `#guard`s, not proofs).
    They show the hypotheses of the theorems above are met by concrete non-trivial instances and
    that the stated results are the computed ones. -/

section tests
def sch0 : SchemaEval := schemaUnmodelled

def isOk (r : Res Doc) (d : Doc) : Bool := match r with | .ok x => x == d | _ => false
def isErr (r : Res Doc) : Bool := match r with | .error .err => true | _ => false

def nums : List V := [.i32 1, .i32 2, .i32 3, .i32 4, .i32 5]

def doc1 : Doc :=
  [("_id", .i32 7), ("a", .arr nums), ("b", .str "x"),
   ("c", .doc [("d", .i32 1), ("e", .i32 2)]), ("f", .arr [.doc [("g", .i32 1)], .doc [("g", .i32 5)]])]

-- string facts used as hypotheses
#guard isOpKey "$slice" && isOpKey "$elemMatch" && !isOpKey "a" && !isOpKey "_id"
#guard splitPath "a" == ["a"] && splitPath "_id" == ["_id"] && splitPath "c.d" == ["c", "d"]
-- flags: numbers of every numeric type and booleans
#guard flagOf (.i32 1) == some true && flagOf (.f64 0x3FF0000000000000) == some true &&
       flagOf (.i64 0) == some false && flagOf (.bool false) == some false &&
       flagOf (.i32 2) == none && flagOf (.str "1") == none
-- 1. mixing
#guard isErr (Project sch0 doc1 [("a", .i32 1), ("b", .i32 0)])
#guard isErr (Project sch0 doc1 [("b", .bool false), ("a", .f64 0x3FF0000000000000)])
#guard isOk (Project sch0 doc1 [("_id", .i32 0), ("b", .i32 1)]) [("b", .str "x")]
#guard isErr (Project sch0 doc1 [("a", .doc [("$elemMatch", .doc [("$gt", .i32 2)])]), ("b", .i32 0)])
-- 2. $slice: counts, pairs, extremes
#guard countWindow 5 2 == (0, 2) && countWindow 5 (-2) == (3, 2) && countWindow 5 0 == (0, 0)
#guard countWindow 5 i64Max == (0, 5) && countWindow 5 i64Min == (0, 5) && countWindow 5 (-7) == (0, 5)
#guard (pairStart 5 1, pairLen 5 1 2) == (1, 2) && (pairStart 5 (-2), pairLen 5 (-2) 9) == (3, 2)
#guard (pairStart 5 i64Min, pairLen 5 i64Min i64Max) == (0, 5) && (pairStart 5 i64Max, pairLen 5 i64Max 1) == (5, 0)
#guard isOk (Project sch0 doc1 [("a", .doc [("$slice", .i32 (-2))])])
        (upsert doc1 "a" (.arr [.i32 4, .i32 5]))
#guard isOk (Project sch0 doc1 [("a", .doc [("$slice", .arr [.i64 i64Min, .i64 i64Max])])])
        (upsert doc1 "a" (.arr nums))
#guard isOk (Project sch0 doc1 [("a", .doc [("$slice", .arr [.i32 1, .i32 2])]), ("b", .i32 1)])
        [("_id", .i32 7), ("b", .str "x"), ("a", .arr [.i32 2, .i32 3])]
#guard isErr (Project sch0 doc1 [("a", .doc [("$slice", .arr [.i32 1, .i32 (-1)])])])
-- 3. $elemMatch: first match, no match
#guard isOk (Project sch0 doc1 [("a", .doc [("$elemMatch", .doc [("$gt", .i32 2)])])])
        [("_id", .i32 7), ("a", .arr [.i32 3])]
#guard isOk (Project sch0 doc1 [("f", .doc [("$elemMatch", .doc [("g", .i32 5)])])])
        [("_id", .i32 7), ("f", .arr [.doc [("g", .i32 5)]])]
#guard isOk (Project sch0 doc1 [("a", .doc [("$elemMatch", .doc [("$gt", .i32 9)])])]) [("_id", .i32 7)]
-- a field-only query skips non-document elements (here: a scalar before the matching document)
#guard isOk (Project sch0 [("_id", .i32 1), ("f", .arr [.i32 5, .doc [("g", .i32 5)]])]
          [("f", .doc [("$elemMatch", .doc [("g", .i32 5)])])])
        [("_id", .i32 1), ("f", .arr [.doc [("g", .i32 5)]])]
#guard !elemEligible [("g", .i32 5)] (.i32 5) && elemEligible [("g", .i32 5)] (.doc []) &&
       elemEligible [("$gt", .i32 2)] (.i32 5)
-- 4. exclusion
#guard isOk (Project sch0 doc1 [("a", .i32 0), ("f", .bool false)])
        [("_id", .i32 7), ("b", .str "x"), ("c", .doc [("d", .i32 1), ("e", .i32 2)])]
#guard isOk (Project sch0 doc1 [("c.d", .i32 0), ("_id", .i32 0), ("a", .i32 0), ("f", .i32 0)])
        [("b", .str "x"), ("c", .doc [("e", .i32 2)])]
#guard (doc1.map (·.1)).Nodup
-- 5. inclusion: order, duplicates, explicit _id, absent names, dotted paths
#guard isOk (Project sch0 doc1 [("b", .i32 1), ("zz", .i32 1), ("a", .bool true), ("b", .i32 1), ("_id", .i32 1)])
        [("_id", .i32 7), ("b", .str "x"), ("a", .arr nums)]
#guard newKeys ["_id"] ["b", "a", "b", "_id"] == ["b", "a"]
#guard isOk (Project sch0 doc1 [("c.e", .i32 1)]) [("_id", .i32 7), ("c", .doc [("e", .i32 2)])]
#guard isOk (Project sch0 doc1 [("c.e", .i32 1), ("c.d", .i32 1), ("_id", .i32 0)]) [("c", .doc [("e", .i32 2), ("d", .i32 1)])]
#guard (splitPath "c.e" != []) && !(splitPath "c.e").contains ""
-- duplicate field names: unsetting exposes the shadowed field (why the exclusion law needs unique names)
#guard isOk (Project sch0 [("_id", .i32 1), ("a", .i32 1), ("a", .i32 2)] [("a", .i32 0)]) [("_id", .i32 1), ("a", .i32 2)]
-- _id missing from the stored document: inclusion fails (Put of Missing)
#guard isErr (Project sch0 [("a", .i32 1)] [("a", .i32 1)])
end tests

end Lungo.C14
