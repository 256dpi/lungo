/-
  Property C08 — "Every committed document change appears in the change log exactly once, in
  commit order, with strictly increasing unique event ids: replaying the events recorded after
  any point onto the contents at that point reproduces the contents at any later point. Failed
  calls, no-op writes and aborted transactions leave no event, and for update events applying
  the recorded updated/removed fields to the previous version of the document yields the new
  version (up to field order). Retention only ever removes the oldest events as one prefix,
  never any of the configured minimum number of newest events or an event younger than the
  minimum age, and removes events beyond the maximum size or age as soon as those two
  protections no longer cover them."

  Part 1 — RETENTION (Transaction.Clean, model `Txn.clean` / `cleanCount`).

  Vocabulary. The log has `n` events, index 0 = oldest; event `j` has timestamp `L[j] = (T, I)`
  (the value at `_id.ts`). With `now = (nowT, nowI)`:
    minT = cutoffT nowT minAgeS   (= nowT − minAgeS when nothing wraps)   cutoff (minT, 0)
    maxT = cutoffT nowT maxAgeS   (= nowT − maxAgeS when nothing wraps)   cutoff (maxT, nowI)
  * "one of the `minSize` newest events"      : index j ≥ n − minSize;
  * "younger than the minimum age"            : minAge ≠ 0 and L[j] ≥ (minT, 0), i.e. T ≥ minT;
  * "beyond the maximum size"                 : index j < n − maxSize (more than maxSize events
                                                 from j to the end of the log);
  * "beyond the maximum age"                  : L[j] < (maxT, nowI).
  `droppable j L[j]` = not protected by either protection ∧ beyond the maximum size or age.

  The cutoff seconds are computed in uint32 (`now.T - uint32(age/time.Second)`): `cutoffT`
  wraps around. It does NOT wrap iff `ageS mod 2³² ≤ nowT < 2³²`; the engine validates
  0 ≤ age ≤ 21 days = 1 814 400 s, and `now.T` is the current Unix time in seconds, so the
  subtraction is exact for every clock reading between 1970-01-22 and 2106-02-07
  (`cutoffT_nowrap`). The theorems below are stated on the cutoffs `cutoffT …` themselves and
  therefore hold with and without wrap-around; the `_nowrap` corollaries restate the two age
  clauses in plain seconds under the explicit hypothesis `NoWrap`.
-/
import Lungo.Proofs.OplogSteps
import Lungo.Proofs.ReplayLaws
import Lungo.Proofs.UpdateDesc
import Lungo.Proofs.RetainLaws
namespace Lungo.C08
open Lungo Lungo.Spec

/-- every event carries a timestamp at `_id.ts`, and `L` lists them oldest first -/
def HasTs (t : Txn) (L : List (Nat × Nat)) : Prop :=
  t.oplog.map (fun sd => eventTs sd.doc) = L.map some

/-- timestamps are non-decreasing along the log -/
def NonDecreasing (L : List (Nat × Nat)) : Prop := L.Pairwise tsLe

/-- the range of clock readings and ages in which `now.T - uint32(age/time.Second)` is exact -/
def NoWrap (nowT ageS : Nat) : Prop := ageS ≤ nowT ∧ nowT < 4294967296

/-- 21 days (the engine's upper bound on both ages) never wraps for clocks after 1970-01-22
    and before 2106-02-07. -/
theorem nowrap_of_validated (nowT ageS : Nat) (hage : ageS ≤ 21 * 24 * 3600)
    (hlo : 21 * 24 * 3600 ≤ nowT) (hhi : nowT < 4294967296) : NoWrap nowT ageS :=
  ⟨by omega, hhi⟩

theorem cutoff_nowrap (nowT ageS : Nat) (h : NoWrap nowT ageS) : cutoffT nowT ageS = nowT - ageS :=
  cutoffT_nowrap nowT ageS h.1 h.2

/-- Clean always removes a prefix of the log (no assumption on the events at all). -/
theorem clean_prefix_any (t : Txn) (minSize maxSize : Int) (minAgeS maxAgeS : Nat) (z : Bool) (nowT nowI : Nat) :
    ∃ k, (t.clean minSize maxSize minAgeS maxAgeS z nowT nowI).oplog = t.oplog.drop k := by
  rw [Txn.clean_def]
  split
  · exact ⟨_, Txn.trimmed_oplog ..⟩
  · exact ⟨0, rfl⟩

/-- `clean_prefix`: what Clean removes is exactly the first `k = cleanCount …` events. -/
theorem clean_prefix (t : Txn) (L : List (Nat × Nat)) (h : HasTs t L)
    (minSize maxSize : Int) (minAgeS maxAgeS : Nat) (z : Bool) (nowT nowI : Nat) :
    (t.clean minSize maxSize minAgeS maxAgeS z nowT nowI).oplog
      = t.oplog.drop (cleanCount L minSize maxSize minAgeS maxAgeS z nowT nowI) :=
  Txn.clean_oplog t L h ..

/-- Clean touches nothing but the oplog namespace. -/
theorem clean_other_namespaces (t : Txn) (minSize maxSize : Int) (minAgeS maxAgeS : Nat) (z : Bool) (nowT nowI : Nat)
    (h : Handle) (hne : h ≠ oplogHandle) :
    (t.clean minSize maxSize minAgeS maxAgeS z nowT nowI).catalog.get? h = t.catalog.get? h := by
  rw [Txn.clean_def]
  split
  · exact Txn.trimmed_get? _ _ _ hne
  · rfl

/-- `clean_noop_not_dirty`: nothing to drop ⇒ the transaction is returned unchanged
    (same catalog, dirty flag not set). -/
theorem clean_noop_not_dirty (t : Txn) (L : List (Nat × Nat)) (h : HasTs t L)
    (minSize maxSize : Int) (minAgeS maxAgeS : Nat) (z : Bool) (nowT nowI : Nat)
    (hk : cleanCount L minSize maxSize minAgeS maxAgeS z nowT nowI = 0) :
    t.clean minSize maxSize minAgeS maxAgeS z nowT nowI = t := by
  rw [Txn.clean_eq t L h, hk]
  rfl

/-- every removed event is droppable (index form of "the counted prefix satisfies the loop condition") -/
theorem removed_droppable (L : List (Nat × Nat)) (minSize maxSize : Int) (minAgeS maxAgeS : Nat) (z : Bool)
    (nowT nowI : Nat) (j : Nat) (hj : j < cleanCount L minSize maxSize minAgeS maxAgeS z nowT nowI) :
    ∃ ts, L[j]? = some ts ∧
      droppable L.length minSize maxSize z (cutoffT nowT minAgeS) (cutoffT nowT maxAgeS) nowI j ts = true := by
  rw [cleanCount_eq] at hj
  have := leading_spec _ 0 L j hj
  simpa using this

/-- `clean_protects_min_size`: no removed event is one of the `minSize` newest
    (`j < k → j < n − minSize`); hence `k ≤ n − minSize` when `0 ≤ minSize ≤ n`, and nothing at
    all is removed when `n ≤ minSize`. -/
theorem clean_protects_min_size (L : List (Nat × Nat)) (minSize maxSize : Int) (minAgeS maxAgeS : Nat) (z : Bool)
    (nowT nowI : Nat) :
    let k := cleanCount L minSize maxSize minAgeS maxAgeS z nowT nowI
    (∀ j, j < k → (j : Int) < (L.length : Int) - minSize) ∧
    (minSize ≤ L.length → (k : Int) ≤ (L.length : Int) - minSize) ∧
    ((L.length : Int) ≤ minSize → k = 0) := by
  intro k
  have key : ∀ j, j < k → (j : Int) < (L.length : Int) - minSize := by
    intro j hj
    obtain ⟨ts, _, hd⟩ := removed_droppable L minSize maxSize minAgeS maxAgeS z nowT nowI j hj
    exact ((droppable_iff ..).mp hd).1.1
  refine ⟨key, ?_, ?_⟩
  · intro hm
    by_cases hk : k = 0
    · omega
    · have := key (k - 1) (by omega)
      omega
  · intro hm
    by_cases hk : k = 0
    · exact hk
    · have := key 0 (by omega)
      omega

/-- `clean_protects_min_age`: with `minAge ≠ 0` every removed event is strictly older than the
    minimum-age cutoff `(minT, 0)`, i.e. its seconds are `< minT`: no event with timestamp
    ≥ minTimestamp is ever removed. -/
theorem clean_protects_min_age (L : List (Nat × Nat)) (minSize maxSize : Int) (minAgeS maxAgeS : Nat)
    (nowT nowI : Nat) (j : Nat) (ts : Nat × Nat)
    (hj : j < cleanCount L minSize maxSize minAgeS maxAgeS false nowT nowI) (hts : L[j]? = some ts) :
    tsLt ts (cutoffT nowT minAgeS, 0) = true ∧ ts.1 < cutoffT nowT minAgeS := by
  obtain ⟨ts', h1, hd⟩ := removed_droppable L minSize maxSize minAgeS maxAgeS false nowT nowI j hj
  rw [hts] at h1; cases h1
  have := ((droppable_iff ..).mp hd).1.2.resolve_left Bool.false_ne_true
  exact ⟨this, (tsLt_zero _ _).mp this⟩

/-- … in plain seconds, in the range where the uint32 subtraction is exact: a removed event was
    stamped more than `minAgeS` seconds before `now`. -/
theorem clean_protects_min_age_nowrap (L : List (Nat × Nat)) (minSize maxSize : Int) (minAgeS maxAgeS : Nat)
    (nowT nowI : Nat) (hw : NoWrap nowT minAgeS) (j : Nat) (ts : Nat × Nat)
    (hj : j < cleanCount L minSize maxSize minAgeS maxAgeS false nowT nowI) (hts : L[j]? = some ts) :
    ts.1 + minAgeS < nowT := by
  have := (clean_protects_min_age L minSize maxSize minAgeS maxAgeS nowT nowI j ts hj hts).2
  rw [cutoff_nowrap _ _ hw] at this
  omega

/-- `clean_min_age_zero`: `minAge == 0` switches the age protection off — the decision no longer
    depends on `minAgeS`/the min cutoff, only on the size protection and the max clauses. -/
theorem clean_min_age_zero (L : List (Nat × Nat)) (minSize maxSize : Int) (minAgeS maxAgeS : Nat) (nowT nowI : Nat) :
    cleanCount L minSize maxSize minAgeS maxAgeS true nowT nowI
      = leading (fun i ts => decide ((i : Int) < (L.length : Int) - minSize) &&
          (decide ((i : Int) < (L.length : Int) - maxSize) || tsLt ts (cutoffT nowT maxAgeS, nowI))) 0 L := by
  rw [cleanCount_eq]
  congr 1
  funext i ts
  simp [droppable]

/-- `droppable_monotone`: along a log with non-decreasing timestamps, once an event is a keeper
    every later event is a keeper too — so stopping at the first keeper loses nothing. -/
theorem droppable_monotone (L : List (Nat × Nat)) (hs : NonDecreasing L)
    (minSize maxSize : Int) (z : Bool) (minT maxT nowI : Nat) (j j' : Nat) (a b : Nat × Nat)
    (ha : L[j]? = some a) (hb : L[j']? = some b) (hjj : j ≤ j')
    (hkeep : droppable L.length minSize maxSize z minT maxT nowI j a = false) :
    droppable L.length minSize maxSize z minT maxT nowI j' b = false := by
  cases hd : droppable L.length minSize maxSize z minT maxT nowI j' b with
  | false => rfl
  | true =>
    have := droppable_antitone L.length minSize maxSize z minT maxT nowI hjj (sorted_get hs ha hb hjj) hd
    rw [this] at hkeep; cases hkeep

/-- `clean_removes_all_droppable`: with non-decreasing timestamps the removed events are EXACTLY
    the droppable ones. -/
theorem clean_removes_all_droppable (L : List (Nat × Nat)) (hs : NonDecreasing L)
    (minSize maxSize : Int) (minAgeS maxAgeS : Nat) (z : Bool) (nowT nowI : Nat) (j : Nat) (ts : Nat × Nat)
    (hts : L[j]? = some ts) :
    j < cleanCount L minSize maxSize minAgeS maxAgeS z nowT nowI ↔
      droppable L.length minSize maxSize z (cutoffT nowT minAgeS) (cutoffT nowT maxAgeS) nowI j ts = true := by
  constructor
  · intro hj
    obtain ⟨ts', h1, hd⟩ := removed_droppable L minSize maxSize minAgeS maxAgeS z nowT nowI j hj
    rw [hts] at h1; cases h1; exact hd
  · intro hd
    rw [cleanCount_eq]
    apply Classical.byContradiction
    intro hnot
    have hjn : j < L.length := (List.getElem?_eq_some_iff.mp hts).1
    have hstop := leading_stop (droppable L.length minSize maxSize z (cutoffT nowT minAgeS) (cutoffT nowT maxAgeS) nowI) 0 L (by omega)
    obtain ⟨a, ha, hpa⟩ := hstop
    simp only [Nat.zero_add] at hpa
    have := droppable_monotone L hs minSize maxSize z _ _ nowI _ j a ts ha hts (by omega) hpa
    rw [this] at hd; cases hd

/-- `clean_enforces`: an event beyond the maximum size (`j < n − maxSize`) or beyond the maximum
    age (`L[j] < (maxT, nowI)`) is removed as soon as neither protection covers it: it is not one
    of the `minSize` newest, and `minAge = 0` or it is older than the minimum age. -/
theorem clean_enforces (L : List (Nat × Nat)) (hs : NonDecreasing L)
    (minSize maxSize : Int) (minAgeS maxAgeS : Nat) (z : Bool) (nowT nowI : Nat) (j : Nat) (ts : Nat × Nat)
    (hts : L[j]? = some ts)
    (hsize : (j : Int) < (L.length : Int) - minSize)
    (hage : z = true ∨ ts.1 < cutoffT nowT minAgeS)
    (hmax : (j : Int) < (L.length : Int) - maxSize ∨ tsLt ts (cutoffT nowT maxAgeS, nowI) = true) :
    j < cleanCount L minSize maxSize minAgeS maxAgeS z nowT nowI := by
  rw [clean_removes_all_droppable L hs minSize maxSize minAgeS maxAgeS z nowT nowI j ts hts, droppable_iff]
  exact ⟨⟨hsize, hage.imp_right (tsLt_zero _ _).mpr⟩, hmax⟩

/-- … in plain seconds under no-wrap: older than `maxAgeS` seconds (or exactly at the cutoff second
    with a smaller counter than `now`) and past the minimum age ⇒ removed. -/
theorem clean_enforces_age_nowrap (L : List (Nat × Nat)) (hs : NonDecreasing L)
    (minSize maxSize : Int) (minAgeS maxAgeS : Nat) (nowT nowI : Nat)
    (hw1 : NoWrap nowT minAgeS) (hw2 : NoWrap nowT maxAgeS) (j : Nat) (ts : Nat × Nat)
    (hts : L[j]? = some ts)
    (hsize : (j : Int) < (L.length : Int) - minSize)
    (hmin : ts.1 + minAgeS < nowT)
    (hmax : ts.1 + maxAgeS < nowT) :
    j < cleanCount L minSize maxSize minAgeS maxAgeS false nowT nowI := by
  apply clean_enforces L hs minSize maxSize minAgeS maxAgeS false nowT nowI j ts hts hsize
  · right; rw [cutoff_nowrap _ _ hw1]; omega
  · right; rw [tsLt_iff, cutoff_nowrap _ _ hw2]; left; simp only; omega

/-- `clean_drops_prefix`: the whole effect of Clean in one statement — the log loses exactly its first
    `k = cleanCount …` events (`k ≤ n`), every other namespace is what it was, and the transaction is
    marked dirty iff something was removed (it keeps its flag otherwise). -/
theorem clean_drops_prefix (t : Txn) (L : List (Nat × Nat)) (h : HasTs t L)
    (minSize maxSize : Int) (minAgeS maxAgeS : Nat) (z : Bool) (nowT nowI : Nat) :
    let k := cleanCount L minSize maxSize minAgeS maxAgeS z nowT nowI
    let t' := t.clean minSize maxSize minAgeS maxAgeS z nowT nowI
    k ≤ L.length ∧ t'.oplog = t.oplog.drop k ∧
    (∀ hd, hd ≠ oplogHandle → t'.catalog.get? hd = t.catalog.get? hd) ∧
    t'.dirty = (t.dirty || decide (0 < k)) := by
  intro k t'
  refine ⟨cleanCount_le .., clean_prefix t L h .., fun hd hne => clean_other_namespaces t _ _ _ _ _ _ _ hd hne, ?_⟩
  show (t.clean minSize maxSize minAgeS maxAgeS z nowT nowI).dirty = _
  rw [Txn.clean_eq t L h]
  by_cases hk : 0 < k
  · simp [k, hk, Txn.trimmed] at *
  · simp [k, hk] at *

/-- `clean_monotone_now`: within one second the number of removed events can only grow with the
    counter of `now` (the maximum-age cutoff `(maxT, now.I)` moves forward; nothing else depends on
    `now.I`).  The `retain` stream relies on this: `now.I` is only known to lie between two readings of
    the clock, and every count between the counts for the two ends is admissible. -/
theorem clean_monotone_now (L : List (Nat × Nat)) (minSize maxSize : Int) (minAgeS maxAgeS : Nat) (z : Bool)
    (nowT : Nat) {nowI nowI' : Nat} (h : nowI ≤ nowI') :
    cleanCount L minSize maxSize minAgeS maxAgeS z nowT nowI ≤ cleanCount L minSize maxSize minAgeS maxAgeS z nowT nowI' := by
  rw [cleanCount_eq, cleanCount_eq]
  exact leading_mono _ _ (fun i a hd => droppable_mono_nowI _ _ _ _ _ _ h i a hd) 0 L

/-- `clean_antitone_sizes`: larger limits never remove more — raising `minSize` and/or `maxSize`
    (same log, same ages, same `now`) removes at most as many events. -/
theorem clean_antitone_sizes (L : List (Nat × Nat)) {minSize minSize' maxSize maxSize' : Int} (minAgeS maxAgeS : Nat)
    (z : Bool) (nowT nowI : Nat) (h1 : minSize ≤ minSize') (h2 : maxSize ≤ maxSize') :
    cleanCount L minSize' maxSize' minAgeS maxAgeS z nowT nowI ≤ cleanCount L minSize maxSize minAgeS maxAgeS z nowT nowI := by
  rw [cleanCount_eq, cleanCount_eq]
  exact leading_mono _ _ (fun i a hd => droppable_antitone_sizes _ _ _ _ _ h1 h2 i a hd) 0 L

/-- `clean_idempotent_count`: on the log that remains after a retention pass, a second pass with the
    same limits at the same `now` removes nothing: the first remaining event is a keeper, and its
    position relative to the END of the log (which is what both size limits look at) has not changed. -/
theorem clean_idempotent_count (L : List (Nat × Nat)) (minSize maxSize : Int) (minAgeS maxAgeS : Nat) (z : Bool)
    (nowT nowI : Nat) :
    cleanCount (L.drop (cleanCount L minSize maxSize minAgeS maxAgeS z nowT nowI)) minSize maxSize minAgeS maxAgeS z nowT nowI = 0 := by
  have hle := cleanCount_le L minSize maxSize minAgeS maxAgeS z nowT nowI
  rw [cleanCount_eq (L.drop _), List.length_drop]
  rw [leading_shift _ (droppable L.length minSize maxSize z (cutoffT nowT minAgeS) (cutoffT nowT maxAgeS) nowI)
    (cleanCount L minSize maxSize minAgeS maxAgeS z nowT nowI)
    (fun j a => droppable_shift L.length _ hle minSize maxSize z _ _ nowI j a)]
  have := leading_drop_self (droppable L.length minSize maxSize z (cutoffT nowT minAgeS) (cutoffT nowT maxAgeS) nowI) 0 L
  rw [← cleanCount_eq] at this
  simpa using this

/-- `clean_idempotent`: cleaning a transaction twice (same limits, same `now`) is cleaning it once. -/
theorem clean_idempotent (t : Txn) (L : List (Nat × Nat)) (h : HasTs t L)
    (minSize maxSize : Int) (minAgeS maxAgeS : Nat) (z : Bool) (nowT nowI : Nat) :
    (t.clean minSize maxSize minAgeS maxAgeS z nowT nowI).clean minSize maxSize minAgeS maxAgeS z nowT nowI
      = t.clean minSize maxSize minAgeS maxAgeS z nowT nowI := by
  exact clean_noop_not_dirty _ _ (Txn.clean_ts t L h ..) minSize maxSize minAgeS maxAgeS z nowT nowI
    (clean_idempotent_count L minSize maxSize minAgeS maxAgeS z nowT nowI)

/-- strictly increasing timestamps -/
def StrictlyIncreasing (L : List (Nat × Nat)) : Prop := L.Pairwise fun a b => tsLt a b = true

/-! ### retention at the system level (`Sys.commitWith` = Engine.Commit with `txn.Clean`) -/

/-- with at most `minSize` events in the log Clean does nothing at all (no assumption on the events) -/
theorem clean_small_noop (t : Txn) (minSize maxSize : Int) (minAgeS maxAgeS : Nat) (z : Bool) (nowT nowI : Nat)
    (hsmall : (t.oplog.length : Int) ≤ minSize) :
    t.clean minSize maxSize minAgeS maxAgeS z nowT nowI = t := by
  rw [Txn.clean_def, cleanDropped_zero_of_ge _ _ _ _ _ _ 0 _ (by omega)]
  rfl

/-- `commit_eq_commitWith_when_small`: as long as the transaction's log holds no more than `minSize`
    events (default 100), committing with retention and the plain `Sys.commit` used by the streams
    and by the theorems of parts 2–4 coincide. -/
theorem commit_eq_commitWith_when_small (cfg : CleanCfg) (nowT nowI : Nat) (s : Sys) (t : Txn) (nu : Nu)
    (hsmall : (t.oplog.length : Int) ≤ cfg.minSize) :
    s.commitWith cfg nowT nowI t nu = s.commit t nu := by
  unfold Sys.commitWith Sys.commit
  rw [clean_small_noop t _ _ _ _ _ _ _ hsmall]

/-- a transaction that is not dirty publishes nothing, with or without retention -/
theorem commitWith_clean_txn (cfg : CleanCfg) (nowT nowI : Nat) (s : Sys) (t : Txn) (nu : Nu) (h : t.dirty = false) :
    (s.commitWith cfg nowT nowI t nu).catalog = s.catalog := by
  simp [Sys.commitWith, h]

/-- `commitWith_spec`: the log published by a dirty commit is the transaction's log minus its first
    `k = cleanCount …` events; no removed event is one of the `minSize` newest or (unless
    `minAge == 0`) as young as the minimum-age cutoff; with non-decreasing timestamps the removed
    events are exactly the droppable ones (everything beyond the maximum size or age that neither
    protection covers goes); every other namespace is published as the transaction left it. -/
theorem commitWith_spec (cfg : CleanCfg) (nowT nowI : Nat) (s : Sys) (t : Txn) (nu : Nu) (L : List (Nat × Nat))
    (hts : HasTs t L) (hd : t.dirty = true) :
    let k := cleanCount L cfg.minSize cfg.maxSize cfg.minAgeS cfg.maxAgeS cfg.minAgeZero nowT nowI
    (s.commitWith cfg nowT nowI t nu).catalog.oplog = t.oplog.drop k ∧
    (∀ j, j < k → (j : Int) < (L.length : Int) - cfg.minSize) ∧
    (cfg.minAgeZero = false → ∀ j ts, j < k → L[j]? = some ts → ts.1 < cutoffT nowT cfg.minAgeS) ∧
    (NonDecreasing L → ∀ j ts, L[j]? = some ts →
      (j < k ↔ droppable L.length cfg.minSize cfg.maxSize cfg.minAgeZero (cutoffT nowT cfg.minAgeS)
        (cutoffT nowT cfg.maxAgeS) nowI j ts = true)) ∧
    (∀ h, h ≠ oplogHandle → (s.commitWith cfg nowT nowI t nu).catalog.get? h = t.catalog.get? h) := by
  intro k
  have hcat : (s.commitWith cfg nowT nowI t nu).catalog
      = (t.clean cfg.minSize cfg.maxSize cfg.minAgeS cfg.maxAgeS cfg.minAgeZero nowT nowI).catalog := by
    simp [Sys.commitWith, hd]
  refine ⟨?_, ?_, ?_, ?_, ?_⟩
  · rw [hcat]; exact clean_prefix t L hts ..
  · exact (clean_protects_min_size L cfg.minSize cfg.maxSize cfg.minAgeS cfg.maxAgeS cfg.minAgeZero nowT nowI).1
  · intro hz j ts hj hl
    have hj' : j < cleanCount L cfg.minSize cfg.maxSize cfg.minAgeS cfg.maxAgeS false nowT nowI := hz ▸ hj
    exact (clean_protects_min_age L cfg.minSize cfg.maxSize cfg.minAgeS cfg.maxAgeS nowT nowI j ts hj' hl).2
  · intro hs j ts hl
    exact clean_removes_all_droppable L hs cfg.minSize cfg.maxSize cfg.minAgeS cfg.maxAgeS cfg.minAgeZero nowT nowI j ts hl
  · intro h hne
    rw [hcat]; exact clean_other_namespaces t _ _ _ _ _ _ _ h hne

/-- retention at commit keeps the event ids strictly increasing: a stream reading the published log
    still sees increasing ids, now starting after the dropped prefix -/
theorem commitWith_keeps_strict (cfg : CleanCfg) (nowT nowI : Nat) (s : Sys) (t : Txn) (nu : Nu) (L : List (Nat × Nat))
    (hts : HasTs t L) (hs : StrictlyIncreasing L) (hd : t.dirty = true) :
    let k := cleanCount L cfg.minSize cfg.maxSize cfg.minAgeS cfg.maxAgeS cfg.minAgeZero nowT nowI
    (s.commitWith cfg nowT nowI t nu).catalog.oplog.map (fun sd => eventTs sd.doc) = (L.drop k).map some ∧
    StrictlyIncreasing (L.drop k) := by
  intro k
  refine ⟨?_, hs.sublist (List.drop_sublist k L)⟩
  rw [(commitWith_spec cfg nowT nowI s t nu L hts hd).1, List.map_drop, hts, List.map_drop]

/-! non-vacuity (evaluated tests): a log of 6 events stamped 100,100,200,300,400,400 s; now = (1000, 7) -/
private def ev (i T I : Nat) : SDoc := { id := i, doc := [("_id", .doc [("ts", .ts T I)]), ("operationType", .str "insert")] }
private def log6 : List SDoc := [ev 0 100 1, ev 1 100 2, ev 2 200 1, ev 3 300 1, ev 4 400 1, ev 5 400 2]
private def t6 : Txn := { catalog := { namespaces := [(oplogHandle, { docs := log6, indexes := [] })], clock := 6 } }
private def L6 : List (Nat × Nat) := [(100, 1), (100, 2), (200, 1), (300, 1), (400, 1), (400, 2)]
-- the hypotheses hold for the sample
#guard t6.oplog.map (fun sd => eventTs sd.doc) == L6.map some
-- size only (minAge = 0, huge maxAge): keep the 2 newest of 6 with maxSize 2 → 4 dropped
#guard cleanCount L6 1 2 0 900 true 1000 7 == 4
#guard ((t6.clean 1 2 0 900 true 1000 7).oplog.map (·.id)) == [4, 5]
#guard (t6.clean 1 2 0 900 true 1000 7).dirty
-- min age 750 s protects everything stamped ≥ 250: only the first three go although maxSize = 2
#guard cleanCount L6 1 2 750 900 false 1000 7 == 3
-- max age 650 s (cutoff (350,7)) forces out 4 events although maxSize = 100; minSize 3 caps it at 3
#guard cleanCount L6 1 100 0 650 true 1000 7 == 4
#guard cleanCount L6 3 100 0 650 true 1000 7 == 3
-- n ≤ minSize: nothing, transaction untouched
#guard cleanCount L6 6 0 0 0 true 1000 7 == 0
#guard !(t6.clean 6 0 0 0 true 1000 7).dirty
-- commit with retention vs. plain commit
#guard ((Sys.init.commitWith { minSize := 1, maxSize := 2, minAgeS := 0, maxAgeS := 900, minAgeZero := true } 1000 7
  { t6 with dirty := true } { nextId := 9, oids := [] }).catalog.oplog.map (·.id)) == [4, 5]
#guard ((Sys.init.commitWith { minSize := 6 } 1000 7 { t6 with dirty := true } { nextId := 9, oids := [] }).catalog.oplog.length) == 6
-- monotone in now.I: two events on the maxAge second (cutoff (400, I)) — counter 1 keeps both, 2 drops one, 3 both
#guard (cleanCount L6 0 100 0 600 true 1000 1, cleanCount L6 0 100 0 600 true 1000 2, cleanCount L6 0 100 0 600 true 1000 3) == (4, 5, 6)
-- antitone in the sizes
#guard (cleanCount L6 0 1 0 900 true 1000 7, cleanCount L6 2 1 0 900 true 1000 7, cleanCount L6 2 3 0 900 true 1000 7) == (5, 4, 3)
-- idempotent: a second pass over the remaining log removes nothing (first pass removed 4)
#guard cleanCount (L6.drop 4) 1 2 0 900 true 1000 7 == 0
#guard ((t6.clean 1 2 0 900 true 1000 7).clean 1 2 0 900 true 1000 7).oplog.map (·.id) == [4, 5]
-- wrap-around: nowT = 100 < age 900 gives a cutoff near 2³², everything looks old
#guard cutoffT 100 900 == 4294966496
#guard cutoffT 1000 900 == 100

/-! ## Part 2 — event ids (`ids_strict_mono`)

  In the model the event id `_id.ts` is `(0, k)` with `k` the logical clock (the harness renumbers
  the real `bsonkit.Now()` stamps, which are strictly increasing by construction of `Now`). -/

theorem range_strict (a n : Nat) : StrictlyIncreasing ((List.range' a n).map fun k => (0, k)) := by
  unfold StrictlyIncreasing
  rw [List.pairwise_map]
  have : (List.range' a n).Pairwise (· < ·) := List.pairwise_lt_range'
  exact this.imp (fun {x y} hxy => by rw [tsLt_iff]; right; exact ⟨rfl, hxy⟩)

/-- `ids_strict_mono`: in every state reachable from the empty engine by successful driver calls the
    events' ids are exactly `(0,1), …, (0,clock)` in log order — hence strictly increasing, pairwise
    distinct, and the hypotheses of the retention theorems (`HasTs`, `NonDecreasing`) hold. -/
theorem ids_strict_mono (sch : SchemaEval) (s : Sys) (h : Reachable sch s) :
    let L := (List.range' 1 s.catalog.clock).map fun k => (0, k)
    s.catalog.oplog.map (fun sd => eventTs sd.doc) = L.map some ∧
    StrictlyIncreasing L ∧ L.Nodup ∧ NonDecreasing L ∧ s.catalog.oplog.length = s.catalog.clock := by
  intro L
  have hi := h.inv.ids
  have hs : StrictlyIncreasing L := range_strict 1 _
  refine ⟨by rw [hi]; simp [L], hs, ?_, ?_, ?_⟩
  · exact hs.imp (fun {a b} hab e => by
      rw [e, tsLt_iff] at hab
      omega)
  · exact hs.imp (fun {a b} hab => by
      rw [tsLt_iff] at hab
      unfold tsLe
      omega)
  · have := congrArg List.length hi
    simpa using this

/-- one step: the new state's log is the old log plus freshly numbered events (nothing is rewritten) -/
theorem step_appends (sch : SchemaEval) (s s' : Sys) (c : Call) (oids : List V) (r : Reply)
    (h : Reachable sch s) (hr : Sys.step sch s c oids = .ok (s', r)) :
    ∃ es : List EvSpec, s'.catalog.oplog.map (·.doc) = s.catalog.oplog.map (·.doc) ++ evDocs s.catalog.clock es ∧
      s'.catalog.clock = s.catalog.clock + es.length := by
  obtain ⟨es, he⟩ := Sys.step_ext sch s s' c oids r h.inv.plain hr
  exact ⟨es, he.oplog, he.clock⟩

/-- retention keeps the ids strictly increasing (it removes a prefix) -/
theorem clean_keeps_strict (t : Txn) (L : List (Nat × Nat)) (h : HasTs t L) (hs : StrictlyIncreasing L)
    (minSize maxSize : Int) (minAgeS maxAgeS : Nat) (z : Bool) (nowT nowI : Nat) :
    let k := cleanCount L minSize maxSize minAgeS maxAgeS z nowT nowI
    HasTs (t.clean minSize maxSize minAgeS maxAgeS z nowT nowI) (L.drop k) ∧ StrictlyIncreasing (L.drop k) := by
  exact ⟨Txn.clean_ts t L h .., hs.sublist (List.drop_sublist _ L)⟩

/-! ## Part 3 — silent operations (`silent_ops`) -/

/-- executing a call: a failing call leaves the system as it was (`Sys.step` returns no state on error;
    the driver keeps the old one — in Go: the transaction is aborted, `engine.catalog` is not replaced) -/
def Sys.exec (sch : SchemaEval) (s : Sys) (c : Call) (oids : List V) : Sys :=
  match Sys.step sch s c oids with
  | .ok (s', _) => s'
  | .error _ => s

/-- the events recorded between two states -/
def newEvents (s s' : Sys) : List Doc := (s'.catalog.oplog.drop s.catalog.oplog.length).map (·.doc)

theorem silent_failed_call (sch : SchemaEval) (s : Sys) (c : Call) (oids : List V) (e : Err)
    (h : Sys.step sch s c oids = .error e) : Sys.exec sch s c oids = s ∧ newEvents s (Sys.exec sch s c oids) = [] := by
  simp [Sys.exec, h, newEvents]

/-- a transaction that is not dirty (aborted / nothing written) publishes nothing: same catalog, no event -/
theorem silent_clean_txn (s : Sys) (t : Txn) (nu : Nu) (h : t.dirty = false) :
    (s.commit t nu).catalog = s.catalog ∧ newEvents s (s.commit t nu) = [] := by
  have := Sys.commit_clean s t nu h
  simp [newEvents, this]

/-- a successful call only extends the oplog: the catalog after it is the catalog before it plus the
    events of some list `es` (`Ext`).  That a transaction method returns the same transaction or a dirty
    one is `TxnCall.Runs.same_or_dirty` (Proofs/OplogSteps). -/
theorem txn_unchanged_or_dirty (sch : SchemaEval) (s s' : Sys) (c : Call) (oids : List V) (r : Reply)
    (hp : OplogPlain s.catalog) (hr : Sys.step sch s c oids = .ok (s', r)) :
    ∃ es : List EvSpec, Ext s.catalog s'.catalog es := Sys.step_ext sch s s' c oids r hp hr

/-- creating a collection appends no event -/
theorem silent_create (t t' : Txn) (h : Handle) (hr : t.create h = .ok t') :
    t'.catalog.oplog = t.catalog.oplog ∧ t'.catalog.clock = t.catalog.clock :=
  (Txn.create_ok (ac := acOf schemaUnmodelled) hr).silent

/-- creating an index appends no event -/
theorem silent_createIndex (sch : SchemaEval) (t t' : Txn) (h : Handle) (name name' : String) (cfg : IndexConfig)
    (hr : t.createIndex sch h name cfg = .ok (t', name')) :
    t'.catalog.oplog = t.catalog.oplog ∧ t'.catalog.clock = t.catalog.clock :=
  (Txn.createIndex_ok (ac := acOf sch) hr).silent

/-- dropping indexes appends no event -/
theorem silent_dropIndex (t t' : Txn) (h : Handle) (name : String) (hr : t.dropIndex h name = .ok t') :
    t'.catalog.oplog = t.catalog.oplog ∧ t'.catalog.clock = t.catalog.clock :=
  (Txn.dropIndex_ok (ac := acOf schemaUnmodelled) hr).silent

/-- Collection.Replace reports a document as modified only if it differs structurally (same BSON
    encoding ⇔ `V.beq`) from the stored one: a no-op replacement yields `modified = []`. -/
theorem replace_modified_differs (sch : SchemaEval) (c : Coll) (q repl : Doc) (sort : Option Doc) (nu nu' : Nu)
    (res : CResult) (hr : c.replace sch q repl sort nu = .ok (res, nu')) :
    ∀ m ∈ res.modified, ∃ o ∈ res.matched, (V.doc o.doc == V.doc m.doc) = false := by
  rcases Coll.replace_ok hr with ⟨_, rfl, _⟩ | ⟨old, _, d, _, _, _, _, rfl, _⟩
  · exact fun m hm => nomatch hm
  · intro m hm
    dsimp only at hm
    split at hm
    · cases hm
    · rename_i hne
      cases List.mem_singleton.mp hm
      exact ⟨old, List.mem_singleton_self _, by simpa [Spec.sameDoc] using hne⟩

/-- Collection.Update reports as modified (and records changes for) exactly the matched documents
    whose updated version differs structurally from the stored one; `changes` is aligned with
    `modified`. -/
theorem update_modified_differs (ac : ACtx) (c : Coll) (q u : Doc) (sort : Option Doc) (skip limit : Int)
    (fs : List Doc) (nu nu' : Nu) (res : CResult)
    (hr : c.update ac q u sort skip limit fs nu = .ok (res, nu')) :
    res.modified.length = res.changes.length ∧
    ∀ m ∈ res.modified, ∃ o ∈ res.matched, (V.doc o.doc == V.doc m.doc) = false := by
  obtain ⟨list, news, _, _, _, _, _, _, _, rfl⟩ := Coll.update_ok hr
  refine ⟨by simp, fun m hm => ?_⟩
  obtain ⟨p, hp, rfl⟩ := List.mem_map.mp hm
  obtain ⟨hz, hne⟩ := List.mem_filter.mp hp
  exact ⟨p.1, (List.of_mem_zip hz).1, by simpa [changed, Spec.sameDoc] using hne⟩

/-- a Replace that modifies and upserts nothing returns the transaction unchanged: no event, not dirty -/
theorem silent_noop_replace (ac : ACtx) (t t' : Txn) (h : Handle) (q repl : Doc) (sort : Option Doc) (upsert : Bool)
    (nu nu' : Nu) (r : TResult) (hr : t.replace ac h q sort repl upsert nu = .ok (t', r, nu'))
    (hm : r.modified = []) (hu : r.upserted = none) : t' = t := by
  obtain ⟨_, ⟨rfl, _⟩ | ⟨_, _, rfl⟩⟩ := Txn.replace_ok hr
  · rfl
  · simp [hm, hu]

/-- an Update that modifies and upserts nothing returns the transaction unchanged -/
theorem silent_noop_update (ac : ACtx) (t t' : Txn) (h : Handle) (q u : Doc) (sort : Option Doc) (skip limit : Int)
    (upsert : Bool) (fs : List Doc) (nu nu' : Nu) (r : TResult)
    (hr : t.update ac h q sort u skip limit upsert fs nu = .ok (t', r, nu'))
    (hm : r.modified = []) (hu : r.upserted = none) : t' = t := by
  obtain ⟨_, ⟨rfl, _⟩ | ⟨_, _, rfl⟩⟩ := Txn.update_ok hr
  · rfl
  · simp [hm, hu]

/-- a Delete that matches nothing returns the transaction unchanged -/
theorem silent_noop_delete (sch : SchemaEval) (t t' : Txn) (h : Handle) (q : Doc) (sort : Option Doc) (skip limit : Int)
    (nu nu' : Nu) (r : TResult) (hr : t.delete sch h q sort skip limit nu = .ok (t', r, nu'))
    (hm : r.matched = []) : t' = t := by
  obtain ⟨_, ⟨rfl, _⟩ | ⟨_, _, rfl⟩⟩ := Txn.delete_ok hr
  · rfl
  · simp [hm]

/-- an Insert none of whose documents could be inserted (all rejected) returns the transaction unchanged -/
theorem silent_failed_insert (sch : SchemaEval) (t t' : Txn) (h : Handle) (docs : List Doc) (ordered : Bool)
    (nu nu' : Nu) (r : TResult) (hr : t.insert sch h docs ordered nu = .ok (t', r, nu'))
    (hm : r.modified = []) : t' = t := by
  obtain ⟨_, g, _, rfl, _, rfl⟩ := Txn.insert_ok hr
  rw [show g.2.2.1 = [] from hm]
  rfl

-- non-vacuity for parts 2/3: a short history on the model
private def hA : Handle := ⟨"db", "a"⟩
private def run (cs : List Call) : Sys := cs.foldl (fun s c => Sys.exec schemaUnmodelled s c []) Sys.init
private def hist : List Call :=
  [.insertMany hA [[("_id", .i32 1), ("x", .i32 1)], [("_id", .i32 2), ("x", .i32 2)]] true,
   .updateMany hA [] [("$set", .doc [("x", .i32 2)])] false [],          -- modifies doc 1 only
   .updateMany hA [] [("$set", .doc [("x", .i32 2)])] false [],          -- no-op
   .insertOne hA [("_id", .i32 1)],                                       -- duplicate: fails
   .createIndex hA "" { key := [("x", .i32 1)] },                         -- no event
   .replaceOne hA [("_id", .i32 2)] [("x", .i32 2)] false,                 -- no-op replace
   .deleteMany hA [("x", .i32 7)],                                        -- matches nothing
   .deleteOne hA [("_id", .i32 2)]]
#guard (run hist).catalog.clock == 4
#guard (run hist).catalog.oplog.map (fun sd => eventTs sd.doc) == [some (0, 1), some (0, 2), some (0, 3), some (0, 4)]
#guard (run hist).catalog.oplog.map (fun sd => Get sd.doc "operationType") == [.str "insert", .str "insert", .str "update", .str "delete"]
#guard (Sys.step schemaUnmodelled (run (hist.take 3)) (.insertOne hA [("_id", .i32 1)]) []) matches .error _

/-! ## Part 4 — `oplog_faithful`

  `contents cat` = every namespace but `local.oplog` with its documents in natural order;
  `Spec.replay events contents` (Lungo/Spec/Replay.lean) reads each event like a change-stream
  consumer and applies it. Contents are compared per namespace as document LISTS (natural order
  is preserved), an absent namespace counting as empty (creating a collection or an index appends
  no event), on every namespace other than `local.oplog` itself (`SameContents`).

  Coherence facts assumed of the collection model (`CatOK`; assumed of the state before and after
  each call, nothing in the development establishes it of reachable catalogs): in every namespace
  but the oplog
    * document identities (`SDoc.id`, the Go pointers) are pairwise distinct, and
    * `_id` values are pairwise structurally distinct (implied by the unique `_id_` index).
  They are needed of the state before AND after the call (an insert is only faithful if the new
  `_id` is not already present).

  PROVED for (`Call.covered`): insertOne, insertMany, deleteOne, deleteMany, findOneAndDelete,
  dropCollection, dropDatabase, expire, createCollection, createIndex, dropIndex(es), all reads.
  `oplog_faithful_partial` below is therefore the full statement restricted to these calls.
  MISSING (not covered): updateOne/updateMany/findOneAndUpdate, replaceOne/findOneAndReplace
  (including their upsert branch, which is the insert case) and bulkWrite. What is missing is
  (1) for replace/update: `(replaceDoc docs old.id nw).map doc = setAt (key nw) nw.doc (docs.map doc)`
  — from `sameId` and the two distinctness facts, plus for a replacement without `_id` the lemma
  `Get (Put repl ["_id"] v true) "_id" = v`, which needs `splitPath "_id" = ["_id"]` (string
  splitting does not reduce in the kernel); for multi-updates the fold over the matched list;
  (2) for bulk: coherence at every intermediate catalog. The oplog side of these calls IS proved
  (`step_appends`, `ids_strict_mono`). -/

/-- equality of contents per namespace, `local.oplog` excluded -/
def SameContents (a b : Contents) : Prop := ∀ h, h ≠ oplogHandle → a.docs h = b.docs h

/-- the events recorded between two catalogs -/
def eventsBetween (cat cat' : Catalog) : List Doc := (cat'.oplog.drop cat.oplog.length).map (·.doc)

theorem eventsBetween_adv {cat cat' : Catalog} {es : List EvSpec} (h : Ext cat cat' es) :
    eventsBetween cat cat' = evDocs cat.clock es := by
  unfold eventsBetween
  rw [List.map_drop, h.oplog]
  have : cat.oplog.length = (cat.oplog.map (·.doc)).length := by simp
  rw [this, List.drop_left]

theorem adv_replay {cat cat' : Catalog} {es : List EvSpec} (h : Adv cat cat' es) :
    SameContents (replay (eventsBetween cat cat') (contents cat)) (contents cat') := by
  intro h' hne
  rw [eventsBetween_adv h.ext, replay_evDocs_docs, contents_docs, contents_docs]
  simp only [hne, ↓reduceIte]
  exact (h.faith h' hne).symm

/-- `oplog_faithful` (full statement: for EVERY call) restricted to the covered calls:
    replaying the events recorded by one successful call onto the contents before it gives the
    contents after it. -/
theorem oplog_faithful_partial (sch : SchemaEval) (s s' : Sys) (c : Call) (oids : List V) (r : Reply)
    (hcov : c.covered = true) (hp : OplogPlain s.catalog) (hok : CatOK s.catalog) (hok' : CatOK s'.catalog)
    (hr : Sys.step sch s c oids = .ok (s', r)) :
    SameContents (replay (eventsBetween s.catalog s'.catalog) (contents s.catalog)) (contents s'.catalog) := by
  obtain ⟨es, h⟩ := Sys.step_adv sch s s' c oids r hcov hp hok hok' hr
  exact adv_replay h

/-- executing a sequence of calls (failing calls leave the state unchanged) -/
def execAll (sch : SchemaEval) (s : Sys) : List (Call × List V) → Sys
  | [] => s
  | (c, o) :: r => execAll sch (Sys.exec sch s c o) r

/-- along the run every call is covered and every state satisfies the coherence facts -/
def AllOK (sch : SchemaEval) (s : Sys) : List (Call × List V) → Prop
  | [] => CatOK s.catalog
  | (c, o) :: r => CatOK s.catalog ∧ c.covered = true ∧ AllOK sch (Sys.exec sch s c o) r

theorem AllOK.head {sch : SchemaEval} {s : Sys} {cs : List (Call × List V)} (h : AllOK sch s cs) : CatOK s.catalog := by
  cases cs with
  | nil => exact h
  | cons a r => exact h.1

theorem run_adv (sch : SchemaEval) (cs : List (Call × List V)) :
    ∀ s : Sys, OplogPlain s.catalog → AllOK sch s cs → ∃ es, Adv s.catalog (execAll sch s cs).catalog es := by
  induction cs with
  | nil => intro s _ _; exact ⟨[], Adv.refl _⟩
  | cons a r ih =>
    intro s hp hall
    obtain ⟨c, o⟩ := a
    obtain ⟨hok, hcov, hrest⟩ := hall
    simp only [execAll]
    unfold Sys.exec at hrest ⊢
    cases hstep : Sys.step sch s c o with
    | error e =>
      simp only [hstep] at hrest ⊢
      exact ih s hp hrest
    | ok p =>
      obtain ⟨s', rep⟩ := p
      simp only [hstep] at hrest ⊢
      obtain ⟨es1, h1⟩ := Sys.step_adv sch s s' c o rep hcov hp hok hrest.head hstep
      obtain ⟨es2, h2⟩ := ih s' (h1.ext.plain hp) hrest
      exact ⟨_, Adv.trans h1 h2⟩

/-- `oplog_faithful_run`: between ANY two points of a history — `s` is the state at the earlier
    point (any state with a TTL-free oplog namespace, e.g. any reachable one), `cs` the calls
    executed between the two points — replaying the events recorded in between onto the contents
    at the earlier point reproduces the contents at the later point. (`_partial`: covered calls only.) -/
theorem oplog_faithful_run_partial (sch : SchemaEval) (s : Sys) (cs : List (Call × List V))
    (hp : OplogPlain s.catalog) (hall : AllOK sch s cs) :
    SameContents (replay (eventsBetween s.catalog (execAll sch s cs).catalog) (contents s.catalog))
      (contents (execAll sch s cs).catalog) := by
  obtain ⟨es, h⟩ := run_adv sch cs s hp hall
  exact adv_replay h

/-- … and the events between the two points are exactly the log suffix added in between, numbered
    consecutively from the earlier clock (gap-free, in commit order). -/
theorem run_events_consecutive (sch : SchemaEval) (s : Sys) (cs : List (Call × List V))
    (hp : OplogPlain s.catalog) (hall : AllOK sch s cs) :
    (eventsBetween s.catalog (execAll sch s cs).catalog).map eventTs
      = (List.range' (s.catalog.clock + 1) ((execAll sch s cs).catalog.clock - s.catalog.clock)).map fun k => some (0, k) := by
  obtain ⟨es, h⟩ := run_adv sch cs s hp hall
  rw [eventsBetween_adv h.ext, evDocs_ts, h.ext.clock]
  congr 2
  omega

-- non-vacuity for part 4: replay between two points of a concrete history (ids 1,2 inserted; 2 deleted; 3 inserted; db dropped)
private def hB : Handle := ⟨"db", "b"⟩
private def histF : List (Call × List V) :=
  [(.insertMany hA [[("_id", .i32 1), ("x", .i32 1)], [("_id", .i32 2), ("x", .i32 2)]] true, []),
   (.insertOne hB [("_id", .str "k")], []),
   (.deleteOne hA [("_id", .i32 1)], []),
   (.createIndex hA "" { key := [("x", .i32 1)] }, []),
   (.insertOne hA [("_id", .i32 3)], []),
   (.dropCollection hB, [])]
private def sMid : Sys := execAll schemaUnmodelled Sys.init (histF.take 2)
private def sEnd : Sys := execAll schemaUnmodelled sMid (histF.drop 2)
#guard (contents sMid.catalog).docs hA == [[("_id", .i32 1), ("x", .i32 1)], [("_id", .i32 2), ("x", .i32 2)]]
#guard (eventsBetween sMid.catalog sEnd.catalog).length == 3
#guard (replay (eventsBetween sMid.catalog sEnd.catalog) (contents sMid.catalog)).docs hA == (contents sEnd.catalog).docs hA
#guard (replay (eventsBetween sMid.catalog sEnd.catalog) (contents sMid.catalog)).docs hB == (contents sEnd.catalog).docs hB
#guard (contents sEnd.catalog).docs hA == [[("_id", .i32 2), ("x", .i32 2)], [("_id", .i32 3)]]
#guard (contents sEnd.catalog).docs hB == []
#guard (replay (eventsBetween Sys.init.catalog sEnd.catalog) (contents Sys.init.catalog)).docs hA == (contents sEnd.catalog).docs hA
#guard histF.all fun c => c.1.covered

/-! ## Part 5 — `update_desc_sound`

  FULL STATEMENT (not proved here): for an update event produced from
  `Apply c old u fs = .ok (new, changes)`, `applyDesc old updatedFields removedFields` is a document
  equal to `new` up to field order, where `updatedFields` / `removedFields` are the sorted
  non-missing / missing entries of `changes` as written by `oplogEvent`.

  PROVED (`update_desc_sound_partial`): the composition step, for the recorded entries taken in ANY
  order (so in particular the sorted one): given
    * `AccessLaws unrel` — the get/put laws of `Put`/`Unset` for paths that are not prefixes of
      one another (C11 has `get_put_same`, `put_other_path_stable`, `unset_then_get_missing`; no `unrel`
      is shown to satisfy `AccessLaws`), and
    * `ChangesHold` — the form, for a whole `Apply`, of what C11's `changes_hold_partial` says of one
      single-write operator and `record_conflict_free` says of the recorded paths: every recorded
      (path, value) holds in `new` (value `missing` = the path is absent), the recorded paths are
      pairwise conflict-free, and `new` agrees with `old` on every path unrelated to all of them,
  then the replayed document agrees with `new` on every recorded path and on every path
  unrelated to all recorded paths.
  MISSING for the full statement: (1) the two hypotheses, which are assumed here and not derived
  from the model; (2) that `oplogEvent`'s `Array.qsort` calls return permutations of their input (no
  `qsort` lemmas in core) — only needed to connect `us`/`rs` below to the event document;
  (3) the extension from "agree on all recorded and all unrelated paths" to "equal up to field
  order" (needs the sub-path / ancestor-path laws of `get`). -/

/-- the facts about `Apply old u fs = .ok (new, changes)` used (assumed, see above), on split paths:
    `us` = recorded (path, value ≠ missing) pairs, `rs` = recorded removed paths -/
structure ChangesHold (unrel : Path → Path → Prop) (old new : Doc) (us : List (Path × V)) (rs : List Path) : Prop where
  holds_set : ∀ pv ∈ us, getP new pv.1 = pv.2
  holds_unset : ∀ p ∈ rs, getP new p = .missing
  conflict_free : (us.map (·.1) ++ rs).Pairwise unrel
  frame : ∀ q, (∀ pv ∈ us, unrel pv.1 q) → (∀ p ∈ rs, unrel p q) → getP new q = getP old q

theorem update_desc_sound_partial (unrel : Path → Path → Prop) (L : AccessLaws unrel)
    (old new res : Doc) (us : List (Path × V)) (rs : List Path) (hc : ChangesHold unrel old new us rs)
    (hres : applyDesc old us rs = .ok res) :
    (∀ pv ∈ us, getP res pv.1 = getP new pv.1) ∧ (∀ p ∈ rs, getP res p = getP new p) ∧
    (∀ q, (∀ pv ∈ us, unrel pv.1 q) → (∀ p ∈ rs, unrel p q) → getP res q = getP new q) := by
  unfold applyDesc at hres
  split at hres
  · cases hres
  · rename_i d1 hputs
    simp only [Except.ok.injEq] at hres
    subst hres
    have hcf := List.pairwise_append.mp hc.conflict_free
    obtain ⟨hp1, hp2⟩ := applyPuts_get L us old d1 hcf.1 hputs
    obtain ⟨hu1, hu2⟩ := applyUnsets_get L rs d1 hcf.2.1
    refine ⟨?_, ?_, ?_⟩
    · intro pv hpv
      rw [hu2 pv.1 (fun p hp => L.symm _ _ (hcf.2.2 pv.1 (List.mem_map_of_mem hpv) p hp)), hp1 pv hpv,
        hc.holds_set pv hpv]
    · intro p hp
      rw [hu1 p hp, hc.holds_unset p hp]
    · intro q hq1 hq2
      rw [hu2 q hq2, hp2 q hq1, hc.frame q hq1 hq2]

-- non-vacuity: {a:1,b:{c:2},d:4} --$set b.c=3, $unset d--> {a:1,b:{c:3}}; replaying [b.c ↦ 3], [d] in either role
#guard (applyDesc [("a", .i32 1), ("b", .doc [("c", .i32 2)]), ("d", .i32 4)] [(["b", "c"], .i32 3)] [["d"]])
  matches .ok [("a", .i32 1), ("b", .doc [("c", .i32 3)])]
#guard (match Apply (acOf schemaUnmodelled) [("a", .i32 1), ("b", .doc [("c", .i32 2)]), ("d", .i32 4)]
    [("$set", .doc [("b.c", .i32 3)]), ("$unset", .doc [("d", .str "")])] [] with
  | .ok (d, ch) => d == [("a", .i32 1), ("b", .doc [("c", .i32 3)])] && ch.length == 2
  | .error _ => false)

end Lungo.C08
