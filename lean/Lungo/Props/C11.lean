/-
  Lungo.Props.C11 — "Update operators transform documents as MongoDB defines".

  The statements are about the executable model of `mongokit.Apply` (Lungo/Model/Apply.lean,
  Access.lean, Arith.lean), which the correspondence streams `apply`, `put`, `arith` tie to the Go
  code.  The lemmas are in Lungo/Proofs/{ArithLaws,AccessLaws,ApplyLaws,NoPanic}.lean; this file states
  the property theorems and derives each from them in a few lines.  `String.splitOn` does not reduce
  in the kernel (`decide` gets stuck on `splitPath "a.b"`), so the non-vacuity witnesses are evaluated
  tests (`#guard`, marked TEST) — they are tests of concrete instances, not theorems.

  What is proved (universally, no size bounds):
  * §1 the numeric type-promotion tables of `$inc` / `$mul` (`Add` / `Mul`);
  * §2 laws of path access (`get`/`put`/`Put`/`Unset` over segment lists): read-back, idempotence,
    untouched paths keep their value, field order, no panic;
  * §3 idempotence of `$set $unset $min $max $addToSet $pull $pullAll` at a resolved path and for
    single-operator single-path updates through `Apply`;
  * §4 rejection is total, `Match`/`Apply` never panic; §4b an update in which two literal operator
    paths (incl. `$rename` targets) are equal or prefix-related is rejected up front, for every document
    (`conflict_rejected`, `accepted_conflict_free`) — the FINDING `conflict-accepted` (`Record` alone
    lets a conflict escape when the earlier operator is a no-op), fixed in /repo by `checkPaths`;
    likewise an update in which, at the first differing segment of two literal paths, a positional
    segment (`$`, `$[]`, `$[id]`) meets a field name / index ("a.$[]" with "a.5") — a second FINDING
    (`$min` not idempotent there), fixed in /repo by the second test of `checkPaths`;
  * §4c `$[identifier]` selects exactly the elements that satisfy some array filter BINDING the
    identifier; filters of other identifiers are irrelevant (`array_filter_own`,
    `foreign_filter_irrelevant`) — a third FINDING (with every supplied filter consulted, a foreign
    filter that holds for a missing field selects everything), fixed in /repo (`resolve`);
  * §5 the change log is conflict free; recorded changes hold in the result for the single-write
    operators (`_partial`: the multi-operator statement is FALSE in the code — see the witness there).

  Side conditions found (each with a counterexample TEST, each confirmed on the Go code):
  * duplicate keys: `$unset` twice ≠ once on `{a:1, a:2}`  → hypothesis `nodupKeys`;
  * numeral aliases: `$set {"a.1": 1, "a.01": 2}` is not a conflict, both write element 1.
  No side condition on signed numerals: `put` reads array indexes with `ParseIndex`, as `get` does, so
  "a.+1" / "a.-0" on an array are rejected and `get_put_same` / `changes_hold_partial` hold
  unconditionally.  (With `strconv.Atoi` in `put`, `$set "a.+1"` wrote element 1 while `Get "a.+1"` read
  Missing — a FINDING, fixed in /repo 8d332af.)
-/
import Lungo.Proofs.ArithLaws
import Lungo.Proofs.AccessLaws
import Lungo.Proofs.ApplyLaws
import Lungo.Proofs.NoPanic
namespace Lungo.C11
open Lungo

/-! ### helpers of the TESTS only -/

def ctx0 : ACtx := { sch := schemaUnmodelled, upsert := false, nowDate := .date 0, nowTs := .ts 0 0 }
def okDoc {α} : Res (Doc × α) → Option Doc
  | .ok (d, _) => some d
  | .error _ => none
def okChanges : Res (Doc × List (String × V)) → Option (List (String × V))
  | .ok (_, ch) => some ch
  | .error _ => none
def okV : Res (V × V) → Option V
  | .ok (v, _) => some v
  | .error _ => none
def isErr {α} : Res α → Bool
  | .error .err => true
  | _ => false

/-! ## §1 Numeric type promotion -/

/-- The result type of `Add` (behind `$inc`) as a function of the operand types, for all values:
    int32+int32 → int32 if the exact sum fits, else int64 (never rejected); an int64 operand →
    int64 iff the exact sum is an int64, else Missing (the update is rejected); double with
    int/double → double; decimal with int/decimal → decimal; double with decimal → unmodelled
    (`none`); a non-number → Missing.  See `ArithTable`. -/
theorem add_type_table (a b : V) (wa : a.wf = true) (wb : b.wf = true) :
    ArithTable (· + ·) a b (Add a b) := arith_table add_i32_inI64 a b wa wb

/-- The same table for `Mul` (behind `$mul`) with the exact product. -/
theorem mul_type_table (a b : V) (wa : a.wf = true) (wb : b.wf = true) :
    ArithTable (· * ·) a b (Mul a b) := arith_table mul_i32_inI64 a b wa wb

/-- int32 ⊕ int32 is exact: int32 when it fits, otherwise promoted to int64. -/
theorem add_int32_exact (a b : Int) (ha : inI32 a = true) (hb : inI32 b = true) :
    Add (.i32 a) (.i32 b) = some (if inI32 (a + b) then .i32 (a + b) else .i64 (a + b)) ∧
      inI64 (a + b) = true :=
  add_type_table (.i32 a) (.i32 b) ha hb

theorem mul_int32_exact (a b : Int) (ha : inI32 a = true) (hb : inI32 b = true) :
    Mul (.i32 a) (.i32 b) = some (if inI32 (a * b) then .i32 (a * b) else .i64 (a * b)) ∧
      inI64 (a * b) = true :=
  mul_type_table (.i32 a) (.i32 b) ha hb

/-- int64 ⊕ int64 is exact when the exact result is an int64 … -/
theorem add_int64_exact (a b : Int) (h : inI64 (a + b) = true) :
    Add (.i64 a) (.i64 b) = some (.i64 (a + b)) := by
  simp [Add, intResult_wide, h]

theorem mul_int64_exact (a b : Int) (h : inI64 (a * b) = true) :
    Mul (.i64 a) (.i64 b) = some (.i64 (a * b)) := by
  simp [Mul, intResult_wide, h]

/-- … and rejected (Missing → `$inc` fails) when it is not: no wrap-around. -/
theorem add_int64_overflow (a b : Int) (h : inI64 (a + b) = false) :
    Add (.i64 a) (.i64 b) = some .missing := by
  simp [Add, intResult_wide, h]

theorem mul_int64_overflow (a b : Int) (h : inI64 (a * b) = false) :
    Mul (.i64 a) (.i64 b) = some .missing := by
  simp [Mul, intResult_wide, h]

/-- Whatever the operands, a result of `Add` / `Mul` is a well-formed value (in-range integers). -/
theorem add_result_wf (a b r : V) (h : Add a b = some r) : r.wf = true := arith_result_wf a b r h
theorem mul_result_wf (a b r : V) (h : Mul a b = some r) : r.wf = true := arith_result_wf a b r h

-- non-vacuity (these are kernel-checked: no strings involved)
example : (V.i32 2147483647).wf = true ∧ Add (.i32 2147483647) (.i32 1) = some (.i64 2147483648) := ⟨rfl, rfl⟩
example : Add (.i32 1) (.i32 2) = some (.i32 3) ∧ Mul (.i32 65536) (.i32 65536) = some (.i64 4294967296) :=
  ⟨rfl, rfl⟩
example : Add (.i64 9223372036854775807) (.i32 1) = some .missing ∧
    Mul (.i64 4611686018427387904) (.i64 2) = some .missing ∧
    Add (.i64 9223372036854775806) (.i32 1) = some (.i64 9223372036854775807) := ⟨rfl, rfl, rfl⟩
example : Add (.str "x") (.i32 1) = some .missing ∧ Add (.f64 0) (.dec 0 0) = none := ⟨rfl, rfl⟩

/-! ## §2 Path access (`bsonkit.Get/Put/Unset`) -/

/-- A path string always splits into at least one segment (so `Put` never sees `PathEnd`). -/
theorem splitPath_nonempty (s : String) : splitPath s ≠ [] := splitPath_ne_nil s

/-- `put` has no panic: its only failure is the plain error. -/
theorem put_never_panics (v : V) (p : Path) (x : V) (pre : Bool) (site : String) :
    put v p x pre ≠ .error (.panic site) := put_np v p x pre site

/-- `bsonkit.Put` on a document: the type assertion `v.(bson.D)` cannot fail for a non-empty path
    (and path strings are never empty lists, `splitPath_nonempty`). -/
theorem Put_never_panics (d : Doc) (p : Path) (x : V) (pre : Bool) (site : String) (hp : p ≠ []) :
    Put d p x pre ≠ .error (.panic site) := Put_np d p x pre hp site

/-- `put` on a document with a non-empty path returns a document. -/
theorem put_doc_returns_doc (fs : List (String × V)) (key : String) (rest : Path) (x : V) (pre : Bool)
    (nv prev : V) (h : put (.doc fs) (key :: rest) x pre = .ok (nv, prev)) : ∃ fs', nv = .doc fs' :=
  put_doc_isDoc fs key rest x pre nv prev h

/-- `get_put_same`: after a successful write of a present value at ANY path, the path reads the
    value (no side condition on the segments: `put` and `get` both read array indexes with
    `ParseIndex`). -/
theorem get_put_same (v : V) (p : Path) (x : V) (pre : Bool) (nv prev : V) (compact : Bool)
    (h : put v p x pre = .ok (nv, prev)) (hx : x.isMissing = false) :
    get nv p false compact = (x, false) :=
  Lungo.get_put_same v p x pre nv prev compact h hx

/-- `put_other_path_stable` ("untouched fields keep their value"): a successful write or unset at
    `p` leaves the value read at every path `q` that parts from `p` (`diverge`: at some position,
    before either ends, the segments differ even as numerals) unchanged — or, when the write padded
    an array, turns a Missing element into null (`Stab`). -/
theorem put_other_path_stable (v : V) (p : Path) (x : V) (pre : Bool) (nv prev : V) (q : Path)
    (compact : Bool) (h : put v p x pre = .ok (nv, prev)) (hd : diverge p q = true) :
    Stab (get nv q false compact) (get v q false compact) :=
  Lungo.put_other_path_stable v p x pre nv prev q compact h hd

/-- `put_keeps_field_order` ("untouched fields keep … position"): writing at `key.rest` into a
    document keeps the key sequence (or appends the new key at the end) and every field with
    another key keeps its index and its value. -/
theorem put_keeps_field_order (fs : List (String × V)) (key : String) (rest : Path) (x : V)
    (fs' : List (String × V)) (prev : V)
    (h : put (.doc fs) (key :: rest) x false = .ok (.doc fs', prev)) (hx : x.isMissing = false) :
    (fs'.map Prod.fst = fs.map Prod.fst ∨ fs'.map Prod.fst = fs.map Prod.fst ++ [key]) ∧
      ∀ (j : Nat) (k : String) (v : V), fs[j]? = some (k, v) → k ≠ key → fs'[j]? = some (k, v) :=
  put_field_order fs key rest x fs' prev h hx

/-- The exact shape of the result, also for unset and `prepend`. -/
theorem put_result_shape (fs : List (String × V)) (key : String) (rest : Path) (x : V) (pre : Bool)
    (nv prev : V) (h : put (.doc fs) (key :: rest) x pre = .ok (nv, prev)) :
    match fieldIndex fs key with
    | some i => ∃ old, fs[i]? = some (key, old) ∧
        ((x.isMissing = true ∧ nv = .doc (fs.eraseIdx i)) ∨ ∃ nvc, nv = .doc (fs.set i (key, nvc)))
    | none => x.isMissing = false ∧ ∃ nvc, nv = .doc (if pre then (key, nvc) :: fs else fs ++ [(key, nvc)]) :=
  put_doc_shape fs key rest x pre nv prev h

/-- `put_idempotent`: writing the same present value again returns the same tree. No side
    condition (both writes read the segments with ParseIndex). -/
theorem put_idempotent (v : V) (p : Path) (x : V) (pre : Bool) (nv prev : V)
    (h : put v p x pre = .ok (nv, prev)) (hx : x.isMissing = false) :
    put nv p x pre = .ok (nv, x) :=
  Lungo.put_idempotent v p x pre nv prev h hx

theorem Put_idempotent (d d1 : Doc) (p : Path) (x prev : V) (pre : Bool) (hp : p ≠ [])
    (h : Put d p x pre = .ok (d1, prev)) : Put d1 p x pre = .ok (d1, x) :=
  Lungo.Put_idempotent h

/-- `unset_then_get_missing`: after a successful unset (no duplicate keys) the path reads Missing
    (field removed) or null (array element). -/
theorem unset_then_get_missing (v : V) (p : Path) (pre : Bool) (nv prev : V) (compact : Bool)
    (h : put v p .missing pre = .ok (nv, prev)) (hn : v.nodupKeys = true) :
    get nv p false compact = (.missing, false) ∨ get nv p false compact = (.null, false) :=
  get_after_unset v p pre nv prev compact h hn

/-- `unset_idempotent` for `bsonkit.Unset`: twice = once, on documents without duplicate keys. -/
theorem unset_idempotent (d : Doc) (p : Path) (hp : p ≠ []) (hn : (V.doc d).nodupKeys = true) :
    (Unset (Unset d p).1 p).1 = (Unset d p).1 :=
  Unset_idempotent d p hp hn

-- TESTS (evaluated, not kernel-checked): instances meeting the hypotheses, and the counterexamples
-- that make the side conditions necessary.
section Tests
def docA : Doc := [("x", .i32 1), ("a", .arr [.i32 0, .doc [("b", .i32 5)]]), ("z", .str "s")]
-- get_put_same on a path through a document, an array index and padding
#guard (okV (put (.doc docA) ["a", "1", "c"] (.i32 7) false)).map (fun nv => (get nv ["a", "1", "c"] false false).1) == some (.i32 7)
#guard (okV (put (.doc docA) ["a", "4"] (.i32 7) false)).map (fun nv => (get nv ["a", "4"] false false).1) == some (.i32 7)
#guard (okV (put (.doc docA) ["a", "01"] (.i32 7) false)).map (fun nv => (get nv ["a", "01"] false false).1) == some (.i32 7)
-- signed numerals "+1" / "-0": put rejects them on an array, as get does not read them as an index;
-- on a document they are plain keys
#guard isErr (put (.doc docA) ["a", "+1"] (.i32 7) false) && isErr (put (.doc docA) ["a", "-0"] (.i32 7) false)
#guard (get (.doc docA) ["a", "+1"] false false).1 == .missing && (get (.doc docA) ["a", "-0"] false false).1 == .missing
#guard (okV (put (.doc docA) ["z2", "+1"] (.i32 7) false)).map (fun nv => (get nv ["z2", "+1"] false false).1) == some (.i32 7)
-- put_other_path_stable: diverging paths; padding turns Missing into null; aliases do not diverge
#guard diverge ["a", "1", "c"] ["a", "0"] && diverge ["a", "4"] ["a", "3"] && !diverge ["a", "1"] ["a", "01"] && !diverge ["a"] ["a", "0"]
#guard (okV (put (.doc docA) ["a", "1", "c"] (.i32 7) false)).map (fun nv => (get nv ["a", "1", "b"] false false).1) == some (.i32 5)
#guard (get (.doc docA) ["a", "3"] false false).1 == .missing
#guard (okV (put (.doc docA) ["a", "4"] (.i32 7) false)).map (fun nv => (get nv ["a", "3"] false false).1) == some .null
-- COUNTEREXAMPLE for aliases: writing "a.01" changes what "a.1" reads
#guard (okV (put (.doc docA) ["a", "01"] (.i32 7) false)).map (fun nv => (get nv ["a", "1"] false false).1) == some (.i32 7)
-- put_keeps_field_order: replace in place / append
#guard (okV (put (.doc docA) ["x"] (.i32 9) false)) == some (.doc [("x", .i32 9), ("a", .arr [.i32 0, .doc [("b", .i32 5)]]), ("z", .str "s")])
#guard (okV (put (.doc docA) ["n", "m"] (.i32 9) false)) == some (.doc (docA ++ [("n", .doc [("m", .i32 9)])]))
-- put_idempotent
#guard (okV (put (.doc docA) ["a", "03", "k"] (.i32 7) false)).isSome
#guard (okV (put (.doc docA) ["a", "03", "k"] (.i32 7) false)).map (fun nv => okV (put nv ["a", "03", "k"] (.i32 7) false)) == (okV (put (.doc docA) ["a", "03", "k"] (.i32 7) false)).map some
-- unset: field removed, array element nulled; idempotent without duplicate keys
#guard (V.doc docA).nodupKeys
#guard (Unset docA ["a", "1", "b"]).1 == [("x", .i32 1), ("a", .arr [.i32 0, .doc []]), ("z", .str "s")]
#guard (Unset docA ["a", "0"]).1 == [("x", .i32 1), ("a", .arr [.null, .doc [("b", .i32 5)]]), ("z", .str "s")]
#guard (Unset (Unset docA ["a", "0"]).1 ["a", "0"]).1 == (Unset docA ["a", "0"]).1
-- COUNTEREXAMPLE with duplicate keys: the second $unset removes the second "a"
def docDup : Doc := [("a", .i32 1), ("a", .i32 2)]
#guard !(V.doc docDup).nodupKeys
#guard (Unset docDup ["a"]).1 == [("a", .i32 2)]
#guard (Unset (Unset docDup ["a"]).1 ["a"]).1 == []
-- put errors are plain errors
#guard isErr (put (.doc docA) ["x", "y"] (.i32 1) false) && isErr (put (.doc docA) ["a", "-1"] (.i32 1) false)
#guard isErr (put (.doc docA) ["a", "9223372036854775807"] (.i32 1) false)
#guard isErr (put (.doc docA) ["a", "1500003"] (.i32 1) false)      -- more than MaxArrayPadding nulls needed
end Tests

/-! ## §3 Idempotence of `$set $unset $min $max $addToSet $pull $pullAll`

`IdemAt c op path v s1` says: applying the operator again at the same resolved path to the result
`s1.doc`, with a fresh change log (a second `Apply` call), SUCCEEDS and returns the same document. -/

theorem set_idempotent (c : ACtx) (s s1 : AState) (path : String) (v : V)
    (h : applyOp c s "$set" path v = .ok s1) : IdemAt c "$set" path v s1 := set_idem c s s1 path v h

/-- `$unset` needs documents without duplicate keys (counterexample in the tests below). -/
theorem unset_idempotent_op (c : ACtx) (s s1 : AState) (path : String) (v : V)
    (hn : (V.doc s.doc).nodupKeys = true)
    (h : applyOp c s "$unset" path v = .ok s1) : IdemAt c "$unset" path v s1 :=
  unset_idem c s s1 path v hn h

/-- `$min`: no hypothesis at all (uses only reflexivity of `Compare`, C12 `cmp_refl`). -/
theorem min_idempotent (c : ACtx) (s s1 : AState) (path : String) (v : V)
    (h : applyOp c s "$min" path v = .ok s1) : IdemAt c "$min" path v s1 := min_idem c s s1 path v h

theorem max_idempotent (c : ACtx) (s s1 : AState) (path : String) (v : V)
    (h : applyOp c s "$max" path v = .ok s1) : IdemAt c "$max" path v s1 := max_idem c s s1 path v h

/-- `$addToSet` (also with `$each`): after the first application every value is present. -/
theorem addToSet_idempotent (c : ACtx) (s s1 : AState) (path : String) (v : V)
    (h : applyOp c s "$addToSet" path v = .ok s1) : IdemAt c "$addToSet" path v s1 :=
  addToSet_idem c s s1 path v h

/-- `$pull`: after removing all matching elements none matches (for every `$jsonSchema` evaluator). -/
theorem pull_idempotent (c : ACtx) (s s1 : AState) (path : String) (v : V)
    (h : applyOp c s "$pull" path v = .ok s1) : IdemAt c "$pull" path v s1 := pull_idem c s s1 path v h

theorem pullAll_idempotent (c : ACtx) (s s1 : AState) (path : String) (v : V)
    (h : applyOp c s "$pullAll" path v = .ok s1) : IdemAt c "$pullAll" path v s1 :=
  pullAll_idem c s s1 path v h

/-- `apply_idempotent` through `Apply`, for an update consisting of ONE of the seven operators on
    ONE literal path (no `$`): applying the update to its own result succeeds and returns the same
    document.
    `apply_idempotent_partial`: the full statement — any update built from these operators on
    pairwise non-prefix-related paths, incl. positional ones — is not proved; it needs
    `put_other_path_stable` lifted through every operator and is false as stated for aliasing
    numerals ("a.1"/"a.01") and for duplicate keys. -/
theorem apply_idempotent_partial (c : ACtx) (d : Doc) (op key : String) (v : V) (afs : List Doc)
    (d1 : Doc) (ch1 : List (String × V)) (hop : op ∈ idemOps) (hk : noDollar key = true)
    (hn : op = "$unset" → (V.doc d).nodupKeys = true)
    (h : Apply c d [(op, .doc [(key, v)])] afs = .ok (d1, ch1)) :
    ∃ ch2, Apply c d1 [(op, .doc [(key, v)])] afs = .ok (d1, ch2) :=
  Apply_idem_single c d op key v afs d1 ch1 hop hk hn h

section Tests
def docB : Doc := [("n", .i32 5), ("a", .arr [.i32 1, .i64 2, .f64 0x4008000000000000, .i32 1])]
def twice (u : Doc) (d : Doc) : Option Doc × Option Doc :=
  let r1 := okDoc (Apply ctx0 d u [])
  (r1, r1.bind fun d1 => okDoc (Apply ctx0 d1 u []))
#guard idemOps == ["$set", "$unset", "$min", "$max", "$addToSet", "$pull", "$pullAll"] && noDollar "a.b"
#guard twice [("$set", .doc [("q.r", .i32 1)])] docB == (some (docB ++ [("q", .doc [("r", .i32 1)])]), some (docB ++ [("q", .doc [("r", .i32 1)])]))
#guard twice [("$min", .doc [("n", .f64 0x4008000000000000)])] docB == (some [("n", .f64 0x4008000000000000), docB[1]!], some [("n", .f64 0x4008000000000000), docB[1]!])
#guard twice [("$max", .doc [("n", .i64 9)])] docB == (some [("n", .i64 9), docB[1]!], some [("n", .i64 9), docB[1]!])
#guard twice [("$addToSet", .doc [("a", .doc [("$each", .arr [.i32 2, .i32 7, .f64 0x401C000000000000])])])] docB
  == (some [docB[0]!, ("a", .arr [.i32 1, .i64 2, .f64 0x4008000000000000, .i32 1, .i32 7])], some [docB[0]!, ("a", .arr [.i32 1, .i64 2, .f64 0x4008000000000000, .i32 1, .i32 7])])
#guard twice [("$pull", .doc [("a", .doc [("$lt", .i32 3)])])] docB == (some [docB[0]!, ("a", .arr [.f64 0x4008000000000000])], some [docB[0]!, ("a", .arr [.f64 0x4008000000000000])])
#guard twice [("$pullAll", .doc [("a", .arr [.i32 1])])] docB == (some [docB[0]!, ("a", .arr [.i64 2, .f64 0x4008000000000000])], some [docB[0]!, ("a", .arr [.i64 2, .f64 0x4008000000000000])])
#guard twice [("$unset", .doc [("a.1", .i32 1)])] docB == (some [docB[0]!, ("a", .arr [.i32 1, .null, .f64 0x4008000000000000, .i32 1])], some [docB[0]!, ("a", .arr [.i32 1, .null, .f64 0x4008000000000000, .i32 1])])
-- COUNTEREXAMPLE ($unset, duplicate keys): the second application changes the document again
#guard twice [("$unset", .doc [("a", .i32 1)])] docDup == (some [("a", .i32 2)], some [])
-- $inc is (of course) not idempotent: the law is specific to the seven operators
#guard twice [("$inc", .doc [("n", .i32 1)])] docB == (some [("n", .i32 6), docB[1]!], some [("n", .i32 7), docB[1]!])
end Tests

/-! ## §4 Rejection as a whole; no panic -/

/-- `apply_error_is_total_rejection`: `Apply` yields either a document with its change log or an
    error without any document (the model-level reading of "or the update is rejected as a
    whole"; that the caller's document is untouched on error is C02/C17). -/
theorem apply_error_is_total_rejection (c : ACtx) (d u : Doc) (afs : List Doc) :
    (∃ d' ch, Apply c d u afs = .ok (d', ch)) ∨ (∃ e, Apply c d u afs = .error e) := by
  cases h : Apply c d u afs with
  | ok r => exact .inl ⟨r.1, r.2, rfl⟩
  | error e => exact .inr ⟨e, rfl⟩

/-- `match_never_panics`: `mongokit.Match` reports no panic if the `$jsonSchema` evaluator doesn't. -/
theorem match_never_panics (sch : SchemaEval) (hs : ∀ a b site, sch a b ≠ .error (.panic site))
    (d q : Doc) (site : String) : Match sch d q ≠ .error (.panic site) :=
  Match_np sch hs d q site

/-- `apply_never_panics`: for every document, update and array-filter list. -/
theorem apply_never_panics (c : ACtx) (hs : ∀ a b site, c.sch a b ≠ .error (.panic site))
    (d u : Doc) (afs : List Doc) (site : String) : Apply c d u afs ≠ .error (.panic site) :=
  Apply_np c hs d u afs site

-- the hypothesis is met by the driver's evaluator
example : ∀ a b site, schemaUnmodelled a b ≠ .error (.panic site) := by
  intro a b site h; cases h

section Tests
#guard isErr (Apply ctx0 docB [("$inc", .doc [("a", .i32 1)])] [])          -- non-numeric target
#guard isErr (Apply ctx0 docB [("$set", .doc [("n", .i32 1), ("n.x", .i32 2)])] [])  -- conflict
#guard isErr (Apply ctx0 docB [("$set", .doc [("a.$[e]", .i32 1)])] [])     -- unbound identifier
#guard isErr (Apply ctx0 docB [] [])
end Tests

/-! ## §4b Conflicting operator paths: the update is rejected as a whole, up front

`updatePaths u` lists the literal paths of the update in the order `checkPaths` visits them: for every
top-level entry whose value is a document, for every field of it, the field key, followed — under the
key "$rename" with a string value — by the rename target.  Two paths are prefix-related when, as
segment lists (`splitPath`), one is a prefix of the other (equal paths included); they clash
positionally (`PositionalClash`) when at the first index where they differ exactly one of the two
segments is positional (`isPositional`: "$" or starting with "$[") — MongoDB's "would create a
conflict at 'a'". -/

/-- every field key of every operator document is a literal path of the update … -/
theorem updatePaths_key_mem (u : Doc) (op : String) (fields : List (String × V)) (key : String) (v : V)
    (ho : (op, V.doc fields) ∈ u) (hf : (key, v) ∈ fields) : key ∈ updatePaths u :=
  updatePaths_fields_sub u op fields ho _ (fieldPaths_key_mem op fields key v hf)

/-- … and so is every (string) `$rename` target. -/
theorem updatePaths_rename_target_mem (u : Doc) (fields : List (String × V)) (key target : String)
    (ho : ("$rename", V.doc fields) ∈ u) (hf : (key, V.str target) ∈ fields) : target ∈ updatePaths u :=
  updatePaths_fields_sub u "$rename" fields ho _ (fieldPaths_target_mem fields key target hf)

/-- `firstDiff p q = some (a, b)` says: a and b are the segments of p and q at the first index, within
    the common length, where the two differ. -/
theorem firstDiff_some_iff (p q : Path) (a b : String) :
    firstDiff p q = some (a, b) ↔
      ∃ k : Nat, p[k]? = some a ∧ q[k]? = some b ∧ a ≠ b ∧ ∀ m, m < k → p[m]? = q[m]? :=
  Lungo.firstDiff_some_iff p q a b

/-- `PositionalClash p q` (by definition `∃ a b, firstDiff p q = some (a, b) ∧ isPositional a ≠
    isPositional b`), spelled out on indices: at the first index where the paths differ exactly one of
    the two segments is positional (`$`, or starting with `$[`). -/
theorem positionalClash_index_iff (p q : Path) :
    PositionalClash p q ↔
      ∃ (k : Nat) (a b : String), p[k]? = some a ∧ q[k]? = some b ∧ a ≠ b ∧ (∀ m, m < k → p[m]? = q[m]?) ∧
        isPositional a ≠ isPositional b := by
  unfold PositionalClash
  constructor
  · rintro ⟨a, b, e, h⟩
    obtain ⟨k, h1, h2, h3, h4⟩ := (firstDiff_some_iff p q a b).mp e
    exact ⟨k, a, b, h1, h2, h3, h4, h⟩
  · rintro ⟨k, a, b, h1, h2, h3, h4, h⟩
    exact ⟨a, b, (firstDiff_some_iff p q a b).mpr ⟨k, h1, h2, h3, h4⟩, h⟩

/-- the executable inner loop of `checkPaths` decides it; the relation is symmetric. -/
theorem positionalClash_iff (p q : Path) : positionalClash p q = true ↔ PositionalClash p q :=
  Lungo.positionalClash_iff p q

theorem positionalClash_symm (p q : Path) (h : PositionalClash p q) : PositionalClash q p :=
  PositionalClash_symm h

/-- `pathsConflict_iff`: the executable test of `checkPaths`, started on the empty path tree, fires
    exactly when two paths of the list, at positions i < j, are prefix-related or clash positionally. -/
theorem pathsConflict_iff (ps : List String) :
    pathsConflict [] ps = true ↔
      ∃ (i j : Nat) (p q : String), i < j ∧ ps[i]? = some p ∧ ps[j]? = some q ∧
        (isPrefixOf (splitPath p) (splitPath q) = true ∨ isPrefixOf (splitPath q) (splitPath p) = true ∨
          PositionalClash (splitPath p) (splitPath q)) :=
  Lungo.pathsConflict_iff ps

/-- `conflict_rejected`: for ALL contexts, documents, updates and array filters: if two literal
    paths of the update are prefix-related (equal included), or at their first differing segment
    exactly one is positional, `Apply` rejects the update — whether or not any operator would have
    changed the document (MongoDB's up-front conflict errors). -/
theorem conflict_rejected (c : ACtx) (d u : Doc) (afs : List Doc)
    (h : ∃ (i j : Nat) (p q : String), i < j ∧
      (updatePaths u)[i]? = some p ∧ (updatePaths u)[j]? = some q ∧
      (isPrefixOf (splitPath p) (splitPath q) = true ∨ isPrefixOf (splitPath q) (splitPath p) = true ∨
        PositionalClash (splitPath p) (splitPath q))) :
    Apply c d u afs = .error .err :=
  Apply_conflict c d u afs ((Lungo.pathsConflict_iff _).mpr h)

/-- `accepted_conflict_free` (contrapositive): an accepted update has no two literal paths that are
    prefix-related or clash positionally. -/
theorem accepted_conflict_free (c : ACtx) (d u : Doc) (afs : List Doc) (r : Doc × List (String × V))
    (h : Apply c d u afs = .ok r) (i j : Nat) (p q : String) (hij : i < j)
    (hp : (updatePaths u)[i]? = some p) (hq : (updatePaths u)[j]? = some q) :
    isPrefixOf (splitPath p) (splitPath q) = false ∧ isPrefixOf (splitPath q) (splitPath p) = false ∧
      ¬ PositionalClash (splitPath p) (splitPath q) := by
  have no : ¬ (isPrefixOf (splitPath p) (splitPath q) = true ∨ isPrefixOf (splitPath q) (splitPath p) = true ∨
      PositionalClash (splitPath p) (splitPath q)) := fun hr => by
    rw [Apply_conflict c d u afs ((pathsConflict_iff _).mpr ⟨i, j, p, q, hij, hp, hq, hr⟩)] at h; cases h
  simpa only [not_or, Bool.not_eq_true] using no

/-- the same as a `List.Pairwise` statement (convenient with sublists / membership). -/
theorem accepted_paths_pairwise (c : ACtx) (d u : Doc) (afs : List Doc) (r : Doc × List (String × V))
    (h : Apply c d u afs = .ok r) :
    (updatePaths u).Pairwise fun a b =>
      related (splitPath a) (splitPath b) = false ∧ positionalClash (splitPath a) (splitPath b) = false := by
  have := ((pathsConflict_false_iff [] _).mp (Apply_ok_noconflict c d u afs r h)).2
  refine this.imp ?_
  intro a b hab
  simpa only [conflicting, Bool.or_eq_false_iff] using hab

section Tests
-- TEST: the WITNESS of finding `conflict-accepted` — `$rename` of an absent field is a no-op, so
-- nothing is recorded for "a.x.c"/"x" and `Record` alone accepts the later `$inc` of "x": rejected by `checkPaths`
def docNoAXC : Doc := [("x", .i32 5), ("a", .doc [("y", .i32 1)])]
#guard Get docNoAXC "a.x.c" == .missing
#guard updatePaths [("$rename", .doc [("a.x.c", .str "x")]), ("$inc", .doc [("x", .i32 (-1))])] == ["a.x.c", "x", "x"]
#guard isErr (Apply ctx0 docNoAXC [("$rename", .doc [("a.x.c", .str "x")]), ("$inc", .doc [("x", .i32 (-1))])] [])
#guard isErr (Apply ctx0 [] [("$rename", .doc [("a.x.c", .str "x")]), ("$inc", .doc [("x", .i32 (-1))])] [])
-- TEST: each operator alone is accepted on that document (the hypothesis of `accepted_conflict_free` is met)
#guard okDoc (Apply ctx0 docNoAXC [("$rename", .doc [("a.x.c", .str "x")])] []) == some docNoAXC
#guard okDoc (Apply ctx0 docNoAXC [("$inc", .doc [("x", .i32 (-1))])] []) == some [("x", .i32 4), ("a", .doc [("y", .i32 1)])]
-- TEST: other no-op conflicts: `$unset` of an absent field / `$max` that keeps the value, then a write below / at it
#guard isErr (Apply ctx0 docNoAXC [("$unset", .doc [("q", .i32 1)]), ("$set", .doc [("q.r", .i32 1)])] [])
#guard isErr (Apply ctx0 docNoAXC [("$max", .doc [("x", .i32 0)]), ("$set", .doc [("x", .i32 7)])] [])
#guard isErr (Apply ctx0 docNoAXC [("$setOnInsert", .doc [("a", .i32 0)]), ("$set", .doc [("a.y", .i32 7)])] [])
-- TEST: the `$rename` target counts only under "$rename" and only when it is a string
#guard updatePaths [("$set", .doc [("p", .str "x")]), ("$rename", .doc [("q", .i32 1)]), ("$inc", .i32 1)] == ["p", "q"]
#guard okDoc (Apply ctx0 docNoAXC [("$set", .doc [("p", .str "x")]), ("$inc", .doc [("x", .i32 1)])] [])
  == some [("x", .i32 6), ("a", .doc [("y", .i32 1)]), ("p", .str "x")]
-- TEST: sibling paths and paths that only share a string prefix are not related
#guard okDoc (Apply ctx0 docNoAXC [("$set", .doc [("a.y", .i32 2), ("a.yy", .i32 3)]), ("$inc", .doc [("a.z", .i32 1)])] [])
  == some [("x", .i32 5), ("a", .doc [("y", .i32 2), ("yy", .i32 3), ("z", .i32 1)])]
-- TEST: the WITNESS of the positional finding: `{$min: {"a.$[]": 1, "a.5": date}}` on a 4-element array.
-- The operator loop alone (`Apply` without the second test of `checkPaths`) accepts it, pads `a`
-- to 6 elements, and a second run changes the document again (`$[]` now reaches the padded elements)
def docPos : Doc := [("a", .arr [.doc [], .doc [("b", .bool true)], .oid [1,0,0,0,0,0,0,0,0,0,0,0], .null])]
def updPos : Doc := [("$min", .doc [("a.$[]", .i32 1), ("a.5", .date 5)])]
def opsDoc (d u : Doc) : Option Doc :=
  match Apply.ops ctx0 [] { doc := d, changed := [] } u with
  | .ok s => some s.doc
  | .error _ => none
#guard opsDoc docPos updPos == some [("a", .arr [.i32 1, .i32 1, .i32 1, .null, .null, .date 5])]
#guard (opsDoc docPos updPos).bind (fun d1 => opsDoc d1 updPos) == some [("a", .arr [.i32 1, .i32 1, .i32 1, .null, .null, .i32 1])]
-- … `Apply` rejects it, on every document (`conflict_rejected`: positions 0 < 1, first difference "$[]" / "5")
#guard isErr (Apply ctx0 docPos updPos []) && isErr (Apply ctx0 [] updPos [])
#guard updatePaths updPos == ["a.$[]", "a.5"] && firstDiff (splitPath "a.$[]") (splitPath "a.5") == some ("$[]", "5")
#guard isPositional "$[]" && !isPositional "5" && positionalClash (splitPath "a.$[]") (splitPath "a.5")
-- each operator alone is accepted on that document (documentation)
#guard okDoc (Apply ctx0 docPos [("$min", .doc [("a.$[]", .i32 1)])] []) == some [("a", .arr [.i32 1, .i32 1, .i32 1, .null])]
#guard okDoc (Apply ctx0 docPos [("$min", .doc [("a.5", .date 5)])] [])
  == some [("a", .arr [.doc [], .doc [("b", .bool true)], .oid [1,0,0,0,0,0,0,0,0,0,0,0], .null, .null, .date 5])]
-- TEST: the clash is found in both orders, across operators, below a common prefix, and for `$` / `$[id]`
#guard isErr (Apply ctx0 docPos [("$min", .doc [("a.5", .date 5)]), ("$set", .doc [("a.$[]", .i32 1)])] [])
#guard isErr (Apply ctx0 docPos [("$set", .doc [("a.$[e].x", .i32 1), ("a.0.y", .i32 1)])] [[("e", .doc [("$exists", .bool true)])]])
#guard pathsConflict [] ["q.a.$.x", "q.a.b"] && pathsConflict [] ["a.b", "c", "a.$[i]"]
-- TEST: two positional segments at the first difference are fine: `a.$[i].x` with `a.$[j].y`, `a.$[].x` with `a.$[i].y`
def docIJ : Doc := [("a", .arr [.doc [("k", .i32 1)], .doc [("k", .i32 2)]])]
#guard okDoc (Apply ctx0 docIJ [("$set", .doc [("a.$[i].x", .i32 7), ("a.$[j].y", .i32 8)])]
    [[("i.k", .i32 1)], [("j.k", .i32 2)]])
  == some [("a", .arr [.doc [("k", .i32 1), ("x", .i32 7)], .doc [("k", .i32 2), ("y", .i32 8)]])]
#guard okDoc (Apply ctx0 docIJ [("$set", .doc [("a.$[].x", .i32 7), ("a.$[i].y", .i32 8)])] [[("i.k", .i32 1)]])
  == some [("a", .arr [.doc [("k", .i32 1), ("x", .i32 7), ("y", .i32 8)], .doc [("k", .i32 2), ("x", .i32 7)]])]
#guard !positionalClash (splitPath "a.$[i].x") (splitPath "a.$[j].y") && !positionalClash (splitPath "a.$[].x") (splitPath "a.$[i].y")
-- only the FIRST difference counts; no difference within the common length is no clash (that is the prefix test)
#guard !positionalClash (splitPath "a.b.$[]") (splitPath "a.c.0") && !positionalClash (splitPath "a.$[]") (splitPath "a.$[].b")
-- `splitPath` is `strings.Split(path, ".")`, also on the odd strings
#guard splitPath "" == [""] && splitPath "a." == ["a", ""] && splitPath ".a" == ["", "a"] && splitPath "." == ["", ""]
-- TEST: pathsConflict on the hypotheses' shape
#guard pathsConflict [] ["a.x.c", "x", "x"] && pathsConflict [] ["a.b", "c", "a"] && pathsConflict [] ["a", "c", "a.b"]
#guard !pathsConflict [] ["a.b", "a.c", "ab", "b.a"] && !pathsConflict [] []
end Tests

-- non-vacuity of `conflict_rejected`: an update meeting the hypothesis (positions 1 < 2 hold "x", "x");
-- evaluated (`splitPath` does not reduce in the kernel)
#guard (updatePaths [("$rename", .doc [("a.x.c", .str "x")]), ("$inc", .doc [("x", .i32 (-1))])])[1]? == some "x" &&
  (updatePaths [("$rename", .doc [("a.x.c", .str "x")]), ("$inc", .doc [("x", .i32 (-1))])])[2]? == some "x" &&
  isPrefixOf (splitPath "x") (splitPath "x")

/-! ## §4c `$[identifier]`: the element is selected by the identifier's OWN array filters

`resolve` at `head.$[id].tail` (the decomposition is `splitDynamicPath`; `identifierOf "$[id]" = id`)
keeps the array filters that bind `id` (`bindsId`: a key equal to `id` or starting with `id.`), fails if
there is none, and expands to the indices whose element — wrapped as `{id: element}` — satisfies one of
them under the query matcher `Match` (`selectedBy`).  Statements are about `resolve` on a document whose
`head` holds the array `array`; `Apply` calls it with the fuel `countDollar key + 1`. -/

/-- `selectedBy`, declaratively: some supplied filter binds `id` and matches the wrapper `{id: item}`. -/
theorem selected_iff (sch : SchemaEval) (id : String) (afs : List Doc) (item : V) :
    selectedBy sch id afs item = true ↔
      ∃ f ∈ afs, bindsId id f = true ∧ Match sch [(id, item)] f = .ok true :=
  selectedBy_iff sch id afs item

/-- `selectedIdx` (a `List.filter` over the indexed array) is the ascending list of exactly the
    indices whose element is selected. -/
theorem selectedIdx_mem (sch : SchemaEval) (id : String) (afs : List Doc) (array : List V) (k : Nat) :
    k ∈ selectedIdx sch id afs array ↔ ∃ item, array[k]? = some item ∧ selectedBy sch id afs item = true := by
  unfold selectedIdx
  simp only [List.mem_map, List.mem_filter, Prod.exists, exists_eq_right, List.mem_zipIdx_iff_getElem?]

theorem selectedIdx_ascending (sch : SchemaEval) (id : String) (afs : List Doc) (array : List V) :
    (selectedIdx sch id afs array).Pairwise (· < ·) := by
  unfold selectedIdx
  have h : (array.zipIdx.map (·.2)).Pairwise (· < ·) := by
    rw [List.zipIdx_map_snd]
    exact List.pairwise_lt_range'
  rw [List.pairwise_map] at h ⊢
  exact h.sublist List.filter_sublist

/-- `array_filter_own` (single `$[id]`: head and tail without `$`): a successful expansion of
    `head.$[id].tail` is `head.k.tail` for exactly the indices k whose element satisfies some filter
    binding `id`, in ascending order — for every schema evaluator, document and filter list. -/
theorem array_filter_own (sch : SchemaEval) (fuel : Nat) (path head operator : String) (tail : Option String)
    (doc : Doc) (afs : List Doc) (array : List V) (ps : List String)
    (hsp : splitDynamicPath path = (some head, some operator, tail))
    (ha : Get doc head = .arr array)
    (h1 : (operator == "$") = false) (h2 : operator.startsWith "$[" = true) (h3 : operator.endsWith "]" = true)
    (hid : (identifierOf operator == "") = false)
    (hh : noDollar head = true) (ht : ∀ t, tail = some t → noDollar t = true)
    (h : resolve sch (fuel + 2) path doc afs = .ok ps) :
    ps = (selectedIdx sch (identifierOf operator) afs array).map (fun k => buildPath head k tail) :=
  Identified.resolve_single ⟨hsp, ha, h1, h2, h3, hid⟩ hh ht h

/-- `array_filter_own_rec` (general, the tail may hold further positional operators): the expansion
    is the concatenation, over exactly the selected indices in ascending order, of the expansions of
    `head.k.tail` (`subPaths` = the result of that recursive call). -/
theorem array_filter_own_rec (sch : SchemaEval) (fuel : Nat) (path head operator : String) (tail : Option String)
    (doc : Doc) (afs : List Doc) (array : List V) (ps : List String)
    (hsp : splitDynamicPath path = (some head, some operator, tail))
    (ha : Get doc head = .arr array)
    (h1 : (operator == "$") = false) (h2 : operator.startsWith "$[" = true) (h3 : operator.endsWith "]" = true)
    (hid : (identifierOf operator == "") = false)
    (h : resolve sch (fuel + 1) path doc afs = .ok ps) :
    ps = ((selectedIdx sch (identifierOf operator) afs array).map
        (fun k => subPaths sch fuel doc afs (buildPath head k tail))).flatten :=
  Identified.resolve_ok ⟨hsp, ha, h1, h2, h3, hid⟩ h

/-- no supplied filter binds the identifier: rejected. -/
theorem unbound_identifier_rejected (sch : SchemaEval) (fuel : Nat) (path head operator : String)
    (tail : Option String) (doc : Doc) (afs : List Doc) (array : List V)
    (hsp : splitDynamicPath path = (some head, some operator, tail))
    (ha : Get doc head = .arr array)
    (h1 : (operator == "$") = false) (h2 : operator.startsWith "$[" = true) (h3 : operator.endsWith "]" = true)
    (hid : (identifierOf operator == "") = false)
    (hb : ∀ f ∈ afs, bindsId (identifierOf operator) f = false) :
    resolve sch (fuel + 1) path doc afs = .error .err := by
  rw [Identified.resolve ⟨hsp, ha, h1, h2, h3, hid⟩]
  have : afs.filter (bindsId (identifierOf operator)) = [] := by
    rw [List.filter_eq_nil_iff]; intro f hf; simp [hb f hf]
  rw [this]; rfl

/-- `foreign_filter_irrelevant` (single `$[id]`): two filter lists with the same filters binding `id`
    give the same expansion (or the same error) — filters of other identifiers do not matter. -/
theorem foreign_filter_irrelevant (sch : SchemaEval) (fuel : Nat) (path head operator : String)
    (tail : Option String) (doc : Doc) (afs afs' : List Doc) (array : List V)
    (hsp : splitDynamicPath path = (some head, some operator, tail))
    (ha : Get doc head = .arr array)
    (h1 : (operator == "$") = false) (h2 : operator.startsWith "$[" = true) (h3 : operator.endsWith "]" = true)
    (hid : (identifierOf operator == "") = false)
    (hh : noDollar head = true) (ht : ∀ t, tail = some t → noDollar t = true)
    (hf : afs.filter (bindsId (identifierOf operator)) = afs'.filter (bindsId (identifierOf operator))) :
    resolve sch (fuel + 2) path doc afs = resolve sch (fuel + 2) path doc afs' :=
  Identified.resolve_congr_single ⟨hsp, ha, h1, h2, h3, hid⟩ hh ht hf

/-- in the form "adding or removing one filter `g` that does not bind `id`, anywhere in the list". -/
theorem foreign_filter_irrelevant_insert (sch : SchemaEval) (fuel : Nat) (path head operator : String)
    (tail : Option String) (doc : Doc) (afs₁ afs₂ : List Doc) (g : Doc) (array : List V)
    (hsp : splitDynamicPath path = (some head, some operator, tail))
    (ha : Get doc head = .arr array)
    (h1 : (operator == "$") = false) (h2 : operator.startsWith "$[" = true) (h3 : operator.endsWith "]" = true)
    (hid : (identifierOf operator == "") = false)
    (hh : noDollar head = true) (ht : ∀ t, tail = some t → noDollar t = true)
    (hg : bindsId (identifierOf operator) g = false) :
    resolve sch (fuel + 2) path doc (afs₁ ++ g :: afs₂) = resolve sch (fuel + 2) path doc (afs₁ ++ afs₂) :=
  Identified.resolve_congr_single ⟨hsp, ha, h1, h2, h3, hid⟩ hh ht (filter_bindsId_insert _ afs₁ afs₂ g hg)

/-- general (recursive) step: at one `$[id]` the filter list matters only through the filters binding
    `id` and through the recursive expansions of `head.k.tail`. -/
theorem foreign_filter_irrelevant_step (sch : SchemaEval) (fuel : Nat) (path head operator : String)
    (tail : Option String) (doc : Doc) (afs afs' : List Doc) (array : List V)
    (hsp : splitDynamicPath path = (some head, some operator, tail))
    (ha : Get doc head = .arr array)
    (h1 : (operator == "$") = false) (h2 : operator.startsWith "$[" = true) (h3 : operator.endsWith "]" = true)
    (hid : (identifierOf operator == "") = false)
    (hf : afs.filter (bindsId (identifierOf operator)) = afs'.filter (bindsId (identifierOf operator)))
    (hrec : ∀ k, resolve sch fuel (buildPath head k tail) doc afs = resolve sch fuel (buildPath head k tail) doc afs') :
    resolve sch (fuel + 1) path doc afs = resolve sch (fuel + 1) path doc afs' :=
  Identified.resolve_congr ⟨hsp, ha, h1, h2, h3, hid⟩ hf hrec

section Tests
-- TEST: the WITNESS of the finding: `{$set: {"a.$[i]": 0}}`, arrayFilters `[{i: {$gt: 5}}, {j: {$ne: 1}}]`, `a: [1, 7, 9]`.
-- The wrapper `{i: 1}` has no `j`, so the foreign filter `{j: {$ne: 1}}` holds for every element; consulting
-- it gives [0, 0, 0] (the finding).  MongoDB and lungo: [1, 0, 0]
def docF : Doc := [("a", .arr [.i32 1, .i32 7, .i32 9])]
def fI : Doc := [("i", .doc [("$gt", .i32 5)])]
def fJ : Doc := [("j", .doc [("$ne", .i32 1)])]
#guard filterHolds schemaUnmodelled "i" (.i32 1) fJ      -- why every element was selected
#guard okDoc (Apply ctx0 docF [("$set", .doc [("a.$[i]", .i32 0)])] [fI, fJ]) == some [("a", .arr [.i32 1, .i32 0, .i32 0])]
#guard okDoc (Apply ctx0 docF [("$set", .doc [("a.$[i]", .i32 0)])] [fJ, fI]) == some [("a", .arr [.i32 1, .i32 0, .i32 0])]
#guard okDoc (Apply ctx0 docF [("$set", .doc [("a.$[i]", .i32 0)])] [fI]) == some [("a", .arr [.i32 1, .i32 0, .i32 0])]
-- the hypotheses of `array_filter_own` on this instance (non-vacuity; evaluated)
#guard splitDynamicPath "a.$[i]" == (some "a", some "$[i]", none) && identifierOf "$[i]" == "i" && Get docF "a" == .arr [.i32 1, .i32 7, .i32 9]
#guard splitDynamicPath "a.$[elem].b.c" == (some "a", some "$[elem]", some "b.c") && identifierOf "$[elem]" == "elem"
#guard "$[i]".startsWith "$[" && "$[i]".endsWith "]" && noDollar "a" && countDollar "a.$[i]" + 1 == 2
#guard bindsId "i" fI && !bindsId "i" fJ && selectedIdx schemaUnmodelled "i" [fI, fJ] [.i32 1, .i32 7, .i32 9] == [1, 2]
#guard (match resolve schemaUnmodelled 2 "a.$[i]" docF [fI, fJ] with | .ok ps => ps == ["a.1", "a.2"] | _ => false)
-- identifiers that are string prefixes of each other: `i` is bound by "i" and "i.k", not by "i2" / "i2.k"
#guard bindsId "i" [("i.k", .i32 1)] && !bindsId "i" [("i2", .i32 1)] && !bindsId "i" [("i2.k", .i32 1)] && !bindsId "i2" [("i", .i32 1)]
#guard okDoc (Apply ctx0 docF [("$set", .doc [("a.$[i]", .i32 0)])] [[("i2", .doc [("$exists", .bool false)])], fI])
  == some [("a", .arr [.i32 1, .i32 0, .i32 0])]
-- several filters binding the identifier: any of them selects
#guard okDoc (Apply ctx0 docF [("$set", .doc [("a.$[i]", .i32 0)])] [fI, [("i", .i32 1)]]) == some [("a", .arr [.i32 0, .i32 0, .i32 0])]
-- no filter binds the identifier: rejected, whatever else is supplied
#guard isErr (Apply ctx0 docF [("$set", .doc [("a.$[i]", .i32 0)])] [fJ]) && isErr (Apply ctx0 docF [("$set", .doc [("a.$[i]", .i32 0)])] [])
-- two identifiers in one path: each level uses its own filters (`array_filter_own_rec`)
#guard okDoc (Apply ctx0 [("a", .arr [.arr [.i32 1, .i32 7], .arr [.i32 9]])] [("$set", .doc [("a.$[j].$[i]", .i32 0)])]
    [fI, [("j", .doc [("$exists", .bool true)])]])
  == some [("a", .arr [.arr [.i32 1, .i32 0], .arr [.i32 0]])]
end Tests

/-! ## §5 The change log -/

/-- `record_conflict_free`: after any successful `Apply` the recorded paths are pairwise not
    prefix-related (as segment lists).  (The literal paths of the update are pairwise unrelated too:
    `accepted_conflict_free`, §4b — `Record` alone did not give that when an operator recorded nothing.) -/
theorem record_conflict_free (c : ACtx) (d u : Doc) (afs : List Doc) (d' : Doc)
    (ch : List (String × V)) (h : Apply c d u afs = .ok (d', ch)) : ConflictFree ch := by
  obtain ⟨s, hs, _, e⟩ := Apply_ok_ops c d u afs d' ch h
  subst e
  exact Apply_ops_cf _ _ _ _ _ hs List.Pairwise.nil

/-- `changes_hold_partial`: for the operators that perform a single write
    (`$set $setOnInsert $inc $mul $min $max $currentDate $bit $pull $pullAll $addToSet`) applied at
    any path: either
    nothing was recorded, or exactly one entry (path, x) with x present was appended and the result
    document holds x at that path.
    Full statement (NOT provable, false in the code): "after a successful Apply every recorded
    (path, value) satisfies `Get result path = value`".  Witnesses (confirmed on the Go code):
    `{$set: {"a.1": 1, "a.01": 2}}` on `{a:[0,0]}` records a.1 = 1 but the result has a.1 = 2
    (numeral aliases are not detected as a conflict).  (`{$set: {"a.+1": 1}}` on an array is no
    witness: the update is rejected, /repo 8d332af.)  `$pop` is `pop_change_holds`, `$unset` is
    `unset_change_holds`; `$push` (per-element records) and `$rename` (two records) are not covered. -/
theorem changes_hold_partial (c : ACtx) (s s1 : AState) (op path : String) (v : V)
    (hop : op ∈ scalarOps) (h : applyOp c s op path v = .ok s1) :
    s1 = s ∨ ∃ x, s1.changed = s.changed ++ [(path, x)] ∧ x.isMissing = false ∧ Get s1.doc path = x := by
  rcases applyOp_scalar_shape c s s1 op path v hop h with e | ⟨x, hx⟩
  · exact .inl e
  · obtain ⟨h1, h2, h3⟩ := putRec_holds hx
    exact .inr ⟨x, h1, h2, h3⟩

/-- `$pop`: either nothing is recorded, or one entry whose value is what the path reads in the result. -/
theorem pop_change_holds (c : ACtx) (s s1 : AState) (path : String) (v : V)
    (h : applyOp c s "$pop" path v = .ok s1) :
    s1 = s ∨ ∃ x, s1.changed = s.changed ++ [(path, x)] ∧ Get s1.doc path = x := by
  rcases applyOp_ends c s s1 _ path v h with e | ⟨x, hx⟩ | ⟨h3, _⟩
  · exact .inl e
  · exact .inr ⟨x, (putRec_holds hx).1, (putRec_holds hx).2.2⟩
  · simp at h3

/-- `$unset` (no duplicate keys): either nothing is recorded, or (path, Missing) is recorded and
    the path reads Missing (field) or null (array element) in the result. -/
theorem unset_change_holds (c : ACtx) (s s1 : AState) (path : String) (v : V)
    (hn : (V.doc s.doc).nodupKeys = true) (h : applyOp c s "$unset" path v = .ok s1) :
    s1.changed = s.changed ∨
      (s1.changed = s.changed ++ [(path, .missing)] ∧
        (Get s1.doc path = .missing ∨ Get s1.doc path = .null)) :=
  unset_holds c s s1 path v hn h

section Tests
#guard okChanges (Apply ctx0 docB [("$inc", .doc [("n", .i64 1)]), ("$set", .doc [("a.1", .str "s")])] [])
  == some [("n", .i64 6), ("a.1", .str "s")]
#guard (okDoc (Apply ctx0 docB [("$inc", .doc [("n", .i64 1)])] [])).map (fun d => Get d "n") == some (.i64 6)
#guard okChanges (Apply ctx0 docB [("$pop", .doc [("a", .i32 1)])] []) == some [("a", .arr [.i32 1, .i64 2, .f64 0x4008000000000000])]
#guard okChanges (Apply ctx0 docB [("$pull", .doc [("a", .i32 1)])] []) == some [("a", .arr [.i64 2, .f64 0x4008000000000000])]
-- WITNESS (changes do not hold): numeral aliases — recorded a.1 = 1, result a.1 = 2
#guard okChanges (Apply ctx0 [("a", .arr [.i32 0, .i32 0])] [("$set", .doc [("a.1", .i32 1), ("a.01", .i32 2)])] [])
  == some [("a.1", .i32 1), ("a.01", .i32 2)]
#guard (okDoc (Apply ctx0 [("a", .arr [.i32 0, .i32 0])] [("$set", .doc [("a.1", .i32 1), ("a.01", .i32 2)])] [])).map (fun d => Get d "a.1")
  == some (.i32 2)
-- a signed numeral as array index: the update is rejected
#guard isErr (Apply ctx0 [("a", .arr [.i32 0, .i32 0])] [("$set", .doc [("a.+1", .i32 1)])] [])
-- changes_hold_partial on a path with a leading-zero index and on a padded index
#guard (okDoc (Apply ctx0 [("a", .arr [.i32 0, .i32 0])] [("$set", .doc [("a.01", .i32 1)])] [])).map (fun d => Get d "a.01") == some (.i32 1)
#guard (okDoc (Apply ctx0 [("a", .arr [.i32 0, .i32 0])] [("$set", .doc [("a.4", .i32 1)])] [])).map (fun d => Get d "a.4") == some (.i32 1)
end Tests

end Lungo.C11
