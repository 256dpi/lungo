/-
  Property C10, agreement part — "matching returns the truth value defined by MongoDB's query
  semantics" on the core domain (DESIGN §8.2): the matcher model `Match` (validated against
  mongokit.Match by stream `match`) agrees with the reference semantics `Spec.matches`
  (lean/Lungo/Spec/Query.lean, validated against the real code by stream `specmatch`).

  Reading guide.
  * `PathDom d path`  = the document has no arrays in arrays (and no `missing` values) and the
    path has non-empty segments whose index reading is the canonical-numeral reading.
  * `fans (.doc d) p` = the path fans out over an array (All's `nested` flag: `All_nested_eq_fans`).
  * `toRes b`         = `.ok ()` if `b` else `.error .notMatched`.
  * every operator theorem says: lungo's operator = the §8.3 predicate over `Spec.leafs`/`Spec.cand`.

  KNOWN DEVIATION of lungo from §8.3 INSIDE the core domain (observed on the real code by stream
  `specmatch`, witnesses in its corpus, recorded as a known finding): D3 `$size` below two
  fan-outs. Therefore the full statement

      -- theorem match_agrees_core : core d q = true → Match sch d q = Spec.matches sch d q

  is FALSE for the current code, and what is proved is `match_agrees_core_partial` on
  `coreProved` = `core` minus exactly D3 (`Spec.coreC` with `ex = true`); the operator theorem
  concerned is named `_partial` and carries the excluding hypothesis explicitly.
  (History — deviations found here and since FIXED IN THE CODE, now inside the proved domain:
  D1 `$type` null on absent fields, D2 `$exists` over fan-outs reaching only empty arrays,
  D4 `$elemMatch` field form on non-document elements, D5 `$all` over a fan-out with array-valued
  candidates, D6 Decimal128 `$exists` arguments (lungo took every Decimal128, also zero, as truthy;
  now ±0 of any exponent is falsy, NaN/Inf truthy: `existsArg_truthy` holds for every value),
  D7 `$all` with array-valued members (`{a: {$all: [[1,2], 1]}}` on `a: [1,2]`). D5 and D7
  disappeared together when `matchAll` was rewritten as the conjunction of the `$eq` conditions
  of the members — law `all_is_conj_eq` in Props/C10.lean — so `$all` needs exactly the
  restriction of `$eq` on each member.)
-/
import Lungo.Proofs.SpecAgreeRec
import Lungo.Proofs.MatchTotal
import Lungo.Props.C10
namespace Lungo.C10
open Lungo Lungo.Spec

/-! ### the leaf lemma (values offered to an operator = leaves) -/

/-- (a) no fan-out: for EVERY test `pr`, testing lungo's offered values = testing the leaves -/
theorem offered_eq_leafs_noFanOut (d : Doc) (path : String) (pr : V → Bool) (hd : PathDom d path)
    (hf : fans (.doc d) (splitPath path) = false) :
    unwindAny d path true false pr = (leafs d (splitPath path)).any pr :=
  leaf_noFan hd pr hf

/-- (b) fan-out: the same for tests that are false on `missing` and on arrays -/
theorem offered_eq_leafs_fanOut (d : Doc) (path : String) (pr : V → Bool) (hd : PathDom d path)
    (hf : fans (.doc d) (splitPath path) = true) (hm : pr .missing = false) (ha : ∀ xs, pr (.arr xs) = false) :
    unwindAny d path true false pr = (leafs d (splitPath path)).any pr :=
  leaf_fan hd pr hf hm ha

/-- All's `nested` flag is the reference semantics' "the path fans out" -/
theorem nested_is_fanOut (d : Doc) (path : String) (hd : PathDom d path) :
    (All d (splitPath path) true true).2 = fans (.doc d) (splitPath path) :=
  All_nested_eq_fans d _ hd.nna hd.segs

/-! ### operator by operator

  Each operator's `…_eval` and `…_core` lemma (Proofs/SpecAgree) put together, for reading. They are
  not steps of `match_agrees_core_partial`, which goes through `entries_agree` (Proofs/SpecAgreeRec). -/

/-- the literal form `{path: v}` -/
theorem literal_agrees (d : Doc) (path : String) (v : V) (hd : PathDom d path)
    (hv : fans (.doc d) (splitPath path) = true → scalarOperand v = true) :
    matchComp d "" path v = toRes (holdsC (.doc d) (splitPath path) (.cmp .eq v)) := by
  rw [holdsC]; exact (matchLit_eval d path v).trans (congrArg toRes (cmp_core hd v CmpOp.eq.rel hv))

/-- `$eq/$gt/$gte/$lt/$lte v`: some leaf of the class of `v` (type bracketing) stands in the relation to `v` -/
theorem cmp_agrees (sch : SchemaEval) (d : Doc) (path : String) (o : CmpOp) (v : V) (hd : PathDom d path)
    (hv : fans (.doc d) (splitPath path) = true → scalarOperand v = true) :
    mOp sch d (cmpName o) path v = toRes (holdsC (.doc d) (splitPath path) (.cmp o v)) := by
  have : leafOp d (cmpName o) path v = some (matchComp d (cmpName o) path v) := by cases o <;> rfl
  rw [mOp_leaf sch d _ path v _ this, holdsC]
  exact (matchComp_eval d path o v).trans (congrArg toRes (cmp_core hd v o.rel hv))

/-- `$eq v`: some leaf of the class of `v` compares equal (fan-out: non-null scalar `v`) -/
theorem eq_agrees (sch : SchemaEval) (d : Doc) (path : String) (v : V) (hd : PathDom d path)
    (hv : fans (.doc d) (splitPath path) = true → scalarOperand v = true) :
    mOp sch d "$eq" path v = toRes (holdsC (.doc d) (splitPath path) (.cmp .eq v)) :=
  cmp_agrees sch d path .eq v hd hv

/-- `$ne v`: exact negation of `$eq v` -/
theorem ne_agrees (sch : SchemaEval) (d : Doc) (path : String) (v : V) (hd : PathDom d path)
    (hv : fans (.doc d) (splitPath path) = true → scalarOperand v = true) :
    mOp sch d "$ne" path v = toRes (holdsC (.doc d) (splitPath path) (.ne v)) := by
  rw [ne_is_not_eq, eq_agrees sch d path v hd hv, negate_toRes, holdsC, holdsC]

/-- `$in vs`: some leaf equals some member -/
theorem in_agrees (sch : SchemaEval) (d : Doc) (path : String) (vs : List V) (hd : PathDom d path)
    (hv : fans (.doc d) (splitPath path) = true → vs.all scalarOperand = true) :
    mOp sch d "$in" path (.arr vs) = toRes (holdsC (.doc d) (splitPath path) (.in_ vs)) := by
  rw [mOp_leaf sch d "$in" path _ _ rfl, holdsC]
  exact (matchIn_eval d path vs).trans (congrArg toRes (in_core hd vs hv))

/-- `$nin vs`: exact negation of `$in vs` -/
theorem nin_agrees (sch : SchemaEval) (d : Doc) (path : String) (vs : List V) (hd : PathDom d path)
    (hv : fans (.doc d) (splitPath path) = true → vs.all scalarOperand = true) :
    mOp sch d "$nin" path (.arr vs) = toRes (holdsC (.doc d) (splitPath path) (.nin vs)) := by
  rw [nin_is_not_in, in_agrees sch d path vs hd hv, negate_toRes, holdsC, holdsC]

/-- lungo's reading of the `$exists` argument is MongoDB's truthiness (false, null and numeric zero
    of any of the four numeric types are falsy) — for EVERY value -/
theorem exists_arg_is_truthiness (arg : V) : existsArg arg = truthy arg :=
  existsArg_truthy arg

/-- `$exists arg`: `arg` truthy ⇔ there is a candidate (any `arg`, Decimal128 included) -/
theorem exists_agrees (sch : SchemaEval) (d : Doc) (path : String) (arg : V) (hd : PathDom d path) :
    mOp sch d "$exists" path arg = toRes (holdsC (.doc d) (splitPath path) (.exists_ arg)) := by
  rw [mOp_leaf sch d "$exists" path arg _ rfl, holdsC, ← exists_core hd]; exact matchExists_eval d path arg

/-- `$type ts`: some PRESENT leaf has one of the types (`missing` has no type); on a fan-out path
    the types are neither null nor array (§8.2(2)) -/
theorem type_agrees (sch : SchemaEval) (d : Doc) (path : String) (v : V) (number : Bool) (ts : List Nat)
    (hd : PathDom d path) (hp : parseType v = some (.type number ts))
    (hfan : fans (.doc d) (splitPath path) = true → scalarTypes ts = true) :
    mOp sch d "$type" path v = toRes (holdsC (.doc d) (splitPath path) (.type number ts)) := by
  rw [mOp_leaf sch d "$type" path v _ rfl, holdsC]
  exact (matchType_eval d path v _ hp).trans (congrArg toRes (type_core hd number ts hfan))

/-- `{path: {$type: "null"}}` does not match a document in which the path reaches nothing
    (the former deviation D1, now excluded by the code): both sides say "no". -/
theorem type_null_skips_missing (sch : SchemaEval) (d : Doc) (path : String) (hd : PathDom d path)
    (hf : fans (.doc d) (splitPath path) = false) (hc : cand (.doc d) (splitPath path) = []) :
    mOp sch d "$type" path (.str "null") = .error .notMatched ∧
    holdsC (.doc d) (splitPath path) (.type false [0x0A]) = false := by
  have hp : parseType (.str "null") = some (.type false [0x0A]) := by
    simp [parseType, resolveTypes, resolveType, alias2Type]
  have h2 : holdsC (.doc d) (splitPath path) (.type false [0x0A]) = false := by
    simp [holdsC, leafsAt, hc, typeHolds, V.isMissing]
  refine ⟨?_, h2⟩
  rw [type_agrees sch d path _ false [0x0A] hd hp (by simp [hf]), h2]
  rfl

/-
  theorem size_agrees : … is FALSE at D3 ({a: [{b: [{c: 1}, {c: 2}]}]} vs {"a.b.c": {$size: 2}}).
-/
/-- `$size n`: some candidate is an array of length `n`. Missing for the full statement: paths
    that fan out twice (D3). -/
theorem size_agrees_partial (sch : SchemaEval) (d : Doc) (path : String) (v : V) (n : Int) (hd : PathDom d path)
    (hp : parseSize v = some (.size n)) (h2 : fans2 (.doc d) (splitPath path) = false) :
    mOp sch d "$size" path v = toRes (holdsC (.doc d) (splitPath path) (.size n)) := by
  rw [mOp_leaf sch d "$size" path v _ rfl, holdsC, ← size_core hd n h2]; exact matchSize_eval d path v _ hp

/-- `$all vs`: `vs ≠ []` and every member equals some leaf — any members without a fan-out
    (array-valued ones included: such a member equals the whole array value or an element), non-null
    scalar members on a fan-out path (the restriction of `$eq`, §8.2(2)) -/
theorem all_agrees (sch : SchemaEval) (d : Doc) (path : String) (vs : List V) (hd : PathDom d path)
    (hfan : fans (.doc d) (splitPath path) = true → vs.all scalarOperand = true) :
    mOp sch d "$all" path (.arr vs) = toRes (holdsC (.doc d) (splitPath path) (.all vs)) := by
  rw [mOp_leaf sch d "$all" path _ _ rfl, holdsC, matchAll_eval, all_core hd vs hfan]; rfl

/-- `$mod [dv, r]`: some numeric leaf truncates to `n` with `n rem dv = r` (no Decimal128 leaves: §8.2(4)) -/
theorem mod_agrees (sch : SchemaEval) (d : Doc) (path : String) (v : V) (dv r : Int) (hd : PathDom d path)
    (hp : parseMod v = some (.mod dv r))
    (hdec : (leafs d (splitPath path)).all (fun l => !isDec l) = true) :
    mOp sch d "$mod" path v = toRes (holdsC (.doc d) (splitPath path) (.mod dv r)) := by
  rw [mOp_leaf sch d "$mod" path v _ rfl, holdsC]
  exact (matchMod_eval d path v _ hp).trans (congrArg toRes (mod_core hd dv r hdec))

/-- `$bitsAllSet/AllClear/AnySet/AnyClear mask` -/
theorem bits_agrees (sch : SchemaEval) (d : Doc) (path : String) (o : BitsOp) (v : V) (ps : List Nat)
    (hd : PathDom d path) (hp : parseBits o v = some (.bits o ps)) :
    mOp sch d (bitsName o) path v = toRes (holdsC (.doc d) (splitPath path) (.bits o ps)) := by
  have : leafOp d (bitsName o) path v = some (matchBits d (bitsName o) path v) := by cases o <;> rfl
  rw [mOp_leaf sch d _ path v _ this, holdsC]
  exact (matchBits_eval d path o v _ hp).trans (congrArg toRes (bits_core hd o ps))

/-- any single expression operator (including `$not` and `$elemMatch`, recursively) on the proved domain -/
theorem operator_agrees (sch : SchemaEval) (d : Doc) (path op : String) (v : V) (c : Cond)
    (hp : parseCond op v = some c) (hd : PathDom d path)
    (hc : coreC true (.doc d) (splitPath path) (fans (.doc d) (splitPath path)) c = true) :
    mOp sch d op path v = toRes (holdsC (.doc d) (splitPath path) c) := by
  rw [cond_eval sch v op c hp d path, evalC_agrees c d path hd hc]

/-- `$not e`: exact negation of the operator document `e` -/
theorem not_agrees (sch : SchemaEval) (d : Doc) (path : String) (q : List (String × V)) (cs : List Cond)
    (hq : q ≠ []) (hp : parseConds q = some cs) (hd : PathDom d path)
    (hc : coreCs true (.doc d) (splitPath path) (fans (.doc d) (splitPath path)) cs = true) :
    mOp sch d "$not" path (.doc q) = toRes (holdsC (.doc d) (splitPath path) (.not cs)) := by
  rw [not_is_negation sch d path q hq, (conds_agree sch q d path cs hp hd hc).2, negate_toRes, holdsC]

/-- `$elemMatch q`: some candidate is an array with an element satisfying `q` — operator form: as
    conditions on the element; field form: as a filter on the element, which must be a document.
    No fan-out (§8.2(2)); the conditions inside `q` on their own (proved) domain. -/
theorem elemMatch_agrees (sch : SchemaEval) (d : Doc) (path : String) (q : List (String × V)) (c : Cond)
    (hp : parseCond "$elemMatch" (.doc q) = some c) (hd : PathDom d path)
    (hc : coreC true (.doc d) (splitPath path) (fans (.doc d) (splitPath path)) c = true) :
    mOp sch d "$elemMatch" path (.doc q) = toRes (holdsC (.doc d) (splitPath path) c) :=
  operator_agrees sch d path "$elemMatch" (.doc q) c hp hd hc

/-- `$and fs` / `$or fs`: all / some member filter holds, left to right with short-circuit -/
theorem and_or_agree (sch : SchemaEval) (d : Doc) (items : List V) (fs : List Filter)
    (hp : parseFilters items = some fs) (hd : noNestedArrays (.doc d) = true) (hc : coreFs true d fs = true) :
    mAndLoop sch d items = resU (allF sch d fs) ∧ mOrLoop sch d items = resU (anyF sch d fs) :=
  ⟨(filters_agree sch items fs hp d hd hc).1.1, (filters_agree sch items fs hp d hd hc).2.1⟩

/-- `$nor fs`: exact negation of `$or fs` -/
theorem nor_agrees (sch : SchemaEval) (d : Doc) (v : V) (e : Entry)
    (hp : parseEntry "$nor" v = some e) (hd : noNestedArrays (.doc d) = true) (hc : coreE true d e = true) :
    mExpr sch d "" "$nor" v true = resU (holdsE sch d e) :=
  (entry_agrees sch v "$nor" e hp d hd hc).1

/-! ### the recursive combination -/

/-
  FULL STATEMENT (false for the current code because of D3, see the header):
  theorem match_agrees_core (sch : SchemaEval) (d q : Doc) (h : core d q = true) :
      Match sch d q = Spec.matches sch d q
-/
/-- Agreement on the core domain minus the one known deviation point D3: the matcher returns the
    truth value (or the `$jsonSchema` evaluator's error) the reference semantics defines. -/
theorem match_agrees_core_partial (sch : SchemaEval) (d q : Doc) (h : coreProved d q = true) :
    Match sch d q = Spec.matches sch d q := by
  unfold coreProved outsideX at h
  unfold Spec.matches
  cases hp : parseFilter q with
  | none => simp [hp] at h
  | some f =>
    simp only [hp] at h ⊢
    unfold parseFilter at hp
    simp only [Option.map_eq_some_iff] at hp
    obtain ⟨es, hes, rfl⟩ := hp
    by_cases h1 : noNestedArrays (.doc d) = true
    · by_cases h2 : noNumeralKeys false (.doc d) = true
      · by_cases h3 : coreF true d (.mk es) = true
        · obtain ⟨hm, hne⟩ := entries_agree sch q es hes d h1 (by simpa [coreF] using h3)
          unfold Match
          rw [hm, holdsF]
          cases hr : holdsEs sch d es with
          | ok b => cases b <;> rfl
          | error e =>
            have : e ≠ .notMatched := by intro he; subst he; exact hne hr
            cases e <;> first | rfl | exact absurd rfl this
        · simp [h1, h2, h3] at h
      · simp [h1, h2] at h
    · simp [h1] at h

/-- Totality: on a well-formed filter (§8.2(5): `parseFilter q = some f`) matching returns a truth
    value, not an error — for EVERY document (no domain restriction), provided the `$jsonSchema`
    evaluator itself never fails (`SchTotal`; errors of the evaluator are passed through by design). -/
theorem match_total_on_wellformed (sch : SchemaEval) (hs : SchTotal sch) (d q : Doc) (f : Filter)
    (hp : parseFilter q = some f) : ∃ b, Match sch d q = .ok b := by
  unfold parseFilter at hp
  simp only [Option.map_eq_some_iff] at hp
  obtain ⟨es, hes, _⟩ := hp
  obtain ⟨b, hb⟩ := entries_tv sch hs q es hes d
  refine ⟨b, ?_⟩
  unfold Match
  rw [hb]
  cases b <;> rfl

/-- non-vacuity of `SchTotal`: the evaluator that accepts everything -/
example : SchTotal (fun _ _ => .ok ()) := fun _ _ => ⟨true, rfl⟩

/-! ### non-vacuity

  `String.splitOn` does not reduce in the kernel, so concrete instances are given for any path
  string that splits into the stated segments (e.g. "a.b"), and whole pairs are checked by
  evaluation (`#guard`: tests, not theorems). -/

/-- a fan-out instance of the hypotheses of `eq_agrees`: {a: [{b: 1}, {b: [2, 3]}, {c: 4}, 5]}, "a.b", operand 2 -/
example (path : String) (h : splitPath path = ["a", "b"]) :
    PathDom [("a", .arr [.doc [("b", .i32 1)], .doc [("b", .arr [.i32 2, .i32 3])], .doc [("c", .i32 4)], .i32 5])] path ∧
    fans (.doc [("a", .arr [.doc [("b", .i32 1)], .doc [("b", .arr [.i32 2, .i32 3])], .doc [("c", .i32 4)], .i32 5])]) (splitPath path) = true ∧
    scalarOperand (.i32 2) = true := by
  refine ⟨⟨by decide, by rw [h]; decide⟩, by rw [h]; decide, rfl⟩

/-- a no-fan-out instance with an index segment: {a: [[…] is excluded], so {a: [1, {b: null}]}, "a.1.b" -/
example (path : String) (h : splitPath path = ["a", "1", "b"]) :
    PathDom [("a", .arr [.i32 1, .doc [("b", .null)]])] path ∧
    fans (.doc [("a", .arr [.i32 1, .doc [("b", .null)]])]) (splitPath path) = false := by
  refine ⟨⟨by decide, by rw [h]; decide⟩, by rw [h]; decide⟩

/-- an instance of the hypotheses of `type_null_skips_missing`: {b: 1} has no field "a" -/
example (path : String) (h : splitPath path = ["a"]) :
    PathDom [("b", .i32 1)] path ∧ fans (.doc [("b", .i32 1)]) (splitPath path) = false ∧
    cand (.doc [("b", .i32 1)]) (splitPath path) = [] := by
  refine ⟨⟨by decide, by rw [h]; decide⟩, by rw [h]; decide, by rw [h]; decide⟩

/-- a fan-out instance of the hypotheses of `all_agrees` (the former D5 witness):
    {a: [{b: [1]}, {b: 2}]}, "a.b", members [1, 2] -/
example (path : String) (h : splitPath path = ["a", "b"]) :
    PathDom [("a", .arr [.doc [("b", .arr [.i32 1])], .doc [("b", .i32 2)]])] path ∧
    fans (.doc [("a", .arr [.doc [("b", .arr [.i32 1])], .doc [("b", .i32 2)]])]) (splitPath path) = true ∧
    [V.i32 1, V.i32 2].all scalarOperand = true := by
  refine ⟨⟨by decide, by rw [h]; decide⟩, by rw [h]; decide, rfl⟩

/-- a no-fan-out instance with an array-valued member (the former D7 witness): {a: [1, 2]}, "a",
    members [[1, 2], 1] — the hypothesis about members is vacuous here, nothing is required of them -/
example (path : String) (h : splitPath path = ["a"]) :
    PathDom [("a", .arr [.i32 1, .i32 2])] path ∧
    (fans (.doc [("a", .arr [.i32 1, .i32 2])]) (splitPath path) = true →
      [V.arr [.i32 1, .i32 2], V.i32 1].all scalarOperand = true) := by
  refine ⟨⟨by decide, by rw [h]; decide⟩, ?_⟩
  rw [h]; intro hf; exact absurd hf (by decide)

-- whole pairs inside the proved domain, both sides evaluated (true and false outcomes, fan-out, $elemMatch, $nor)
#guard coreProved [("a", .arr [.doc [("b", .i32 1)], .doc [("b", .arr [.i32 2, .i32 3])], .i32 5])] [("a.b", .doc [("$gt", .i32 2)])]
#guard (Match schemaUnmodelled [("a", .arr [.doc [("b", .i32 1)], .doc [("b", .arr [.i32 2, .i32 3])], .i32 5])] [("a.b", .doc [("$gt", .i32 2)])]) matches .ok true
#guard (Spec.matches schemaUnmodelled [("a", .arr [.doc [("b", .i32 1)], .doc [("b", .arr [.i32 2, .i32 3])], .i32 5])] [("a.b", .doc [("$gt", .i32 2)])]) matches .ok true
#guard coreProved [("a", .arr [.doc [("b", .i32 1)]])] [("$nor", .arr [.doc [("a", .doc [("$elemMatch", .doc [("b", .doc [("$lt", .i32 1)])])])]])]
#guard (Match schemaUnmodelled [("a", .arr [.doc [("b", .i32 1)]])] [("$nor", .arr [.doc [("a", .doc [("$elemMatch", .doc [("b", .doc [("$lt", .i32 1)])])])]])]) matches .ok true
#guard (Spec.matches schemaUnmodelled [("a", .arr [.doc [("b", .i32 1)]])] [("$nor", .arr [.doc [("a", .doc [("$elemMatch", .doc [("b", .doc [("$lt", .i32 1)])])])]])]) matches .ok true
-- the former deviations D1, D2, D4 on their witnesses: now inside the proved domain, both sides agree
#guard coreProved [("b", .i32 1)] [("a", .doc [("$type", .str "null")])]
#guard (Match schemaUnmodelled [("b", .i32 1)] [("a", .doc [("$type", .str "null")])]) matches .ok false
#guard (Spec.matches schemaUnmodelled [("b", .i32 1)] [("a", .doc [("$type", .str "null")])]) matches .ok false
#guard coreProved [("a", .arr [.doc [("b", .arr [])]])] [("a.b", .doc [("$exists", .bool true)])]
#guard (Match schemaUnmodelled [("a", .arr [.doc [("b", .arr [])]])] [("a.b", .doc [("$exists", .bool true)])]) matches .ok true
#guard (Spec.matches schemaUnmodelled [("a", .arr [.doc [("b", .arr [])]])] [("a.b", .doc [("$exists", .bool true)])]) matches .ok true
#guard coreProved [("a", .arr [.i32 1])] [("a", .doc [("$elemMatch", .doc [("b", .null)])])]
#guard (Match schemaUnmodelled [("a", .arr [.i32 1])] [("a", .doc [("$elemMatch", .doc [("b", .null)])])]) matches .ok false
#guard (Spec.matches schemaUnmodelled [("a", .arr [.i32 1])] [("a", .doc [("$elemMatch", .doc [("b", .null)])])]) matches .ok false
-- the one remaining deviation D3 on a concrete pair: inside `core`, outside `coreProved`, the two sides differ
#guard core [("a", .arr [.doc [("b", .arr [.doc [("c", .i32 1)], .doc [("c", .i32 2)]])]])] [("a.b.c", .doc [("$size", .i32 2)])]
#guard !coreProved [("a", .arr [.doc [("b", .arr [.doc [("c", .i32 1)], .doc [("c", .i32 2)]])]])] [("a.b.c", .doc [("$size", .i32 2)])]
#guard (Match schemaUnmodelled [("a", .arr [.doc [("b", .arr [.doc [("c", .i32 1)], .doc [("c", .i32 2)]])]])] [("a.b.c", .doc [("$size", .i32 2)])]) matches .ok true
#guard (Spec.matches schemaUnmodelled [("a", .arr [.doc [("b", .arr [.doc [("c", .i32 1)], .doc [("c", .i32 2)]])]])] [("a.b.c", .doc [("$size", .i32 2)])]) matches .ok false
-- the former deviations D5, D6, D7 on their witnesses: now inside the proved domain, both sides agree
-- D5: {a: [{b: [1]}, {b: 2}]} vs {"a.b": {$all: [1, 2]}}
#guard coreProved [("a", .arr [.doc [("b", .arr [.i32 1])], .doc [("b", .i32 2)]])] [("a.b", .doc [("$all", .arr [.i32 1, .i32 2])])]
#guard (Match schemaUnmodelled [("a", .arr [.doc [("b", .arr [.i32 1])], .doc [("b", .i32 2)]])] [("a.b", .doc [("$all", .arr [.i32 1, .i32 2])])]) matches .ok true
#guard (Spec.matches schemaUnmodelled [("a", .arr [.doc [("b", .arr [.i32 1])], .doc [("b", .i32 2)]])] [("a.b", .doc [("$all", .arr [.i32 1, .i32 2])])]) matches .ok true
#guard coreProved [("a", .arr [.doc [("b", .arr [.i32 1])], .doc [("b", .i32 2)]])] [("a.b", .doc [("$all", .arr [.i32 1, .i32 3])])]
#guard (Match schemaUnmodelled [("a", .arr [.doc [("b", .arr [.i32 1])], .doc [("b", .i32 2)]])] [("a.b", .doc [("$all", .arr [.i32 1, .i32 3])])]) matches .ok false
#guard (Spec.matches schemaUnmodelled [("a", .arr [.doc [("b", .arr [.i32 1])], .doc [("b", .i32 2)]])] [("a.b", .doc [("$all", .arr [.i32 1, .i32 3])])]) matches .ok false
-- D6: {a: 1} vs {a: {$exists: <decimal>}} for 0, -0, 0E+3, the "11" combination form (read as 0), 1, NaN, Infinity, -Infinity
#guard coreProved [("a", .i32 1)] [("a", .doc [("$exists", .dec 0x3040000000000000 0)])]
#guard (Match schemaUnmodelled [("a", .i32 1)] [("a", .doc [("$exists", .dec 0x3040000000000000 0)])]) matches .ok false
#guard (Spec.matches schemaUnmodelled [("a", .i32 1)] [("a", .doc [("$exists", .dec 0x3040000000000000 0)])]) matches .ok false
#guard coreProved [("a", .i32 1)] [("a", .doc [("$exists", .dec 0xB040000000000000 0)])]
#guard (Match schemaUnmodelled [("a", .i32 1)] [("a", .doc [("$exists", .dec 0xB040000000000000 0)])]) matches .ok false
#guard (Spec.matches schemaUnmodelled [("a", .i32 1)] [("a", .doc [("$exists", .dec 0xB040000000000000 0)])]) matches .ok false
#guard coreProved [("a", .i32 1)] [("a", .doc [("$exists", .dec 0x3046000000000000 0)])]
#guard (Match schemaUnmodelled [("a", .i32 1)] [("a", .doc [("$exists", .dec 0x3046000000000000 0)])]) matches .ok false
#guard (Spec.matches schemaUnmodelled [("a", .i32 1)] [("a", .doc [("$exists", .dec 0x3046000000000000 0)])]) matches .ok false
#guard coreProved [("a", .i32 1)] [("a", .doc [("$exists", .dec 0x6000000000000000 5)])]
#guard (Match schemaUnmodelled [("a", .i32 1)] [("a", .doc [("$exists", .dec 0x6000000000000000 5)])]) matches .ok false
#guard (Spec.matches schemaUnmodelled [("a", .i32 1)] [("a", .doc [("$exists", .dec 0x6000000000000000 5)])]) matches .ok false
#guard coreProved [("a", .i32 1)] [("a", .doc [("$exists", .dec 0x3040000000000000 1)])]
#guard (Match schemaUnmodelled [("a", .i32 1)] [("a", .doc [("$exists", .dec 0x3040000000000000 1)])]) matches .ok true
#guard (Spec.matches schemaUnmodelled [("a", .i32 1)] [("a", .doc [("$exists", .dec 0x3040000000000000 1)])]) matches .ok true
#guard coreProved [("a", .i32 1)] [("a", .doc [("$exists", .dec 0x7C00000000000000 0)])]
#guard (Match schemaUnmodelled [("a", .i32 1)] [("a", .doc [("$exists", .dec 0x7C00000000000000 0)])]) matches .ok true
#guard (Spec.matches schemaUnmodelled [("a", .i32 1)] [("a", .doc [("$exists", .dec 0x7C00000000000000 0)])]) matches .ok true
#guard coreProved [("a", .i32 1)] [("a", .doc [("$exists", .dec 0x7800000000000000 0)])]
#guard (Match schemaUnmodelled [("a", .i32 1)] [("a", .doc [("$exists", .dec 0x7800000000000000 0)])]) matches .ok true
#guard (Spec.matches schemaUnmodelled [("a", .i32 1)] [("a", .doc [("$exists", .dec 0x7800000000000000 0)])]) matches .ok true
#guard coreProved [("a", .i32 1)] [("a", .doc [("$exists", .dec 0xF800000000000000 0)])]
#guard (Match schemaUnmodelled [("a", .i32 1)] [("a", .doc [("$exists", .dec 0xF800000000000000 0)])]) matches .ok true
#guard (Spec.matches schemaUnmodelled [("a", .i32 1)] [("a", .doc [("$exists", .dec 0xF800000000000000 0)])]) matches .ok true
#guard coreProved [("b", .i32 1)] [("a", .doc [("$exists", .dec 0x3040000000000000 0)])]
#guard (Match schemaUnmodelled [("b", .i32 1)] [("a", .doc [("$exists", .dec 0x3040000000000000 0)])]) matches .ok true
#guard (Spec.matches schemaUnmodelled [("b", .i32 1)] [("a", .doc [("$exists", .dec 0x3040000000000000 0)])]) matches .ok true
-- D7: {a: [1, 2]} vs {a: {$all: [[1, 2], 1]}} (the member [1, 2] equals the whole array, 1 an element)
#guard coreProved [("a", .arr [.i32 1, .i32 2])] [("a", .doc [("$all", .arr [.arr [.i32 1, .i32 2], .i32 1])])]
#guard (Match schemaUnmodelled [("a", .arr [.i32 1, .i32 2])] [("a", .doc [("$all", .arr [.arr [.i32 1, .i32 2], .i32 1])])]) matches .ok true
#guard (Spec.matches schemaUnmodelled [("a", .arr [.i32 1, .i32 2])] [("a", .doc [("$all", .arr [.arr [.i32 1, .i32 2], .i32 1])])]) matches .ok true
#guard coreProved [("a", .arr [.i32 1, .i32 2])] [("a", .doc [("$all", .arr [.arr [.i32 2, .i32 1], .i32 1])])]
#guard (Match schemaUnmodelled [("a", .arr [.i32 1, .i32 2])] [("a", .doc [("$all", .arr [.arr [.i32 2, .i32 1], .i32 1])])]) matches .ok false
#guard (Spec.matches schemaUnmodelled [("a", .arr [.i32 1, .i32 2])] [("a", .doc [("$all", .arr [.arr [.i32 2, .i32 1], .i32 1])])]) matches .ok false
#guard coreProved [("a", .arr [.i32 1, .i32 2])] [("a", .doc [("$all", .arr [.arr [.i32 1, .i32 2], .i32 3])])]
#guard (Match schemaUnmodelled [("a", .arr [.i32 1, .i32 2])] [("a", .doc [("$all", .arr [.arr [.i32 1, .i32 2], .i32 3])])]) matches .ok false
#guard (Spec.matches schemaUnmodelled [("a", .arr [.i32 1, .i32 2])] [("a", .doc [("$all", .arr [.arr [.i32 1, .i32 2], .i32 3])])]) matches .ok false

end Lungo.C10
