/-
  C06 — Persist-and-reload returns the identical database.

  Model: Lungo.Model.Codec (BSON as written/read by mongo-driver v1.17.9, compared byte for
  byte by stream `codec`), Lungo.Model.File (file.go / store.go), Lungo.Model.CatalogLite.
  Proofs: Lungo.Proofs.Codec, Lungo.Proofs.File.
-/
import Lungo.Proofs.Codec
import Lungo.Proofs.File
namespace Lungo.C06
open Lungo Lungo.Bson Lungo.Lite

/-! ## The codec is the identity on well-formed values -/

/-- `bson.Unmarshal(bson.Marshal(d)) = d` for every document over the supported types:
    all four numeric types as raw bits/words (so NaN payloads, −0, infinities, subnormals and
    every Decimal128 bit pattern are covered by construction), strings, nested and empty
    documents/arrays, binary of every subtype, object ids, booleans, dates, timestamps, regexes,
    null. `wfEncDoc` = what the API can store: keys/regex parts without NUL, integers in range,
    12-byte object ids, sizes < 2^31, regex options sorted (Marshal sorts them), and no
    subtype-2 binary with empty data (Unmarshal reads that one back as four zero bytes). -/
theorem codec_roundtrip (d : Doc) (h : wfEncDoc d = true) : decDoc (encDoc d) = some d :=
  decDoc_encDoc d h

/-- The same for a single value in any context: decoding the payload written for `v`
    (followed by arbitrary bytes) yields `v` and leaves exactly those bytes. -/
theorem codec_roundtrip_value (v : V) (h : wfEnc v = true) (rest : Bytes) :
    decVal (need v) v.typ (encV v ++ rest) = some (v, rest) :=
  decVal_enc v h (need v) rest (Nat.le_refl _)

/-- Sharpness of `wfEnc`: an empty subtype-2 binary does NOT survive the codec
    (driver quirk: `ReadBinary` only reads the inner length when the outer one is > 4). -/
theorem codec_roundtrip_fails_bin2_empty :
    decDoc (encDoc [("b", .bin 2 [])]) = some [("b", .bin 2 [0, 0, 0, 0])] := by
  rfl

/-- Sharpness of `wfEnc`: unsorted regex options come back sorted. -/
theorem codec_roundtrip_fails_regex_opts :
    decDoc (encDoc [("r", .regex "a" "xi")]) = some [("r", .regex "a" "ix")] := by
  rfl

/-! ## The file format is the identity on files -/

/-- `bson.Unmarshal(bson.Marshal(file), &file') ⇒ file' = file` for every `File` with map keys
    distinct (any Go map) and encodable content, including nil documents/indexes/partial. -/
theorem file_roundtrip (f : File) (hd : f.distinct) (hw : wfEncDoc (fileDoc f) = true) :
    decodeFile (encodeFile f) = .ok f :=
  decodeFile_encodeFile f hd hw

/-! ## Store ; Load is the identity on catalogs -/

/-- Catalogs reachable through the API, as far as persistence is concerned. -/
structure WF (indexOk : IndexDef → List Doc → Bool) (c : Catalog) : Prop where
  /-- the file is encodable: names without NUL, documents/keys/filters `wfEnc`, expiry in int64 -/
  enc : wfEncDoc (fileDoc (buildFile c)) = true
  /-- map keys: handles pairwise distinct -/
  handles : (c.map Namespace.handle).Nodup
  /-- map keys: index names pairwise distinct per collection -/
  idxNames : ∀ n ∈ c, (n.indexes.map Prod.fst).Nodup
  /-- FORCED BY THE PROOF, not enforced by lungo: no '.' in a database name -/
  noDot : ∀ n ∈ c, '.' ∉ n.db.toList
  /-- every index can be rebuilt from its config and the collection's documents (C15 `Inv`) -/
  idxOk : ∀ n ∈ c, ∀ x ∈ n.indexes, indexOk x.2 n.docs = true
  /-- `local.oplog` exists (NewCatalog creates it, `local.*` is read-only for the API) -/
  oplog : (Catalog.get? c ("local", "oplog")).isSome = true

/-- Same handles; per handle the same documents in the same order (field order and types
    included, `Doc` equality is structural) and the same index definitions under the same names. -/
def Equiv (a b : Catalog) : Prop :=
  ∀ h, match Catalog.get? a h, Catalog.get? b h with
    | none, none => True
    | some x, some y => x.docs = y.docs ∧ ∀ name, x.indexes.lookup name = y.indexes.lookup name
    | _, _ => False

theorem Equiv.refl (a : Catalog) : Equiv a a := by
  intro h
  cases Catalog.get? a h <;> simp

/-- Closing and reopening yields the very same catalog: same namespaces (the change log
    `local.oplog` is one of them), same documents in natural order, same index definitions
    (key, unique, partial-filter incl. nil vs empty, expiry, name). -/
theorem reload_identity (indexOk : IndexDef → List Doc → Bool) (c : Catalog) (h : WF indexOk c) :
    reload indexOk c = .ok c := by
  have hd : (buildFile c).distinct :=
    ⟨by simpa [buildFile] using toFileNamespaces_keys_nodup c h.noDot h.handles,
     by simpa [buildFile] using toFileNamespaces_distinct c h.idxNames⟩
  have hl := fromFileNamespaces_toFileNamespaces indexOk c ⟨h.noDot, h.idxOk⟩
  unfold reload
  rw [decodeFile_encodeFile _ hd h.enc]
  simp [buildCatalog, buildFile, hl, ensureOplog, h.oplog]

theorem reload_identity_equiv (indexOk : IndexDef → List Doc → Bool) (c : Catalog) (h : WF indexOk c) :
    ∃ c', reload indexOk c = .ok c' ∧ Equiv c' c :=
  ⟨c, reload_identity indexOk c h, Equiv.refl c⟩

/-! ## The dot hypothesis is necessary -/

theorem splitDot_noDot : ∀ (l a b : List Char), splitDot l = some (a, b) → '.' ∉ a := by
  intro l
  induction l with
  | nil => intro a b h; simp [splitDot] at h
  | cons c r ih =>
    intro a b h
    simp only [splitDot] at h
    split at h
    · simp only [Option.some.injEq, Prod.mk.injEq] at h
      rw [← h.1]; simp
    · rename_i hc
      split at h
      · rename_i a' b' hs
        simp only [Option.some.injEq, Prod.mk.injEq] at h
        rw [← h.1]
        simp only [List.mem_cons, not_or]
        exact ⟨fun e => hc e.symm, ih a' b' hs⟩
      · simp at h

theorem fromFileNamespaces_noDot (indexOk : IndexDef → List Doc → Bool) :
    ∀ (l : List (String × FileNamespace)) (c : Catalog),
      fromFileNamespaces indexOk l = .ok c → ∀ n ∈ c, '.' ∉ n.db.toList := by
  intro l
  induction l with
  | nil => intro c h; simp [fromFileNamespaces] at h; subst h; simp
  | cons a r ih =>
    obtain ⟨name, ns⟩ := a
    intro c h
    simp only [fromFileNamespaces] at h
    split at h
    · simp at h
    · rename_i a' b' hs
      split at h
      · simp at h
      · split at h
        · simp at h
        · rename_i is _ c' hc'
          simp only [Except.ok.injEq] at h
          subst h
          intro n hn
          simp only [List.mem_cons] at hn
          rcases hn with e | hn
          · subst e
            simpa using splitDot_noDot _ _ _ hs
          · exact ih c' hc' n hn

/-- Whatever was stored, a loaded catalog never contains a database name with a dot … -/
theorem buildCatalog_db_noDot (indexOk : IndexDef → List Doc → Bool) (f : File) (c : Catalog)
    (h : buildCatalog indexOk f = .ok c) : ∀ n ∈ c, '.' ∉ n.db.toList := by
  simp only [buildCatalog] at h
  split at h
  · rename_i c0 h0
    simp only [Except.ok.injEq] at h
    subst h
    have := fromFileNamespaces_noDot indexOk _ c0 h0
    intro n hn
    unfold ensureOplog at hn
    split at hn
    · exact this n hn
    · simp only [List.mem_append, List.mem_singleton] at hn
      rcases hn with hn | e
      · exact this n hn
      · subst e; decide
  · simp at h

/-- … hence `reload c = c` REQUIRES dot-free database names: `noDot` cannot be dropped from `WF`. -/
theorem reload_identity_needs_noDot (indexOk : IndexDef → List Doc → Bool) (c : Catalog)
    (h : reload indexOk c = .ok c) : ∀ n ∈ c, '.' ∉ n.db.toList := by
  simp only [reload] at h
  split at h
  · simp at h
  · exact buildCatalog_db_noDot indexOk _ c h

def oplogNs : Namespace := { db := "local", coll := "oplog", docs := [], indexes := [] }
def idIndex : String × IndexDef := ("_id_", { key := [("_id", .i32 1)], unique := true, partialF := none, expiry := 0 })

/-- The concrete witness: database "a.b", collection "c" (every `WF` clause but `noDot` holds)
    reloads as database "a", collection "b.c"; the handle ("a.b","c") is gone. -/
def dottedCat : Catalog :=
  [oplogNs, { db := "a.b", coll := "c", docs := [[("_id", .i32 1)]], indexes := [idIndex] }]
def dottedCatReloaded : Catalog :=
  [oplogNs, { db := "a", coll := "b.c", docs := [[("_id", .i32 1)]], indexes := [idIndex] }]

theorem reload_identity_fails_dotted_db :
    reload (fun _ _ => true) dottedCat = .ok dottedCatReloaded
    ∧ Catalog.get? dottedCatReloaded ("a.b", "c") = none
    ∧ (Catalog.get? dottedCat ("a.b", "c")).isSome = true
    ∧ ¬ Equiv dottedCatReloaded dottedCat := by
  have hd : (buildFile dottedCat).distinct := by
    refine ⟨by decide, ?_⟩
    intro x hx
    simp only [buildFile, dottedCat, toFileNamespaces, Option.getD_some, List.mem_cons,
      List.not_mem_nil, or_false] at hx
    rcases hx with e | e <;> subst e <;> (unfold FileNamespace.distinct; decide)
  have hw : wfEncDoc (fileDoc (buildFile dottedCat)) = true := by decide +kernel
  have h1 : reload (fun _ _ => true) dottedCat = .ok dottedCatReloaded := by
    simp only [reload, decodeFile_encodeFile _ hd hw]
    rfl
  have e1 : Catalog.get? dottedCatReloaded ("a.b", "c") = none := by decide
  have e2 : (Catalog.get? dottedCat ("a.b", "c")).isSome = true := by decide
  refine ⟨h1, e1, e2, fun he => ?_⟩
  have := he ("a.b", "c")
  rw [e1] at this
  cases hg : Catalog.get? dottedCat ("a.b", "c") with
  | none => simp [hg] at e2
  | some x => simp [hg] at this

/-- Second face of the same defect: two live namespaces collide in the file. ("a.b","c") and
    ("a","b.c") are both written under "a.b.c"; a Go map keeps one of them. -/
theorem handle_collision : handleString "a.b" "c" = handleString "a" "b.c" := by decide

/-! ## Non-vacuity -/

/-- NaN with payload, −0, +∞, a Decimal128 NaN with payload, extreme int64, nested empty arrays,
    empty document, binary subtype 2 (non-empty) and 0 (empty), timestamp at uint32 max, regex,
    null, NUL inside a string, non-ASCII key: all inside `wfEncDoc`. -/
def sampleDoc : Doc :=
  [("_id", .oid [1, 2, 3, 4, 5, 6, 7, 8, 9, 10, 11, 12]),
   ("nan", .f64 0x7ff8000000000001), ("negzero", .f64 0x8000000000000000), ("inf", .f64 0x7ff0000000000000),
   ("tiny", .f64 1), ("dnan", .dec 0x7c00000000000001 5), ("min", .i64 (-9223372036854775808)), ("i", .i32 (-2147483648)),
   ("a", .arr [.arr [], .arr [.arr []], .doc []]), ("b2", .bin 2 [1, 2]), ("b0", .bin 0 []),
   ("ts", .ts 4294967295 4294967295), ("r", .regex "^a" "imx"), ("n", .null), ("s", .str "a\x00b"), ("é", .bool true),
   ("d", .date (-1))]

example : wfEncDoc sampleDoc = true := by decide +kernel
example : decDoc (encDoc sampleDoc) = some sampleDoc := codec_roundtrip sampleDoc (by decide +kernel)

/-- A catalog with the oplog, an empty collection that only has indexes (TTL with
    expireAfterSeconds 0 = 1ns, partial-filter nil vs empty vs non-empty, compound key, custom name),
    and a collection (whose name contains a dot) with documents. -/
def sampleCat : Catalog :=
  [{ db := "local", coll := "oplog", docs := [[("_id", .doc [("ts", .ts 1 1)]), ("ns", .str "db.c")]], indexes := [] },
   { db := "db", coll := "empty", docs := [],
     indexes := [idIndex,
       ("ttl", { key := [("t", .i32 1)], unique := false, partialF := none, expiry := 1 }),
       ("p_empty", { key := [("a", .i32 1), ("b", .i32 (-1))], unique := true, partialF := some [], expiry := 0 }),
       ("p", { key := [("a", .i32 (-1))], unique := true, partialF := some [("a", .doc [("$gt", .f64 0x7ff8000000000001)])], expiry := 0 })] },
   { db := "db", coll := "c.d", docs := [sampleDoc, [("_id", .i32 1)]], indexes := [idIndex] }]

theorem sampleCat_WF : WF (fun _ _ => true) sampleCat where
  enc := by decide +kernel
  handles := by decide
  idxNames := by
    intro n hn
    simp only [sampleCat, List.mem_cons, List.not_mem_nil, or_false] at hn
    rcases hn with e | e | e <;> subst e <;> decide
  noDot := by
    intro n hn
    simp only [sampleCat, List.mem_cons, List.not_mem_nil, or_false] at hn
    rcases hn with e | e | e <;> subst e <;> decide
  idxOk := by intros; rfl
  oplog := by decide

example : reload (fun _ _ => true) sampleCat = .ok sampleCat := reload_identity _ _ sampleCat_WF

end Lungo.C06
