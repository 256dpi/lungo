/-
  Lungo.Props.C01 — "CRUD through the driver API matches a sequential MongoDB reference model. For
  every sequence of insert, find, count, distinct, update, replace, delete, find-one-and-modify,
  bulk-write, upsert, index and drop calls issued one after another through the driver-compatible
  API, each call returns the counts, ids, documents and error-or-success that a plain sequential
  model of MongoDB semantics (a list of documents in insertion order plus the supported operator
  semantics) returns, and after every call the contents of every collection equal the model's."

  Left-hand side: the executable model of the implementation, `Sys.step` (Lungo/Model/Api.lean:
  collection.go / transaction.go / mongokit/collection.go with index entries, document identities,
  the oplog, Begin → method → Commit), validated against the real driver by stream `api`.
  Right-hand side: `Spec.step` over `Spec.SeqDB` (Lungo/Spec/SeqDB.lean, DESIGN §8.6): per namespace
  a list of documents in natural order + index DEFINITIONS; no entries, no identities, no oplog;
  validated against the real driver by stream `seq`.
  `abs : Catalog → SeqDB` (Proofs/SeqAbs.lean) forgets entries, identities and the oplog (of which
  only the bit "is it empty" remains, because `listDatabases` reports it).

  REFINEMENT, call by call (`Refines sch s c oids`):
      Spec.step sch (abs s.catalog) c oids = (Sys.step sch s c oids).map (fun (s', rep) => (abs s'.catalog, rep))
  i.e. the same reply or the same error, and the abstraction commutes. The shared semantic functions
  `Match`, `Apply`, `Project`, `Extract`, `Distinct`, `sortDocs`, `tuples/tupleEq` are parameters of
  both sides: C01 is the plumbing (their meaning is C10/C11/C14/C13/C07).

  Hypotheses (all stated on the SPEC's state, so a history can be checked against the Spec alone):
    `SysInv` (C15 coherence: the implementation's uniqueness check consults index entries, the
        Spec's looks at documents), `UniqueOkCat` (C07: no two equal documents, so "remove/replace
        this document" means the same by identity and by value) — both hold in every reachable state;
    `OkDB db`       every stored document is a Go value (int64 payloads in range): the C12 order laws
                    ("filter then sort = sort then filter", transitivity of key equality) hold there;
                    kept by every well-formed call (`okDB_step`), so histories need it initially only;
    `QueryOk sch db h q`  the filter evaluates (true/false) on every stored document of the target
                    collection: the implementation scans the SORTED list and stops at the limit, the
                    Spec filters first, so a filter that raises an error on some documents only may
                    be reported by one and not the other (C13.find_with_match_errors);
    `InsertOk docs oids`  the inserted documents and generated ids are Go values;
    `UpdateOk` / `ReplaceOk` / `BulkCallOk`  additionally: the results of `Apply` on stored documents,
                    the replacement and the upserted document are Go values (no theorem says that
                    `Apply` keeps int64 payloads in range; it is an input condition here), for a
                    bulk in the Spec state in which each operation runs;
    `TtlOk`         the TTL delete filters evaluate on the documents of their collections;
    `HD s.catalog`  the handles of the catalog are pairwise distinct — an invariant of every
                    reachable state (`handles_distinct`), used by `expire` only;
    reads do not address `local.oplog` (outside the Spec: it has no oplog).

  ALL 27 calls are covered: insertOne, insertMany (ordered/unordered), find, findOne, count,
  estimatedCount, distinct, updateOne, updateMany (+ upsert, array filters), replaceOne (+ upsert),
  deleteOne, deleteMany, findOneAndDelete / Replace / Update (sort, before/after, projection, upsert),
  bulkWrite (ordered/unordered), createIndex, dropIndex, dropAllIndexes, dropIndexByKey, listIndexes,
  createCollection, dropCollection, dropDatabase, listCollections, listDatabases, expire.
-/
import Lungo.Proofs.SeqOk
import Lungo.Props.C15
import Lungo.Props.C07
namespace Lungo.C01
open Lungo Lungo.Spec Lungo.SeqRef

variable {sch : SchemaEval}

/-! ### the abstraction -/

/-- `abs` of the empty system is the Spec's initial state -/
theorem abs_init : abs Sys.init.catalog = SeqDB.init := SeqRef.abs_init

/-- user namespaces are abstracted to their documents (natural order) and index definitions -/
theorem abs_get (cat : Catalog) {h : Handle} (hne : h ≠ oplogHandle) :
    (abs cat).get? h = (cat.get? h).map fun c => { docs := c.docs.map (·.doc), defs := shape c.indexes } :=
  SeqRef.abs_get? cat hne

/-! ### the two pillars: selection and the uniqueness check -/

/-- selection: the stored documents the implementation selects (sort → scan with limit → skip),
    without their identities, are the Spec's "matching → stable sort → drop skip → keep limit" -/
theorem select_refines (c : Coll) (q : Doc) (sort : Option Doc) (skip limit : Int)
    (ok : DocsOk c.docs) (hne : noMatchError sch q c.docs) :
    (selectDocs sch c q sort skip limit).map (List.map (·.doc)) =
      select sch (c.docs.map (·.doc)) q sort skip limit := select_abs c q sort skip limit ok hne

/-- uniqueness: adding a fresh document to the index entries succeeds / fails with the same error
    as the Spec's condition on plain documents (`admits`: partial filter evaluable, no unique
    definition under which a stored document shares a key tuple) -/
theorem uniqueness_refines {docs : List SDoc} {sd : SDoc}
    (hfresh : ∀ x ∈ docs, x.id ≠ sd.id) (hinj : IdInj (· ∈ docs)) (hok : DocsOk docs) (hsd : DocOk sd.doc)
    (idx : List (String × Index)) (hc : AllCoherent sch (· ∈ docs) idx) :
    (addToIndexes sch sd idx).map (fun _ => ()) = admits sch (docs.map (·.doc)) sd.doc (shape idx) :=
  addToIndexes_admits hfresh hinj hok hsd idx hc

/-- `admits` is the declarative `wouldCollide` whenever the partial filters can be evaluated on `d` -/
theorem admits_eq_wouldCollide (docs : List Doc) (d : Doc) :
    ∀ (defs : List (String × IndexConfig)), (∀ p ∈ defs, ∃ b, under sch p.2 d = .ok b) →
      admits sch docs d defs = if wouldCollide sch defs docs d then .error .dup else .ok ()
  | [], _ => rfl
  | (n, cfg) :: r, h => by
    obtain ⟨b, hb⟩ := h (n, cfg) (by simp)
    have ih := admits_eq_wouldCollide docs d r (fun p hp => h p (List.mem_cons_of_mem _ hp))
    simp only at hb
    have hub : underB sch cfg d = b := by
      simp only [underB, hb]; cases b <;> rfl
    simp only [admits, hb, wouldCollide, List.any_cons, hub]
    cases b with
    | false =>
      simp only [Bool.and_false, Bool.false_and, Bool.false_or]
      exact ih
    | true =>
      simp only [Bool.and_true]
      cases hc : (cfg.unique && clashes sch cfg docs d) with
      | true => simp
      | false =>
        simp only [Bool.false_eq_true, ↓reduceIte, Bool.false_or]
        exact ih

/-! ### call by call -/

theorem refines_find (s : Sys) (h : Handle) (q : Doc) (o : FindOpts) (oids : List V)
    (hne : h ≠ oplogHandle) (ok : OkDB (abs s.catalog)) (hq : QueryOk sch (abs s.catalog) h q) :
    Refines sch s (.find h q o) oids := SeqRef.refines_find s h q o oids hne ok hq

theorem refines_findOne (s : Sys) (h : Handle) (q : Doc) (o : FindOpts) (oids : List V)
    (hne : h ≠ oplogHandle) (ok : OkDB (abs s.catalog)) (hq : QueryOk sch (abs s.catalog) h q) :
    Refines sch s (.findOne h q o) oids := SeqRef.refines_findOne s h q o oids hne ok hq

theorem refines_count (s : Sys) (h : Handle) (q : Doc) (skip limit : Int) (oids : List V)
    (hne : h ≠ oplogHandle) (ok : OkDB (abs s.catalog)) (hq : QueryOk sch (abs s.catalog) h q) :
    Refines sch s (.count h q skip limit) oids := SeqRef.refines_count s h q skip limit oids hne ok hq

theorem refines_estCount (s : Sys) (h : Handle) (oids : List V) (hne : h ≠ oplogHandle) :
    Refines sch s (.estCount h) oids := SeqRef.refines_estCount s h oids hne

theorem refines_distinct (s : Sys) (h : Handle) (field : String) (q : Doc) (oids : List V)
    (hne : h ≠ oplogHandle) (ok : OkDB (abs s.catalog)) (hq : QueryOk sch (abs s.catalog) h q) :
    Refines sch s (.distinct h field q) oids := SeqRef.refines_distinct s h field q oids hne ok hq

theorem refines_listIndexes (s : Sys) (h : Handle) (oids : List V) (hne : h ≠ oplogHandle) :
    Refines sch s (.listIndexes h) oids := SeqRef.refines_listIndexes s h oids hne

theorem refines_listCollections (s : Sys) (db : String) (q : Doc) (oids : List V) :
    Refines sch s (.listCollections db q) oids := SeqRef.refines_listCollections s db q oids

theorem refines_listDatabases (s : Sys) (q : Doc) (oids : List V) :
    Refines sch s (.listDatabases q) oids := SeqRef.refines_listDatabases s q oids

theorem refines_insertOne (s : Sys) (h : Handle) (doc : Doc) (oids : List V)
    (hi : SysInv sch s) (ok : OkDB (abs s.catalog)) (hw : InsertOk [doc] oids) :
    Refines sch s (.insertOne h doc) oids := SeqRef.refines_insertOne s h doc oids hi ok hw

theorem refines_insertMany (s : Sys) (h : Handle) (docs : List Doc) (ordered : Bool) (oids : List V)
    (hi : SysInv sch s) (ok : OkDB (abs s.catalog)) (hw : InsertOk docs oids) :
    Refines sch s (.insertMany h docs ordered) oids := SeqRef.refines_insertMany s h docs ordered oids hi ok hw

theorem refines_deleteOne (s : Sys) (h : Handle) (q : Doc) (oids : List V)
    (hi : SysInv sch s) (hu : UniqueOkCat sch s.catalog) (ok : OkDB (abs s.catalog))
    (hq : QueryOk sch (abs s.catalog) h q) : Refines sch s (.deleteOne h q) oids :=
  SeqRef.refines_deleteOne s h q oids ⟨hi, fun _ => hu⟩ ok hq

theorem refines_deleteMany (s : Sys) (h : Handle) (q : Doc) (oids : List V)
    (hi : SysInv sch s) (hu : UniqueOkCat sch s.catalog) (ok : OkDB (abs s.catalog))
    (hq : QueryOk sch (abs s.catalog) h q) : Refines sch s (.deleteMany h q) oids :=
  SeqRef.refines_deleteMany s h q oids ⟨hi, fun _ => hu⟩ ok hq

theorem refines_findOneAndDelete (s : Sys) (h : Handle) (q : Doc) (sort proj : Option Doc) (oids : List V)
    (hi : SysInv sch s) (hu : UniqueOkCat sch s.catalog) (ok : OkDB (abs s.catalog))
    (hq : QueryOk sch (abs s.catalog) h q) : Refines sch s (.findOneAndDelete h q sort proj) oids :=
  SeqRef.refines_findOneAndDelete s h q sort proj oids ⟨hi, fun _ => hu⟩ ok hq

/-- updateOne: the first match in natural order gets the update; matched / modified counts; `_id`
    immutable; uniqueness of the resulting collection; upsert with the seed of the filter.
    `UpdateOk`: the filter evaluates on every stored document, the results of `Apply` on stored
    documents and the upserted document are Go values, and so are the generated ids. -/
theorem refines_updateOne (s : Sys) (h : Handle) (q u : Doc) (upsert : Bool) (fs : List Doc) (oids : List V)
    (hi : SysInv sch s) (hu : UniqueOkCat sch s.catalog) (ok : OkDB (abs s.catalog))
    (hw : UpdateOk (acOf sch) (abs s.catalog) h q u upsert fs oids) :
    Refines sch s (.updateOne h q u upsert fs) oids :=
  SeqRef.refines_updateOne s h q u upsert fs oids ⟨hi, fun _ => hu⟩ ok hw

/-- updateMany: all matches, each in its slot; a multi-update may permute unique keys (remove all,
    then add all — the Spec's `admitAll` over the untouched documents) -/
theorem refines_updateMany (s : Sys) (h : Handle) (q u : Doc) (upsert : Bool) (fs : List Doc) (oids : List V)
    (hi : SysInv sch s) (hu : UniqueOkCat sch s.catalog) (ok : OkDB (abs s.catalog))
    (hw : UpdateOk (acOf sch) (abs s.catalog) h q u upsert fs oids) :
    Refines sch s (.updateMany h q u upsert fs) oids :=
  SeqRef.refines_updateMany s h q u upsert fs oids ⟨hi, fun _ => hu⟩ ok hw

/-- findOneAndUpdate: the head of the sorted matches; the document before / after; projection -/
theorem refines_findOneAndUpdate (s : Sys) (h : Handle) (q u : Doc) (sort proj : Option Doc)
    (upsert after : Bool) (fs : List Doc) (oids : List V)
    (hi : SysInv sch s) (hu : UniqueOkCat sch s.catalog) (ok : OkDB (abs s.catalog))
    (hw : UpdateOk (acOf sch) (abs s.catalog) h q u upsert fs oids) :
    Refines sch s (.findOneAndUpdate h q u sort proj upsert after fs) oids :=
  SeqRef.refines_findOneAndUpdate s h q u sort proj upsert after fs oids ⟨hi, fun _ => hu⟩ ok hw

/-- replaceOne: the first match replaced in its slot by the replacement carrying the stored `_id`
    (another `_id` is an error); upsert inserts the replacement with the `_id` of the filter's seed.
    `ReplaceOk`: the filter evaluates on every stored document; the replacement, the upserted
    document and the generated ids are Go values. -/
theorem refines_replaceOne (s : Sys) (h : Handle) (q repl : Doc) (upsert : Bool) (oids : List V)
    (hi : SysInv sch s) (hu : UniqueOkCat sch s.catalog) (ok : OkDB (abs s.catalog))
    (hw : ReplaceOk (acOf sch) (abs s.catalog) h q repl upsert oids) :
    Refines sch s (.replaceOne h q repl upsert) oids :=
  SeqRef.refines_replaceOne s h q repl upsert oids ⟨hi, fun _ => hu⟩ ok hw

theorem refines_findOneAndReplace (s : Sys) (h : Handle) (q repl : Doc) (sort proj : Option Doc)
    (upsert after : Bool) (oids : List V)
    (hi : SysInv sch s) (hu : UniqueOkCat sch s.catalog) (ok : OkDB (abs s.catalog))
    (hw : ReplaceOk (acOf sch) (abs s.catalog) h q repl upsert oids) :
    Refines sch s (.findOneAndReplace h q repl sort proj upsert after) oids :=
  SeqRef.refines_findOneAndReplace s h q repl sort proj upsert after oids ⟨hi, fun _ => hu⟩ ok hw

/-- bulkWrite: the operations in order, each with the semantics of the single call; ordered stops
    at the first failing one, unordered continues; counts are sums over the successful operations,
    upserted ids and errors are keyed by operation index; a bulk that changed nothing leaves the
    database as it was. `BulkCallOk`: every operation is well-formed (as for the single calls) in the
    Spec state in which it is executed, and those states hold Go values. -/
theorem refines_bulkWrite (s : Sys) (h : Handle) (models : List BulkModel) (ordered : Bool) (oids : List V)
    (hi : SysInv sch s) (hu : UniqueOkCat sch s.catalog)
    (hw : BulkCallOk (acOf sch) (abs s.catalog) h ordered oids models) :
    Refines sch s (.bulkWrite h models ordered) oids :=
  SeqRef.refines_bulkWrite s h models ordered oids ⟨hi, fun _ => hu⟩ hw

theorem refines_createCollection (s : Sys) (h : Handle) (oids : List V) :
    Refines sch s (.createCollection h) oids := SeqRef.refines_createCollection s h oids

theorem refines_dropCollection (s : Sys) (h : Handle) (oids : List V) (hi : SysInv sch s) :
    Refines sch s (.dropCollection h) oids := SeqRef.refines_dropCollection s h oids hi

theorem refines_dropDatabase (s : Sys) (name : String) (oids : List V) (hi : SysInv sch s) :
    Refines sch s (.dropDatabase name) oids := SeqRef.refines_dropDatabase s name oids hi

/-- createIndex: name defaulting, same-definition no-op, name/key conflicts, definition validity, and
    the build over the stored documents (a unique build over existing duplicates fails with `dup`) -/
theorem refines_createIndex (s : Sys) (h : Handle) (name : String) (cfg : IndexConfig) (oids : List V)
    (hi : SysInv sch s) (ok : OkDB (abs s.catalog)) : Refines sch s (.createIndex h name cfg) oids :=
  SeqRef.refines_createIndex s h name cfg oids hi ok

theorem refines_dropIndex (s : Sys) (h : Handle) (name : String) (oids : List V) :
    Refines sch s (.dropIndex h name) oids := SeqRef.refines_dropIndex s h name oids

theorem refines_dropAllIndexes (s : Sys) (h : Handle) (oids : List V) :
    Refines sch s (.dropAllIndexes h) oids := SeqRef.refines_dropAllIndexes s h oids

theorem refines_dropIndexByKey (s : Sys) (h : Handle) (key : Doc) (oids : List V) :
    Refines sch s (.dropIndexByKey h key) oids := SeqRef.refines_dropIndexByKey s h key oids

/-- expire: every collection with a TTL definition loses the documents holding a date older than
    `now − expiry` at the indexed field; the reply is their number; nothing expired = no change -/
theorem refines_expire (s : Sys) (nowMs : Int) (oids : List V) (hi : SysInv sch s)
    (hu : UniqueOkCat sch s.catalog) (hh : HD s.catalog) (ok : OkDB (abs s.catalog))
    (hw : TtlOk sch nowMs (abs s.catalog).colls) : Refines sch s (.expire nowMs) oids :=
  SeqRef.refines_expire s nowMs oids ⟨hi, fun _ => hu⟩ hh ok hw

/-- the handles of the catalog are pairwise distinct in every reachable state -/
theorem handles_distinct (calls : List (Call × List V)) : HD (Sys.run sch Sys.init calls).catalog :=
  HD.run HD.init calls

theorem handles_distinct_step {s s' : Sys} {c : Call} {oids : List V} {r : Reply} (hh : HD s.catalog)
    (e : Sys.step sch s c oids = .ok (s', r)) : HD s'.catalog := hh.step e

/-! ### assembled -/

/-- the Spec keeps "every stored document is a Go value" under well-formed calls (`WF`, defined in
    Proofs/SeqOk.lean: per call `InsertOk` / `QueryOk` / `UpdateOk` / `ReplaceOk` / `BulkCallOk` / `TtlOk`,
    and "not `local.oplog`" for reads) -/
theorem okDB_step {db db' : SeqDB} {c : Call} {oids : List V} {r : Reply} (ok : OkDB db)
    (hw : WF sch db oids c) (e : Spec.step sch db c oids = .ok (db', r)) : OkDB db' :=
  SeqRef.okDB_step ok hw e

/-- **api_refines**: in a state satisfying the C15 invariant and C07, with pairwise distinct
    handles, whose documents are Go values, every well-formed call — all 27 of them — returns under
    the Spec exactly what the implementation model returns (the same reply or the same error), and
    `abs` commutes. -/
theorem api_refines {s : Sys} {c : Call} {oids : List V} (hi : SysInv sch s)
    (hu : UniqueOkCat sch s.catalog) (hh : HD s.catalog) (ok : OkDB (abs s.catalog))
    (hw : WF sch (abs s.catalog) oids c) :
    Spec.step sch (abs s.catalog) c oids =
      (Sys.step sch s c oids).map (fun p => (abs p.1.catalog, p.2)) := by
  cases c with
  | insertOne h doc => exact refines_insertOne s h doc oids hi ok hw
  | insertMany h docs ordered => exact refines_insertMany s h docs ordered oids hi ok hw
  | find h q o => exact refines_find s h q o oids hw.1 ok hw.2
  | findOne h q o => exact refines_findOne s h q o oids hw.1 ok hw.2
  | count h q skip limit => exact refines_count s h q skip limit oids hw.1 ok hw.2
  | estCount h => exact refines_estCount s h oids hw
  | distinct h field q => exact refines_distinct s h field q oids hw.1 ok hw.2
  | deleteOne h q => exact refines_deleteOne s h q oids hi hu ok hw
  | deleteMany h q => exact refines_deleteMany s h q oids hi hu ok hw
  | findOneAndDelete h q sort proj => exact refines_findOneAndDelete s h q sort proj oids hi hu ok hw
  | dropIndex h name => exact refines_dropIndex s h name oids
  | dropAllIndexes h => exact refines_dropAllIndexes s h oids
  | dropIndexByKey h key => exact refines_dropIndexByKey s h key oids
  | listIndexes h => exact refines_listIndexes s h oids hw
  | createCollection h => exact refines_createCollection s h oids
  | dropCollection h => exact refines_dropCollection s h oids hi
  | dropDatabase db => exact refines_dropDatabase s db oids hi
  | listCollections db q => exact refines_listCollections s db q oids
  | listDatabases q => exact refines_listDatabases s q oids
  | updateOne h q u upsert fs => exact refines_updateOne s h q u upsert fs oids hi hu ok hw
  | updateMany h q u upsert fs => exact refines_updateMany s h q u upsert fs oids hi hu ok hw
  | replaceOne h q repl upsert => exact refines_replaceOne s h q repl upsert oids hi hu ok hw
  | findOneAndReplace h q repl sort proj upsert after =>
    exact refines_findOneAndReplace s h q repl sort proj upsert after oids hi hu ok hw
  | findOneAndUpdate h q u sort proj upsert after fs =>
    exact refines_findOneAndUpdate s h q u sort proj upsert after fs oids hi hu ok hw
  | bulkWrite h models ordered => exact refines_bulkWrite s h models ordered oids hi hu hw
  | createIndex h name cfg => exact refines_createIndex s h name cfg oids hi ok
  | expire nowMs => exact refines_expire s nowMs oids hi hu hh ok hw

/-! ### histories -/

/-- the replies (or error classes) of a history on the implementation model; a failing call leaves
    the state as it was -/
def sysReplies (sch : SchemaEval) : Sys → List (Call × List V) → List (Res Reply)
  | _, [] => []
  | s, co :: r =>
    match Sys.step sch s co.1 co.2 with
    | .ok (s', rep) => .ok rep :: sysReplies sch s' r
    | .error e => .error e :: sysReplies sch s r

/-- along the history, judged on the SPEC's states: every call is well-formed -/
def RunOk (sch : SchemaEval) : SeqDB → List (Call × List V) → Prop
  | _, [] => True
  | db, co :: r =>
    WF sch db co.2 co.1 ∧
      RunOk sch (match Spec.step sch db co.1 co.2 with
        | .ok (db', _) => db'
        | .error _ => db) r

theorem api_refines_run_from {s : Sys} (hi : SysInv sch s) (hu : UniqueOkCat sch s.catalog)
    (hh : HD s.catalog) (ok : OkDB (abs s.catalog)) :
    ∀ (calls : List (Call × List V)), RunOk sch (abs s.catalog) calls →
      sysReplies sch s calls = Spec.replies sch (abs s.catalog) calls ∧
      abs (Sys.run sch s calls).catalog = Spec.run sch (abs s.catalog) calls := by
  intro calls
  induction calls generalizing s with
  | nil => intro _; exact ⟨rfl, rfl⟩
  | cons co r ih =>
    intro hr
    obtain ⟨hw, hrest⟩ := hr
    have hstep := api_refines hi hu hh ok hw
    simp only [sysReplies, Spec.replies, Sys.run, Spec.run, List.foldl_cons]
    cases hs : Sys.step sch s co.1 co.2 with
    | error e =>
      rw [hs] at hstep
      simp only [Except.map] at hstep
      rw [hstep] at hrest ⊢
      simp only at hrest ⊢
      obtain ⟨h1, h2⟩ := ih hi hu hh ok hrest
      exact ⟨by rw [h1], h2⟩
    | ok p =>
      obtain ⟨s', rep⟩ := p
      rw [hs] at hstep
      simp only [Except.map] at hstep
      rw [hstep] at hrest ⊢
      simp only at hrest ⊢
      obtain ⟨hi', hu'⟩ := C07.unique_step hi hu hs
      obtain ⟨h1, h2⟩ := ih hi' hu' (hh.step hs) (okDB_step ok hw hstep) hrest
      exact ⟨by rw [h1], h2⟩

/-- **api_refines_run**: for every history of well-formed calls from the empty database,
    the implementation model and the sequential reference model give the same replies (documents,
    counts, ids, error classes), call by call, and end with the same contents. -/
theorem api_refines_run (calls : List (Call × List V)) (hr : RunOk sch SeqDB.init calls) :
    sysReplies sch Sys.init calls = Spec.replies sch SeqDB.init calls ∧
    abs (Sys.run sch Sys.init calls).catalog = Spec.run sch SeqDB.init calls := by
  have := api_refines_run_from (sch := sch) C15.inv_init (C07.uniqueOk_run []) HD.init okDB_init calls
    (by rw [abs_init]; exact hr)
  rwa [abs_init] at this

/-! ### non-vacuity: a concrete history meets the hypotheses -/

def demoH : Handle := ⟨"d", "c"⟩
def demoCalls : List (Call × List V) :=
  [(.insertOne demoH [("a", .i32 1)], [.oid [1]]),
   (.insertOne demoH [("_id", .i32 7), ("a", .i32 2)], []),
   (.dropAllIndexes demoH, []),
   (.createCollection ⟨"d", "e"⟩, []),
   (.dropDatabase "d", [])]

-- the first call of the demo history is well-formed in the initial state (all hypotheses of
-- `api_refines` hold there)
example : Spec.step sch (abs Sys.init.catalog) (.insertOne demoH [("a", .i32 1)]) [.oid [1]] =
    (Sys.step sch Sys.init (.insertOne demoH [("a", .i32 1)]) [.oid [1]]).map (fun p => (abs p.1.catalog, p.2)) :=
  api_refines C15.inv_init (C07.uniqueOk_run []) HD.init okDB_init
    ⟨fun d hd => by simp at hd; subst hd; simp [DocOk, V.i64Ok, i64OkFields],
     fun o ho => by simp at ho; subst ho; simp [V.i64Ok]⟩

/-! TESTS (evaluated): the Spec on the demo history, and the implementation model, agree -/
#guard (Spec.run schemaUnmodelled SeqDB.init demoCalls).colls.map (fun p => (p.1.coll, p.2.docs.length)) == [("oplog", 0)]
#guard (Spec.run schemaUnmodelled SeqDB.init (demoCalls.take 4)).colls.map (fun p => (p.1.coll, p.2.docs.length, p.2.defs.map (·.1)))
  == [("oplog", 0, []), ("c", 2, ["_id_"]), ("e", 0, ["_id_"])]
#guard (abs (Sys.run schemaUnmodelled Sys.init (demoCalls.take 4)).catalog).colls.map (fun p => (p.1.coll, p.2.docs.length, p.2.defs.map (·.1)))
  == [("oplog", 0, []), ("c", 2, ["_id_"]), ("e", 0, ["_id_"])]

/-
  `OkDB` is NOT an assumption along a history: the initial database is empty and `okDB_step` carries
  it through every well-formed call. What remains an INPUT CONDITION rather than a theorem are the
  `DocOk` clauses inside `WF`: the inserted documents / replacement / generated ids are Go values
  (true of every Go value the driver can be handed), and — `ApplyOkOn`, `UpsertOk` — the results of
  `Apply` (on stored documents, on the upsert seed) are Go values. The latter would follow from
  "`Apply` and `Extract` map Go values to Go values" (int64 payloads stay in range), a statement about
  the operator semantics (C11's subject) that nothing in the development establishes.
-/

end Lungo.C01
