/-
  Lungo.Model.Own — the ownership layer (DESIGN §3.4 G1, Appendix D) for C02/C03.

  The functional model (Model/Txn.lean, Model/Collection.lean) returns new values, so "a failed write
  leaves no trace" and "snapshots are immutable" hold there for the wrong reason.  The Go code MUTATES
  in place (`bsonkit.Set.Add/Replace/Remove`, `bsonkit.Index.Add/Remove`, `mongokit.Collection.*`,
  `clone.Namespaces[h] = …`) and relies on a clone/mutate/publish discipline in /repo/transaction.go.

  This file gives
    * an abstract heap of identity-carrying objects (Catalog map, Collection, Set, Index, DocNode),
    * a small imperative IR (`Stmt`) for the clone/mutate/publish structure of the Transaction write
      methods (the programs themselves are in Expected/TxnPrograms.lean and are REGENERATED from
      /repo/transaction.go by go/cmd/extract/txnprog.go on every run),
    * an interpreter `exec`/`run` in which every `mongokit.Collection` method call is an ARBITRARY
      partial mutation of the receiver's own Set / Index / Indexes-map objects (plus allocation of fresh
      DocNodes) followed by an arbitrary outcome ok | err — the Go methods do not roll back,
    * the static check `ownedOK`.
  Soundness of the check is proved in Proofs/Own*.lean; the property theorems are Props/C02, C03.

  Core-only (no Mathlib).
-/
namespace Lungo.Own

/-- object identities (expands to `Nat` at parse time so that `omega` sees through it) -/
macro "ObjId" : term => `(Nat)
/-- run-time value of a namespace handle; `0` is `local.oplog` -/
macro "HandleV" : term => `(Nat)
abbrev Var := String

/-! ## Heap -/

inductive Obj
  | cat (ns : List (HandleV × ObjId))                 -- lungo.Catalog: the Namespaces MAP
  | coll (docs : ObjId) (idx : List (String × ObjId)) -- mongokit.Collection: Documents *Set, Indexes map
  | set (list : List ObjId)                           -- bsonkit.Set: List (the Index map is a function of it)
  | idx (entries : List ObjId)                        -- mongokit.Index / bsonkit.Index: the btree's documents
  | doc (v : Nat)                                     -- a document value with identity (content opaque)
  deriving DecidableEq, Repr

/-- finite map ObjId → Obj; the allocation counter is `objs.length` (ids are never reused) -/
structure Heap where
  objs : List Obj
  deriving DecidableEq, Repr

namespace Heap
def size (h : Heap) : Nat := h.objs.length
def get (h : Heap) (o : ObjId) : Option Obj := h.objs[o]?
def alloc (h : Heap) (x : Obj) : Heap × ObjId := (⟨h.objs ++ [x]⟩, h.objs.length)
/-- in-place write (no effect on an unallocated id) -/
def write (h : Heap) (o : ObjId) (x : Obj) : Heap := ⟨h.objs.set o x⟩
/-- allocate a list of objects; returns their ids in order -/
def allocs (h : Heap) : List Obj → Heap × List ObjId
  | [] => (h, [])
  | x :: xs =>
    let (h1, o) := h.alloc x
    let (h2, os) := allocs h1 xs
    (h2, o :: os)
/-- a sequence of in-place writes -/
def writes (h : Heap) : List (ObjId × Obj) → Heap
  | [] => h
  | (o, x) :: ws => writes (h.write o x) ws
def empty : Heap := ⟨[]⟩
end Heap

/-! ## IR -/

/-- handle expressions of the write methods: the `handle` parameter, the constant `Oplog`, and the key
    variable of a `for k := range clone.Namespaces` loop -/
inductive HExpr
  | param | oplog | loopVar
  deriving DecidableEq, Repr

/-- collection-valued expressions: a local variable, or the map lookup `cat.Namespaces[h]` (may be nil) -/
inductive CExpr
  | var (v : Var)
  | ns (cat : Var) (h : HExpr)
  deriving DecidableEq, Repr

/-- mutating methods of mongokit.Collection (`setRemove` = a direct `c.Documents.Remove`, used by Clean;
    `buildIndex` = `Index.Build` on an index of the receiver) -/
inductive Method
  | insert | replace | update | upsert | delete | createIndex | dropIndex | buildIndex | setRemove
  deriving DecidableEq, Repr

inductive Cond
  | isNil (e : CExpr)        -- `cat.Namespaces[h] == nil` / `v == nil`
  | err                      -- `err != nil`
  | test (src : String)      -- any other condition: decided by `Choices.flags` (source text kept for the tie)
  | neg (c : Cond)
  | both (a b : Cond)
  | either (a b : Cond)
  deriving DecidableEq, Repr

inductive Stmt
  | validate                                   -- `err := handle.Validate(…)`: err set nondeterministically
  | cloneDocs (dst src : Var)                  -- `dst = bsonkit.CloneList(src)` / `bsonkit.Clone(src)`
  | cloneCatalog (dst src : Var)               -- `dst := src.Clone()` on a *Catalog: new map, same collections
  | alias (dst : Var) (src : CExpr)            -- `dst := cat.Namespaces[h]` (NO Clone) / `dst := v`
  | newColl (dst : Var)                        -- `dst = mongokit.NewCollection(true)`
  | cloneColl (dst : Var) (src : CExpr)        -- `dst := src.Clone()`: fresh Set, fresh Index clones, shared docs
  | shallowColl (dst : Var) (src : CExpr)      -- a WRONG Clone: fresh struct, SAME Set and indexes (never
                                               -- emitted by the extractor; used by the negative theorems)
  | setNs (cat : Var) (h : HExpr) (v : Var)    -- `cat.Namespaces[h] = v`: IN PLACE on the map object of `cat`
  | setNsNew (cat : Var) (h : HExpr)           -- `cat.Namespaces[h] = mongokit.NewCollection(true)`
  | deleteNs (cat : Var) (h : HExpr)           -- `delete(cat.Namespaces, h)`: in place
  | callColl (recv : Var) (m : Method) (arg : Option Var)  -- `…, err = recv.M(…)`: partial mutation + ok|err
  | setCatalog (v : Var)                       -- `t.catalog = v`
  | setDirty                                   -- `t.dirty = true`
  | retErr                                     -- `return …, err`
  | retOk                                      -- `return …, nil` / `return`
  | fail                                       -- `return …, fmt.Errorf(…)`
  | brk | cont                                 -- `break` / `continue`
  | ite (c : Cond) (thn els : List Stmt)
  | loop (overNs : Bool) (body : List Stmt)    -- any `for`; overNs: ranges over `cat.Namespaces` (binds loopVar)
  | helper (name : String) (body : List Stmt)  -- inlined call of a private helper (`t.insert`, …): its
                                               -- `return`s end the helper, `err` flows to the caller
  | unknown (src : String)                     -- statement the extractor could not classify
  deriving Repr

abbrev Prog := List Stmt

/-- `if err != nil { return …, err }` -/
abbrev Stmt.ifErrReturn : Stmt := .ite .err [.retErr] []

/-! ### decidable equality (the deriving handler does not do nested inductives) -/

mutual
def Stmt.beq : Stmt → Stmt → Bool
  | .validate, .validate => true
  | .cloneDocs d s, .cloneDocs d' s' => d == d' && s == s'
  | .cloneCatalog d s, .cloneCatalog d' s' => d == d' && s == s'
  | .alias d s, .alias d' s' => d == d' && s == s'
  | .newColl d, .newColl d' => d == d'
  | .cloneColl d s, .cloneColl d' s' => d == d' && s == s'
  | .shallowColl d s, .shallowColl d' s' => d == d' && s == s'
  | .setNs c h v, .setNs c' h' v' => c == c' && h == h' && v == v'
  | .setNsNew c h, .setNsNew c' h' => c == c' && h == h'
  | .deleteNs c h, .deleteNs c' h' => c == c' && h == h'
  | .callColl r m a, .callColl r' m' a' => r == r' && m == m' && a == a'
  | .setCatalog v, .setCatalog v' => v == v'
  | .setDirty, .setDirty => true
  | .retErr, .retErr => true
  | .retOk, .retOk => true
  | .fail, .fail => true
  | .brk, .brk => true
  | .cont, .cont => true
  | .ite c t e, .ite c' t' e' => c == c' && Stmt.beqL t t' && Stmt.beqL e e'
  | .loop o b, .loop o' b' => o == o' && Stmt.beqL b b'
  | .helper n b, .helper n' b' => n == n' && Stmt.beqL b b'
  | .unknown s, .unknown s' => s == s'
  | _, _ => false
def Stmt.beqL : List Stmt → List Stmt → Bool
  | [], [] => true
  | p :: ps, q :: qs => Stmt.beq p q && Stmt.beqL ps qs
  | _, _ => false
end

/-- along the definition of `beq` / `beqL` (their functional induction principle): on equal constructors
    the components are compared; the two catch-all arms (`case23`, `case26`) return `false` -/
theorem Stmt.beq_sound : (∀ a b, Stmt.beq a b = true → a = b) ∧ (∀ a b, Stmt.beqL a b = true → a = b) := by
  apply Stmt.beq.mutual_induct_unfolding (motive_1 := fun a b r => r = true → a = b)
    (motive_2 := fun a b r => r = true → a = b)
  case case23 | case26 => intros; contradiction
  all_goals intros; simp_all only [Bool.and_eq_true, beq_iff_eq]

theorem Stmt.beq_eq : ∀ (a b : Stmt), Stmt.beq a b = true → a = b := Stmt.beq_sound.1
theorem Stmt.beqL_eq : ∀ (a b : List Stmt), Stmt.beqL a b = true → a = b := Stmt.beq_sound.2

mutual
theorem Stmt.beq_refl : ∀ (a : Stmt), Stmt.beq a a = true
  | .validate | .setDirty | .retErr | .retOk | .fail | .brk | .cont => by simp [Stmt.beq]
  | .cloneDocs .. | .cloneCatalog .. | .alias .. | .newColl .. | .cloneColl .. | .shallowColl .. | .setNs ..
  | .setNsNew ..
  | .deleteNs .. | .callColl .. | .setCatalog .. | .unknown .. => by simp [Stmt.beq]
  | .ite c t e => by simp [Stmt.beq, Stmt.beqL_refl t, Stmt.beqL_refl e]
  | .loop o l => by simp [Stmt.beq, Stmt.beqL_refl l]
  | .helper n l => by simp [Stmt.beq, Stmt.beqL_refl l]
theorem Stmt.beqL_refl : ∀ (a : List Stmt), Stmt.beqL a a = true
  | [] => by simp [Stmt.beqL]
  | p :: ps => by simp [Stmt.beqL, Stmt.beq_refl p, Stmt.beqL_refl ps]
end

instance : DecidableEq Stmt := fun a b =>
  decidable_of_iff (Stmt.beq a b = true) ⟨Stmt.beq_eq a b, fun h => h ▸ Stmt.beq_refl a⟩

/-! ## Write structure of the mongokit.Collection methods (data; DESIGN §4.1 `Gen/CollWrites`) -/

/-- the steps of a Collection method that matter to ownership and to C15, in source order -/
inductive CollStep
  | sort | filter | skip
  | cloneDocs                     -- `bsonkit.CloneList(list)` / `bsonkit.Clone(repl)`
  | extract                       -- `Extract(query)`: a fresh document
  | apply (target : String)       -- `Update(newList, …)` / `Apply(doc, …)`: IN PLACE on `target`
  | idCheck                       -- `sameValue(… "_id" …)`
  | putId (target : String)       -- `bsonkit.Put(target, "_id", …)`: in place on `target`
  | idxRemove | idxAdd            -- `index.Remove(doc)` / `index.Add(doc)` on an index of `c.Indexes`
  | idxBuild                      -- `index.Build(c.Documents.List)` on the index just created
  | setAdd | setReplace | setRemove   -- `c.Documents.Add/Replace/Remove`
  | mapPut | mapDelete            -- `c.Indexes[name] = index` / `delete(c.Indexes, name)`
  | forBegin (over : String) | forEnd
  | other (src : String)          -- a call on `c.` / `index.` the extractor does not know
  deriving DecidableEq, Repr

structure CollProg where
  name : String
  params : List String
  steps : List CollStep
  deriving DecidableEq, Repr

/-! ## Interpreter -/

structure TxnState where
  catalog : ObjId       -- t.catalog (a pointer)
  dirty : Bool          -- t.dirty
  deriving DecidableEq, Repr

/-- which of its own components a Collection method may write (justified per method by
    `Expected.collPrograms`, see `Expected.collFootprint_ok`) -/
structure Footprint where
  arg : Bool      -- writes the document passed in (`bsonkit.Put(doc, "_id", …)`)
  list : Bool     -- writes `c.Documents` (Set.Add/Replace/Remove)
  idx : Bool      -- writes existing indexes of `c.Indexes` (Index.Add/Remove)
  map : Bool      -- writes the `c.Indexes` map (add a fresh index / delete entries)
  deriving DecidableEq, Repr

def Method.footprint : Method → Footprint
  | .insert      => ⟨true,  true,  true,  false⟩
  | .replace     => ⟨true,  true,  true,  false⟩
  | .update      => ⟨false, true,  true,  false⟩
  | .upsert      => ⟨false, true,  true,  false⟩
  | .delete      => ⟨false, true,  true,  false⟩
  | .createIndex => ⟨false, false, false, true⟩
  | .dropIndex   => ⟨false, false, false, true⟩
  | .buildIndex  => ⟨false, false, true,  false⟩
  | .setRemove   => ⟨false, true,  false, false⟩

/-- does the method return an error?  (`Set.Remove` returns a bool that Clean ignores; it cannot stop half-way) -/
def Method.fallible : Method → Bool
  | .setRemove => false
  | _ => true

/-- one nondeterministic Collection-method execution: what it allocated, what it overwrote (any subset,
    any content — a PARTIAL mutation), and only then whether it reported success -/
structure Mut where
  newDocs : List Nat := []                    -- fresh DocNodes (CloneList / Extract / oplog event …)
  argVals : List Nat := []                    -- new contents of the argument's DocNodes (zip)
  list : Option (List ObjId) := none          -- `some l`: Set.List now holds these documents
  idx : List (String × List ObjId) := []      -- named existing indexes overwritten with these documents
  drop : List String := []                    -- names deleted from c.Indexes
  add : List (String × List ObjId) := []      -- fresh indexes built and put into c.Indexes
  ok : Bool := true                           -- err == nil ?
  deriving DecidableEq, Repr

structure Choices where
  muts : List Mut := []          -- one per callColl executed
  flags : List Bool := []        -- one per `validate` / opaque condition evaluated
  iters : List Nat := []         -- one per loop entered: number of iterations attempted
  handles : List HandleV := []   -- one per iteration of a loop over `cat.Namespaces`
  deriving Repr

structure Env where
  vars : List (Var × Option ObjId) := []   -- catalog / collection variables (none = nil pointer)
  docs : List (Var × List ObjId) := []     -- document (list) variables
  param : HandleV := 1
  loopVar : HandleV := 0
  err : Bool := false
  deriving Repr

structure St where
  heap : Heap
  txn : TxnState
  env : Env
  ch : Choices

inductive Sig | next | ret | brk | cont | panic
  deriving DecidableEq, Repr

def tcat : Var := "t.catalog"

namespace St
def var (st : St) (v : Var) : Option ObjId :=
  if v = tcat then some st.txn.catalog else (st.env.vars.lookup v).join
def bind (st : St) (v : Var) (o : Option ObjId) : St :=
  { st with env := { st.env with vars := (v, o) :: st.env.vars } }
def bindDocs (st : St) (v : Var) (os : List ObjId) : St :=
  { st with env := { st.env with docs := (v, os) :: st.env.docs } }
def docsOf (st : St) (v : Var) : List ObjId := (st.env.docs.lookup v).getD []
def hval (st : St) : HExpr → HandleV
  | .param => st.env.param
  | .oplog => 0
  | .loopVar => st.env.loopVar
def setErr (st : St) (b : Bool) : St := { st with env := { st.env with err := b } }
def popFlag (st : St) : Bool × St :=
  (st.ch.flags.headD false, { st with ch := { st.ch with flags := st.ch.flags.tail } })
def popMut (st : St) : Mut × St :=
  (st.ch.muts.headD {}, { st with ch := { st.ch with muts := st.ch.muts.tail } })
def popIter (st : St) : Nat × St :=
  (st.ch.iters.headD 0, { st with ch := { st.ch with iters := st.ch.iters.tail } })
def popHandle (st : St) : St :=
  { st with env := { st.env with loopVar := st.ch.handles.headD 0 },
            ch := { st.ch with handles := st.ch.handles.tail } }
/-- the object a catalog/collection variable points to -/
def obj (st : St) (v : Var) : Option (ObjId × Obj) :=
  match st.var v with
  | none => none
  | some o => (st.heap.get o).map (o, ·)
def evalC (st : St) : CExpr → Option ObjId
  | .var v => st.var v
  | .ns c h =>
    match st.obj c with
    | some (_, .cat ns) => ns.lookup (st.hval h)
    | _ => none
end St

def mapPut (ns : List (HandleV × ObjId)) (k : HandleV) (o : ObjId) : List (HandleV × ObjId) :=
  (k, o) :: ns.filter (fun p => p.1 != k)
def mapDel (ns : List (HandleV × ObjId)) (k : HandleV) : List (HandleV × ObjId) :=
  ns.filter (fun p => p.1 != k)

def Cond.eval : Cond → St → Bool × St
  | .isNil e, st => ((st.evalC e).isNone, st)
  | .err, st => (st.env.err, st)
  | .test _, st => st.popFlag
  | .neg c, st => let (b, st) := c.eval st; (!b, st)
  | .both a b, st => let (x, st) := a.eval st; let (y, st) := b.eval st; (x && y, st)
  | .either a b, st => let (x, st) := a.eval st; let (y, st) := b.eval st; (x || y, st)

def docVal (h : Heap) (o : ObjId) : Nat :=
  match h.get o with
  | some (.doc v) => v
  | _ => 0
def setList (h : Heap) (o : ObjId) : List ObjId :=
  match h.get o with
  | some (.set l) => l
  | _ => []
def idxEntries (h : Heap) (o : ObjId) : List ObjId :=
  match h.get o with
  | some (.idx l) => l
  | _ => []

/-- mongokit.NewCollection(true): empty Set, the `_id_` index, the collection struct -/
def newCollH (h : Heap) : Heap × ObjId :=
  let (h, s) := h.alloc (.set [])
  let (h, i) := h.alloc (.idx [])
  h.alloc (.coll s [("_id_", i)])

/-- Collection.Clone: `Documents.Clone()` (fresh Set, same documents), every index cloned (fresh btree,
    same documents), fresh Indexes map -/
def cloneCollH (h : Heap) (s : ObjId) (idxs : List (String × ObjId)) : Heap × ObjId :=
  let (h1, s') := h.alloc (.set (setList h s))
  let (h2, is') := h1.allocs (idxs.map fun p => Obj.idx (idxEntries h p.2))
  h2.alloc (.coll s' ((idxs.map (·.1)).zip is'))

/-- restrict a mutation to the method's footprint -/
def Mut.restrict (mu : Mut) (fp : Footprint) : Mut :=
  { mu with
    argVals := if fp.arg then mu.argVals else [],
    list := if fp.list then mu.list else none,
    idx := if fp.idx then mu.idx else [],
    drop := if fp.map then mu.drop else [],
    add := if fp.map then mu.add else [] }

/-- writes into the existing indexes named by the mutation -/
def idxWrites (bound : Nat) (idxs : List (String × ObjId)) (ws : List (String × List ObjId)) : List (ObjId × Obj) :=
  ws.filterMap fun w => (idxs.lookup w.1).map fun p => (p, Obj.idx (w.2.filter (· < bound)))

/-- first stages of a mutation: allocate the new DocNodes, write the argument's nodes, the Set, the
    existing indexes.  Document ids mentioned by the mutation are clipped to allocated ids. -/
def applyMutPre (h : Heap) (s : Nat) (idxs : List (String × Nat)) (args : List Nat) (mu : Mut) : Heap :=
  let h1 := (h.allocs (mu.newDocs.map Obj.doc)).1
  let h2 := h1.writes (args.zip (mu.argVals.map Obj.doc))
  let h3 := match mu.list with
    | some l => h2.write s (.set (l.filter (· < h1.size)))
    | none => h2
  h3.writes (idxWrites h1.size idxs mu.idx)

/-- apply a (restricted) mutation to the collection object `o = coll s idxs`; `args` = DocNodes of the
    argument.  Last stage: the Indexes map (fresh indexes added, names dropped) — in place on `o`. -/
def applyMut (h : Heap) (o s : Nat) (idxs : List (String × Nat)) (args : List Nat) (mu : Mut) : Heap :=
  let h4 := applyMutPre h s idxs args mu
  let bound := (h.allocs (mu.newDocs.map Obj.doc)).1.size
  let r5 := h4.allocs (mu.add.map fun a => Obj.idx (a.2.filter (· < bound)))
  if mu.drop.isEmpty && mu.add.isEmpty then r5.1
  else r5.1.write o (.coll s (idxs.filter (fun p => !mu.drop.contains p.1) ++ (mu.add.map (·.1)).zip r5.2))

def St.argDocs (st : St) : Option Var → List Nat
  | some a => st.docsOf a
  | none => []

/-- `…, err = recv.M(arg…)` on the collection object `o = coll s idxs`: the next `Mut` of the choices,
    restricted to the method's footprint, is applied; `err` is set from its outcome -/
def callCollSt (st : St) (o s : Nat) (idxs : List (String × Nat)) (m : Method) (arg : Option Var) : St :=
  let mu := st.popMut.1.restrict m.footprint
  let st' : St := { st.popMut.2 with heap := applyMut st.heap o s idxs (st.argDocs arg) mu }
  if m.fallible then st'.setErr (!mu.ok) else st'

/-- run `f` up to `n` times; `next`/`cont` go on, `brk` ends the loop normally, `ret`/`panic` propagate -/
def iterate (f : St → St × Sig) : Nat → St → St × Sig
  | 0, st => (st, .next)
  | n+1, st =>
    match f st with
    | (st', .next) | (st', .cont) => iterate f n st'
    | (st', .brk) => (st', .next)
    | (st', sg) => (st', sg)

mutual
def exec : Stmt → St → St × Sig
  | .validate, st => let (b, st) := st.popFlag; (st.setErr b, .next)
  | .cloneDocs dst src, st =>
    let (h, os) := st.heap.allocs ((st.docsOf src).map fun o => Obj.doc (docVal st.heap o))
    (({ st with heap := h }).bindDocs dst os, .next)
  | .cloneCatalog dst src, st =>
    match st.obj src with
    | some (_, .cat ns) =>
      let (h, o) := st.heap.alloc (.cat ns)
      (({ st with heap := h }).bind dst (some o), .next)
    | _ => (st, .panic)
  | .alias dst e, st => (st.bind dst (st.evalC e), .next)
  | .newColl dst, st =>
    let (h, o) := newCollH st.heap
    (({ st with heap := h }).bind dst (some o), .next)
  | .cloneColl dst e, st =>
    match (st.evalC e).bind fun o => st.heap.get o with
    | some (.coll s idxs) =>
      let (h, o) := cloneCollH st.heap s idxs
      (({ st with heap := h }).bind dst (some o), .next)
    | _ => (st, .panic)                                      -- nil dereference
  | .shallowColl dst e, st =>
    match (st.evalC e).bind fun o => st.heap.get o with
    | some (.coll s idxs) =>
      let (h, o) := st.heap.alloc (.coll s idxs)
      (({ st with heap := h }).bind dst (some o), .next)
    | _ => (st, .panic)
  | .setNs c hx v, st =>
    match st.obj c, st.var v with
    | some (o, .cat ns), some x =>
      -- (a variable only ever holds an allocated object; the test keeps the heap closed by construction)
      if x < st.heap.size then
        ({ st with heap := st.heap.write o (.cat (mapPut ns (st.hval hx) x)) }, .next)
      else (st, .panic)
    | some (_, .cat _), none => (st, .next)
    | _, _ => (st, .panic)
  | .setNsNew c hx, st =>
    match st.obj c with
    | some (o, .cat ns) =>
      let (h, x) := newCollH st.heap
      ({ st with heap := h.write o (.cat (mapPut ns (st.hval hx) x)) }, .next)
    | _ => (st, .panic)
  | .deleteNs c hx, st =>
    match st.obj c with
    | some (o, .cat ns) => ({ st with heap := st.heap.write o (.cat (mapDel ns (st.hval hx))) }, .next)
    | _ => (st, .panic)
  | .callColl recv m arg, st =>
    match st.obj recv with
    | some (o, .coll s idxs) => (callCollSt st o s idxs m arg, .next)
    | _ => (st, .panic)
  | .setCatalog v, st =>
    match st.var v with
    | some o =>
      if o < st.heap.size then ({ st with txn := { st.txn with catalog := o } }, .next) else (st, .panic)
    | none => (st, .panic)
  | .setDirty, st => ({ st with txn := { st.txn with dirty := true } }, .next)
  | .retErr, st => (st, .ret)
  | .retOk, st => (st.setErr false, .ret)
  | .fail, st => (st.setErr true, .ret)
  | .brk, st => (st, .brk)
  | .cont, st => (st, .cont)
  | .ite c t e, st =>
    let (b, st) := c.eval st
    if b then execL t st else execL e st
  | .loop overNs body, st =>
    let (n, st) := st.popIter
    iterate (fun st => execL body (if overNs then st.popHandle else st)) n st
  | .helper _ body, st =>
    match execL body st with
    | (st', .ret) => (st', .next)
    | r => r
  | .unknown _, st => (st, .next)
def execL : List Stmt → St → St × Sig
  | [], st => (st, .next)
  | s :: ss, st =>
    match exec s st with
    | (st', .next) => execL ss st'
    | r => r
end

inductive Outcome | ok | error | panic
  deriving DecidableEq, Repr

/-- the call's arguments: the handle and the caller's document lists (by parameter name) -/
structure Args where
  handle : HandleV := 1
  docs : List (Var × List ObjId) := []
  deriving Repr

def initSt (a : Args) (ch : Choices) (h : Heap) (t : TxnState) : St :=
  { heap := h, txn := t, ch := ch,
    env := { param := a.handle, docs := a.docs.map fun p => (p.1, p.2.filter (· < h.size)) } }

def outcomeOf (st : St) : Sig → Outcome
  | .ret => if st.env.err then .error else .ok
  | .panic => .panic
  | _ => .ok

/-- one call of a Transaction write method -/
def run (p : Prog) (a : Args) (ch : Choices) (ht : Heap × TxnState) : Heap × TxnState × Outcome :=
  let r := execL p (initSt a ch ht.1 ht.2)
  (r.1.heap, r.1.txn, outcomeOf r.1 r.2)

/-! ## The static ownership check

  Abstract state at a program point:
    * `owned`     catalog/collection variables bound IN THIS CALL by `cloneCatalog` / `newColl` / `cloneColl`
                  (never by a lookup or an alias) and not rebound since;
    * `ownedDocs` document variables bound in this call by `cloneDocs`;
    * `tcatOwned` `t.catalog` currently points to a catalog cloned in this call (Create);
    * `assigned`  `t.catalog` or `t.dirty` may have been assigned already;
    * `suspect`   receivers of the LAST Collection call, and catalogs they were installed in: they hold
                  a partial mutation iff `err != nil` right now;
    * `tainted`   variables that may hold the partial mutation of a FAILED call (or are of unknown origin);
    * `contents`  (cat, v): the object of `v` was installed into the catalog of `cat` by `setNs`.
  Rules (`check`): setNs/setNsNew/deleteNs need an owned catalog; callColl needs an owned receiver and must
  precede any assignment to `t`; an error return must not follow an assignment to `t`; `t.catalog = v`
  needs `v` neither tainted nor suspect; loops are checked at a stable head state.  With `strict`, a method
  that writes its document argument needs an owned (cloned) argument. -/

structure Abs where
  owned : List Var := []
  ownedDocs : List Var := []
  tcatOwned : Bool := false
  assigned : Bool := false
  suspect : List Var := []
  tainted : List Var := []
  contents : List (Var × Var) := []
  deriving DecidableEq, Repr

namespace Abs
def owns (a : Abs) (v : Var) : Bool := v != tcat && a.owned.contains v
def ownsDocs (a : Abs) (v : Var) : Bool := a.ownedDocs.contains v
def argOwned (a : Abs) : Option Var → Bool
  | some x => a.ownsDocs x
  | none => true
def ownsCat (a : Abs) (c : Var) : Bool := a.owns c || (c == tcat && a.tcatOwned)
/-- forget everything known about `v` (it is being rebound) -/
def forget (a : Abs) (v : Var) : Abs :=
  { a with owned := a.owned.filter (· != v), suspect := a.suspect.filter (· != v),
           tainted := a.tainted.filter (· != v),
           contents := a.contents.filter fun p => p.1 != v && p.2 != v }
def bindOwned (a : Abs) (v : Var) : Abs := let a := a.forget v; { a with owned := v :: a.owned }
def bindAlias (a : Abs) (v : Var) : Abs := let a := a.forget v; { a with tainted := v :: a.tainted }
/-- `err` is about to be overwritten: what was suspect can no longer be cleared by an error check -/
def commitSuspects (a : Abs) : Abs := { a with tainted := a.suspect ++ a.tainted, suspect := [] }
def join (a b : Abs) : Abs :=
  { owned := a.owned.filter (b.owned.contains ·), ownedDocs := a.ownedDocs.filter (b.ownedDocs.contains ·),
    tcatOwned := a.tcatOwned && b.tcatOwned,
    assigned := a.assigned || b.assigned, suspect := a.suspect ++ b.suspect,
    tainted := a.tainted ++ b.tainted, contents := a.contents ++ b.contents }
/-- `le a b`: `a` claims no more than `b` -/
def le (a b : Abs) : Bool :=
  a.owned.all (b.owned.contains ·) && a.ownedDocs.all (b.ownedDocs.contains ·) && (!a.tcatOwned || b.tcatOwned) && (!b.assigned || a.assigned) &&
  b.suspect.all (a.suspect.contains ·) && b.tainted.all (a.tainted.contains ·) &&
  b.contents.all (a.contents.contains ·)
end Abs

def joinO : Option Abs → Option Abs → Option Abs
  | none, b => b
  | a, none => a
  | some a, some b => some (a.join b)

def leO (a : Abs) : Option Abs → Bool
  | none => true
  | some b => a.le b

structure Res where
  ok : Bool := true
  next : Option Abs := none
  brk : Option Abs := none
  cont : Option Abs := none
  ret : Option Abs := none
  deriving DecidableEq, Repr

def Res.step (ok : Bool) (a : Abs) : Res := { ok := ok, next := some a }

/-- abstract states on the true / false edge of a condition -/
def Cond.refine : Cond → Abs → Abs × Abs
  | .err, a => (a, { a with suspect := [] })
  | .neg c, a => let r := c.refine a; (r.2, r.1)
  | .both x y, a => ((y.refine (x.refine a).1).1, a)
  | .either x y, a => (a, (y.refine (x.refine a).2).2)
  | _, a => (a, a)

mutual
def check (strict : Bool) : Stmt → Abs → Res
  | .validate, a => .step true a.commitSuspects
  | .cloneDocs dst _, a => .step true { a with ownedDocs := dst :: a.ownedDocs }
  | .cloneCatalog dst _, a => .step true (a.bindOwned dst)
  | .alias dst _, a => .step true (a.bindAlias dst)
  | .newColl dst, a => .step true (a.bindOwned dst)
  | .cloneColl dst _, a => .step true (a.bindOwned dst)
  | .shallowColl dst _, a => .step true (a.bindAlias dst)
  | .setNs c _ v, a =>
    .step (a.ownsCat c)
      { a with tainted := if a.tainted.contains v then c :: a.tainted else a.tainted,
               suspect := if a.suspect.contains v then c :: a.suspect else a.suspect,
               contents := (c, v) :: a.contents }
  | .setNsNew c _, a => .step (a.ownsCat c) a
  | .deleteNs c _, a => .step (a.ownsCat c) a
  | .callColl recv m arg, a =>
    let argOk := !strict || !m.footprint.arg || a.argOwned arg
    let a' := a.commitSuspects
    .step (a.owns recv && !a.assigned && argOk)
      (if m.fallible then { a' with suspect := recv :: (a.contents.filter (·.2 == recv)).map (·.1) } else a)
  | .setCatalog v, a =>
    .step (!a.tainted.contains v && !a.suspect.contains v)
      { a with assigned := true, tcatOwned := a.owns v }
  | .setDirty, a => .step true { a with assigned := true }
  | .retErr, a => { ok := !a.assigned, ret := some a }
  | .retOk, a => { ok := true, ret := some a.commitSuspects }
  | .fail, a => { ok := !a.assigned, ret := some a }
  | .brk, a => { brk := some a }
  | .cont, a => { cont := some a }
  | .ite c t e, a =>
    let (aT, aE) := c.refine a
    let r1 := checkL strict t aT
    let r2 := checkL strict e aE
    { ok := r1.ok && r2.ok, next := joinO r1.next r2.next, brk := joinO r1.brk r2.brk,
      cont := joinO r1.cont r2.cont, ret := joinO r1.ret r2.ret }
  | .loop _ body, a =>
    let r1 := checkL strict body a
    let head := (joinO (joinO (some a) r1.next) r1.cont).getD a
    let r2 := checkL strict body head
    { ok := r2.ok && leO head r2.next && leO head r2.cont,
      next := joinO (some head) r2.brk, ret := r2.ret }
  | .helper _ body, a =>
    let r := checkL strict body a
    { ok := r.ok, next := joinO r.next r.ret, brk := r.brk, cont := r.cont }
  | .unknown _, a => .step false a
def checkL (strict : Bool) : List Stmt → Abs → Res
  | [], a => .step true a
  | s :: ss, a =>
    let r1 := check strict s a
    match r1.next with
    | none => r1
    | some a1 =>
      let r2 := checkL strict ss a1
      { ok := r1.ok && r2.ok, next := r2.next, brk := joinO r1.brk r2.brk,
        cont := joinO r1.cont r2.cont, ret := joinO r1.ret r2.ret }
end

/-- the ownership check of a write method (containers; caller documents may be written) -/
def ownedOK (p : Prog) : Bool := (checkL false p {}).ok
/-- additionally: every document the call writes in place was cloned by the call -/
def argsOK (p : Prog) : Bool := (checkL true p {}).ok

end Lungo.Own
