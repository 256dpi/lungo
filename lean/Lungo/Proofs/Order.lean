/-
  Lungo.Proofs.Order — comparators `c : α → α → Ordering` and their laws.

  `Lawful c` bundles the four laws (reflexive, swap-antisymmetric, `<`-transitive, equal elements
  interchangeable on the left); `Laws aa ab ba bd ad` states them, and interchangeability on the
  right (which follows from the four, `Lawful.eq_congr_r`), at ONE triple `(a, b, d)`, on the five
  results `c a a`, `c a b`, `c b a`, `c b d`, `c a d`.  The pointwise form is what an
  induction over the nested inductive `V` can carry: the laws of a lexicographic comparator at
  `(a :: as, b :: bs, d :: ds)` use those of the components at `(a, b, d)` and `(as, bs, ds)` only.
-/
namespace Lungo.Ord

structure Laws (aa ab ba bd ad : Ordering) : Prop where
  refl : aa = .eq
  swap : ba = ab.swap
  lt_trans : ab = .lt → bd = .lt → ad = .lt
  congr_l : ab = .eq → ad = bd
  congr_r : bd = .eq → ab = ad

theorem Laws.le_trans {aa ab ba bd ad : Ordering} (L : Laws aa ab ba bd ad)
    (h1 : ab ≠ .gt) (h2 : bd ≠ .gt) : ad ≠ .gt := by
  cases hab : ab with
  | gt => exact absurd hab h1
  | eq => rw [L.congr_l hab]; exact h2
  | lt =>
    cases hbd : bd with
    | gt => exact absurd hbd h2
    | lt => rw [L.lt_trans hab hbd]; decide
    | eq => rw [← L.congr_r hbd, hab]; decide

theorem Laws.lt_of_lt_of_le {aa ab ba bd ad : Ordering} (L : Laws aa ab ba bd ad)
    (h1 : ab = .lt) (h2 : bd ≠ .gt) : ad = .lt := by
  cases hbd : bd with
  | gt => exact absurd hbd h2
  | lt => exact L.lt_trans h1 hbd
  | eq => rw [← L.congr_r hbd]; exact h1

abbrev LawsAt {α : Type _} (c : α → α → Ordering) (a b d : α) : Prop :=
  Laws (c a a) (c a b) (c b a) (c b d) (c a d)

/-- A lawful comparator: a total preorder presented as a three-way comparison. -/
structure Lawful {α : Type _} (c : α → α → Ordering) : Prop where
  refl : ∀ a, c a a = .eq
  swap : ∀ a b, c b a = (c a b).swap
  lt_trans : ∀ a b d, c a b = .lt → c b d = .lt → c a d = .lt
  eq_congr : ∀ a a' b, c a a' = .eq → c a b = c a' b

section lawful
variable {α : Type _} {c : α → α → Ordering}

theorem Lawful.eq_congr_r (h : Lawful c) (a b b' : α) (e : c b b' = .eq) : c a b = c a b' := by
  rw [h.swap b a, h.swap b' a, h.eq_congr b b' a e]

theorem Lawful.at (h : Lawful c) (a b d : α) : LawsAt c a b d :=
  ⟨h.refl a, h.swap a b, h.lt_trans a b d, h.eq_congr a b d, h.eq_congr_r a b d⟩

theorem Lawful.of_at (h : ∀ a b d, LawsAt c a b d) : Lawful c :=
  ⟨fun a => (h a a a).refl, fun a b => (h a b a).swap, fun a b d => (h a b d).lt_trans,
   fun a a' b => (h a a' b).congr_l⟩

theorem Lawful.eq_symm (h : Lawful c) {a b : α} (e : c a b = .eq) : c b a = .eq := by
  rw [h.swap a b, e]; rfl

theorem Lawful.gt_iff (h : Lawful c) {a b : α} : c a b = .gt ↔ c b a = .lt := by
  rw [h.swap a b]; exact Ordering.swap_eq_lt.symm

/-- `≤`-transitivity (the `Std.TransCmp` form). -/
theorem Lawful.le_trans (h : Lawful c) {a b d : α} (h1 : c a b ≠ .gt) (h2 : c b d ≠ .gt) :
    c a d ≠ .gt :=
  (h.at a b d).le_trans h1 h2

theorem Lawful.eq_trans (h : Lawful c) {a b d : α} (h1 : c a b = .eq) (h2 : c b d = .eq) :
    c a d = .eq := by
  rw [h.eq_congr a b d h1]; exact h2

theorem Lawful.orientedCmp (h : Lawful c) : Std.OrientedCmp c :=
  ⟨fun {a b} => h.swap b a⟩

theorem Lawful.transCmp (h : Lawful c) : Std.TransCmp c :=
  { h.orientedCmp with
    isLE_trans := fun {a b d} h1 h2 => by
      rw [Ordering.isLE_iff_ne_gt] at *
      exact h.le_trans h1 h2 }

end lawful

section ofLt
variable {α : Type _} [LT α] [DecidableLT α] [DecidableEq α]

theorem Lawful.of_lt (irrefl : ∀ a : α, ¬a < a) (trans : ∀ {a b d : α}, a < b → b < d → a < d)
    (tri : ∀ a b : α, a < b ∨ a = b ∨ b < a) : Lawful fun a b : α => compareOfLessAndEq a b := by
  have lt : ∀ {a b : α}, a < b → compareOfLessAndEq a b = .lt := fun h => if_pos h
  have eq : ∀ a : α, compareOfLessAndEq a a = .eq := fun a => by
    rw [compareOfLessAndEq, if_neg (irrefl a), if_pos rfl]
  have gt : ∀ {a b : α}, b < a → compareOfLessAndEq a b = .gt := fun {a b} h => by
    rw [compareOfLessAndEq, if_neg fun h' => irrefl _ (trans h h'),
      if_neg fun (e : a = b) => irrefl b (e ▸ h)]
  -- by trichotomy the three results characterise the three cases
  have lt_inv : ∀ {a b : α}, compareOfLessAndEq a b = .lt → a < b := fun {a b} h => by
    rcases tri a b with h' | rfl | h'
    · exact h'
    · rw [eq] at h; cases h
    · rw [gt h'] at h; cases h
  have eq_inv : ∀ {a b : α}, compareOfLessAndEq a b = .eq → a = b := fun {a b} h => by
    rcases tri a b with h' | rfl | h'
    · rw [lt h'] at h; cases h
    · rfl
    · rw [gt h'] at h; cases h
  refine ⟨eq, fun a b => ?_, fun a b d hab hbd => lt (trans (lt_inv hab) (lt_inv hbd)),
    fun a a' b e => by cases eq_inv e; rfl⟩
  show compareOfLessAndEq b a = (compareOfLessAndEq a b).swap
  rcases tri a b with h | rfl | h
  · rw [lt h, gt h]; rfl
  · rw [eq]; rfl
  · rw [gt h, lt h]; rfl

/-- The idiom `if a > b then greater else if a < b then less else rest` of the Go comparison
    functions: compare, then `rest`. -/
theorem ite_gt_lt (irrefl : ∀ a : α, ¬a < a) (trans : ∀ {a b d : α}, a < b → b < d → a < d)
    (tri : ∀ a b : α, a < b ∨ a = b ∨ b < a) (a b : α) (rest : Ordering) :
    (if b < a then .gt else if a < b then .lt else rest) = (compareOfLessAndEq a b).then rest := by
  have L := Lawful.of_lt irrefl trans tri
  rcases tri a b with h | rfl | h
  · rw [if_neg fun h' => irrefl _ (trans h h'), if_pos h, compareOfLessAndEq, if_pos h]; rfl
  · rw [if_neg (irrefl a), if_neg (irrefl a), L.refl a]; rfl
  · rw [if_pos h, L.swap b a, compareOfLessAndEq, if_pos h]; rfl

end ofLt

def compareOn {α β : Type _} (f : α → β) (c : β → β → Ordering) : α → α → Ordering :=
  fun x y => c (f x) (f y)

theorem Lawful.compareOn {α β : Type _} {c : β → β → Ordering} (h : Lawful c) (f : α → β) :
    Lawful (compareOn f c) :=
  ⟨fun a => h.refl (f a), fun a b => h.swap (f a) (f b),
   fun a b d => h.lt_trans (f a) (f b) (f d), fun a a' b => h.eq_congr (f a) (f a') (f b)⟩

/-- Lexicographic composition preserves the laws (pointwise form).  The laws of the second
    component are needed only where the first component compares equal: `<` between the
    composites is `<` in the first component, or equality there and `<` in the second. -/
theorem Laws.then_of {aa ab ba bd ad aa' ab' ba' bd' ad' : Ordering}
    (h1 : Laws aa ab ba bd ad) (refl' : aa' = .eq) (swap' : ab = .eq → ba' = ab'.swap)
    (h2 : ab = .eq → bd = .eq → Laws aa' ab' ba' bd' ad') :
    Laws (aa.then aa') (ab.then ab') (ba.then ba') (bd.then bd') (ad.then ad') := by
  obtain ⟨r1, s1, t1, l1, c1⟩ := h1
  refine ⟨by rw [r1, refl']; rfl, ?_, ?_, ?_, ?_⟩
  · subst s1
    cases ab with
    | eq => exact swap' rfl
    | lt => rfl
    | gt => rfl
  · intro hab hbd
    rw [Ordering.then_eq_lt] at hab hbd ⊢
    rcases hab with h | ⟨h, h'⟩
    · refine Or.inl ?_
      rcases hbd with k | ⟨k, _⟩
      · exact t1 h k
      · rw [← c1 k]; exact h
    · rcases hbd with k | ⟨k, k'⟩
      · exact Or.inl (by rw [l1 h]; exact k)
      · exact Or.inr ⟨by rw [l1 h]; exact k, (h2 h k).lt_trans h' k'⟩
  · intro hab
    obtain ⟨h, h'⟩ := Ordering.then_eq_eq.mp hab
    rw [l1 h]
    cases hbd : bd with
    | eq => exact (h2 h hbd).congr_l h'
    | lt => rfl
    | gt => rfl
  · intro hbd
    obtain ⟨k, k'⟩ := Ordering.then_eq_eq.mp hbd
    rw [← c1 k]
    cases hab : ab with
    | eq => exact (h2 hab k).congr_r k'
    | lt => rfl
    | gt => rfl

theorem Laws.then {aa ab ba bd ad aa' ab' ba' bd' ad' : Ordering}
    (h1 : Laws aa ab ba bd ad) (h2 : Laws aa' ab' ba' bd' ad') :
    Laws (aa.then aa') (ab.then ab') (ba.then ba') (bd.then bd') (ad.then ad') :=
  h1.then_of h2.refl (fun _ => h2.swap) fun _ _ => h2

def lex {α : Type _} (c1 c2 : α → α → Ordering) : α → α → Ordering :=
  fun x y => (c1 x y).then (c2 x y)

theorem Lawful.lex {α : Type _} {c1 c2 : α → α → Ordering} (h1 : Lawful c1) (h2 : Lawful c2) :
    Lawful (lex c1 c2) :=
  Lawful.of_at fun a b d => (h1.at a b d).then (h2.at a b d)

theorem Lawful.congr {α : Type _} {c c' : α → α → Ordering} (h : Lawful c')
    (e : ∀ a b, c a b = c' a b) : Lawful c := by
  rw [show c = c' from funext fun a => funext (e a)]; exact h

def lexList {α : Type _} (c : α → α → Ordering) : List α → List α → Ordering
  | [], [] => .eq
  | [], _ :: _ => .lt
  | _ :: _, [] => .gt
  | a :: as, b :: bs => (c a b).then (lexList c as bs)

section lexList
variable {α : Type _} {c : α → α → Ordering}

theorem lexList_refl : ∀ {as : List α}, (∀ a ∈ as, c a a = .eq) → lexList c as as = .eq
  | [], _ => rfl
  | a :: as, h => by
      rw [lexList, h a (List.mem_cons_self ..),
        lexList_refl fun x hx => h x (List.mem_cons_of_mem _ hx)]
      rfl

theorem lexList_swap : ∀ {as : List α} (bs : List α), (∀ a ∈ as, ∀ b, c b a = (c a b).swap) →
    lexList c bs as = (lexList c as bs).swap
  | [], [], _ => rfl
  | [], _ :: _, _ => rfl
  | _ :: _, [], _ => rfl
  | a :: as, b :: bs, h => by
      rw [lexList, lexList, Ordering.swap_then, ← h a (List.mem_cons_self ..),
        ← lexList_swap bs fun x hx => h x (List.mem_cons_of_mem _ hx)]

/-- The laws of `lexList c` at a triple of lists need those of `c` only at the triples of their
    members (this is the form the induction over nested values can supply). -/
theorem lexList_at (hr : ∀ a, c a a = .eq) (hs : ∀ a b, c b a = (c a b).swap) :
    ∀ as bs ds : List α, (∀ a ∈ as, ∀ b ∈ bs, ∀ d ∈ ds, LawsAt c a b d) →
      LawsAt (lexList c) as bs ds
  | a :: as, b :: bs, d :: ds, h =>
      (h a (List.mem_cons_self ..) b (List.mem_cons_self ..) d (List.mem_cons_self ..)).then
        (lexList_at hr hs as bs ds fun x hx y hy z hz =>
          h x (List.mem_cons_of_mem _ hx) y (List.mem_cons_of_mem _ hy) z
            (List.mem_cons_of_mem _ hz))
  | [], [], [], _ | [], [], _ :: _, _ | [], _ :: _, [], _ | [], _ :: _, _ :: _, _
  | _ :: _, [], [], _ | _ :: _, [], _ :: _, _ | _ :: _, _ :: _, [], _ => by
      refine ⟨lexList_refl fun a _ => hr a, lexList_swap _ fun a _ => hs a, ?_, ?_, ?_⟩ <;>
        simp [lexList]

theorem Lawful.lexList (h : Lawful c) : Lawful (lexList c) :=
  Lawful.of_at fun as bs ds => lexList_at h.refl h.swap as bs ds fun a _ b _ d _ => h.at a b d

end lexList

theorem Lawful.nat : Lawful fun a b : Nat => compareOfLessAndEq a b :=
  Lawful.of_lt Nat.lt_irrefl Nat.lt_trans Nat.lt_trichotomy

/-- "Rank first": if `c` is decided by a numeric rank whenever the ranks differ, then `c` is the
    rank order followed by `c` itself, and the laws at a triple follow from the laws at triples
    of equal rank. -/
theorem LawsAt.of_rank {α : Type _} (r : α → Nat) (c : α → α → Ordering)
    (hlt : ∀ x y, r x < r y → c x y = .lt) (hgt : ∀ x y, r y < r x → c x y = .gt)
    (a b d : α)
    (hrefl : c a a = .eq)
    (h2 : r a = r b → c b a = (c a b).swap)
    (h3 : r a = r b → r b = r d → LawsAt c a b d) : LawsAt c a b d := by
  have key : ∀ x y, c x y = (compareOfLessAndEq (r x) (r y)).then (c x y) := fun x y => by
    rcases Nat.lt_trichotomy (r x) (r y) with h | h | h
    · rw [hlt x y h, compareOfLessAndEq, if_pos h]; rfl
    · rw [h, Lawful.nat.refl]; rfl
    · rw [hgt x y h, Lawful.nat.swap, compareOfLessAndEq, if_pos h]; rfl
  have rank_eq : ∀ {x y}, compareOfLessAndEq (r x) (r y) = .eq → r x = r y :=
    fun h => Nat.compare_eq_eq.mp h
  rw [LawsAt, key a a, key a b, key b a, key b d, key a d]
  exact (Lawful.nat.at (r a) (r b) (r d)).then_of hrefl (fun h => h2 (rank_eq h))
    fun h h' => h3 (rank_eq h) (rank_eq h')

end Lungo.Ord
