/-
  Lungo.Proofs.OplogLaws — the change log as a part of the catalog (C08, C19): catalog get/set algebra,
  appending events (`Transaction.append`), the relation `Ext` ("the oplog grew by these events and nothing
  else happened to it"), and the catalog-level write helpers of transaction.go, each of which replaces one
  namespace and then appends events.
-/
import Lungo.Proofs.CatStep
namespace Lungo

/-- the timestamp `(T, I)` of an event: the value at `_id.ts`, if it is a timestamp. -/
def eventTs (d : Doc) : Option (Nat × Nat) :=
  match getP d tsPath with
  | .ts t i => some (t, i)
  | _ => none

/-- the events of a transaction's catalog, oldest first -/
def Catalog.oplog (c : Catalog) : List SDoc := ((c.get? oplogHandle).getD (newColl false)).docs

def Txn.oplog (t : Txn) : List SDoc := t.catalog.oplog

theorem find?_map_fst {β γ} (l : List (Handle × β)) (g : Handle × β → Handle × γ) (hg : ∀ a, (g a).1 = a.1) (h' : Handle) :
    (l.map g).find? (fun a => a.1 == h') = (l.find? (fun a => a.1 == h')).map g := by
  rw [List.find?_map]
  congr
  funext a
  simp [hg]

theorem find?_filter_fst {β} (l : List (Handle × β)) (p : Handle → Bool) (h' : Handle) :
    (l.filter fun a => p a.1).find? (fun a => a.1 == h') = if p h' then l.find? (fun a => a.1 == h') else none := by
  rw [List.find?_filter]
  have : (fun a : Handle × β => decide (p a.1 = true ∧ (a.1 == h') = true)) = fun a => (p h' && a.1 == h') := by
    funext a
    by_cases e : a.1 = h' <;> simp [e]
  rw [this]
  cases p h' <;> simp

theorem find?_eq_none_of_any {β} {l : List (Handle × β)} {h : Handle} (hany : ¬ l.any (fun a => a.1 == h) = true) :
    l.find? (fun a => a.1 == h) = none :=
  List.find?_eq_none.mpr fun a ha hah => hany (List.any_eq_true.mpr ⟨a, ha, hah⟩)

theorem Catalog.get?_set (c : Catalog) (h h' : Handle) (x : Coll) :
    (c.set h x).get? h' = if h' = h then some x else c.get? h' := by
  unfold Catalog.set Catalog.get?
  split
  · rename_i hany
    rw [find?_map_fst _ _ (fun ⟨_, _⟩ => by simp only; split <;> rfl)]
    cases hf : c.namespaces.find? (fun a => a.1 == h') with
    | none =>
      have : h' ≠ h := by
        rintro rfl
        obtain ⟨a, ha, hah⟩ := List.any_eq_true.mp hany
        exact List.find?_eq_none.mp hf a ha hah
      simp [this]
    | some a =>
      have : a.1 = h' := by simpa using List.find?_some hf
      by_cases e : h' = h <;> simp [this, e]
  · rename_i hany
    rw [List.find?_append]
    by_cases e : h' = h
    · subst e; simp [find?_eq_none_of_any hany]
    · have : (h == h') = false := by simpa using Ne.symm e
      cases c.namespaces.find? (fun a => a.1 == h') <;> simp [e, this]

theorem Catalog.get?_set_self (c : Catalog) (h : Handle) (x : Coll) : (c.set h x).get? h = some x := by
  rw [Catalog.get?_set, if_pos rfl]

theorem Catalog.get?_set_other (c : Catalog) (h h' : Handle) (x : Coll) (hne : h' ≠ h) :
    (c.set h x).get? h' = c.get? h' := by
  rw [Catalog.get?_set, if_neg hne]

/-- `get?` and `oplog` do not look at the clock (`appendOplog` sets it after the `set`) -/
theorem Catalog.get?_clock (c : Catalog) (k : Nat) (h : Handle) : ({ c with clock := k } : Catalog).get? h = c.get? h := rfl

theorem Catalog.set_clock (c : Catalog) (h : Handle) (x : Coll) : (c.set h x).clock = c.clock := by
  unfold Catalog.set
  split <;> rfl

theorem Catalog.oplog_set (c : Catalog) (x : Coll) : (c.set oplogHandle x).oplog = x.docs := by
  unfold Catalog.oplog
  rw [Catalog.get?_set_self]; rfl

theorem Catalog.oplog_clock (c : Catalog) (k : Nat) : ({ c with clock := k } : Catalog).oplog = c.oplog := rfl

theorem Catalog.oplog_set_other (c : Catalog) (h : Handle) (x : Coll) (hne : h ≠ oplogHandle) :
    (c.set h x).oplog = c.oplog := by
  unfold Catalog.oplog
  rw [Catalog.get?_set_other _ _ _ _ (Ne.symm hne)]

/-! `Catalog.set` and `SSys.setSess` are the same replace-or-append on an association list. -/

/-- what the list holds after the key `k` was set to `v` -/
theorem mem_assocPut {κ α : Type} [BEq κ] [LawfulBEq κ] {l : List (κ × α)} {k k' : κ} {v v' : α}
    (hm : (k', v') ∈ (if l.any (·.1 == k) then l.map (fun (a, x) => if a == k then (a, v) else (a, x))
      else l ++ [(k, v)])) : (k' = k ∧ v' = v) ∨ ((k', v') ∈ l ∧ k' ≠ k) := by
  split at hm
  · obtain ⟨⟨a, b⟩, hab, e⟩ := List.mem_map.mp hm
    simp only at e
    split at e
    · rename_i hak
      obtain ⟨rfl, rfl⟩ := Prod.mk.inj e
      exact .inl ⟨beq_iff_eq.mp hak, rfl⟩
    · rename_i hak
      obtain ⟨rfl, rfl⟩ := Prod.mk.inj e
      exact .inr ⟨hab, by simpa using hak⟩
  · rename_i hany
    rcases List.mem_append.mp hm with hm | hm
    · exact .inr ⟨hm, fun e => hany (List.any_eq_true.mpr ⟨_, hm, by simp [e]⟩)⟩
    · exact .inl (Prod.mk.inj (List.mem_singleton.mp hm))

theorem Catalog.mem_set {cat : Catalog} {h h' : Handle} {coll c' : Coll}
    (hm : (h', c') ∈ (cat.set h coll).namespaces) :
    (h' = h ∧ c' = coll) ∨ ((h', c') ∈ cat.namespaces ∧ h' ≠ h) := by
  rw [Catalog.set, apply_ite Catalog.namespaces] at hm
  exact mem_assocPut hm

theorem Catalog.get?_mem {c : Catalog} {h : Handle} {x : Coll} (hg : c.get? h = some x) : (h, x) ∈ c.namespaces := by
  unfold Catalog.get? at hg
  obtain ⟨a, hf, rfl⟩ := Option.map_eq_some_iff.mp hg
  have : a.1 = h := by simpa using List.find?_some hf
  exact this ▸ List.mem_of_find?_eq_some hf

/-- with pairwise distinct handles, `get?` finds every entry of the catalog -/
theorem Catalog.get?_of_mem {c : Catalog} (hnd : c.namespaces.Pairwise fun a b => a.1 ≠ b.1) {h : Handle} {x : Coll}
    (hm : (h, x) ∈ c.namespaces) : c.get? h = some x := by
  unfold Catalog.get?
  generalize c.namespaces = l at hnd hm
  induction l with
  | nil => cases hm
  | cons a r ih =>
    rw [List.pairwise_cons] at hnd
    rcases List.mem_cons.mp hm with rfl | hm'
    · simp
    · have : (a.1 == h) = false := by simpa using hnd.1 _ hm'
      simp only [List.find?_cons, this]
      exact ih hnd.2 hm'

theorem Catalog.get?_none_of_not_mem (cat : Catalog) (h' : Handle) (hn : ∀ a ∈ cat.namespaces, a.1 ≠ h') :
    cat.get? h' = none := by
  unfold Catalog.get?
  rw [List.find?_eq_none.mpr fun a ha => by simpa using hn a ha]
  rfl

theorem ensureNs_of_get {cat : Catalog} {h : Handle} {c : Coll} (hg : cat.get? h = some c) : ensureNs cat h = c := by
  simp [ensureNs, hg]

theorem ensureNs_of_none {cat : Catalog} {h : Handle} (hg : cat.get? h = none) : ensureNs cat h = newColl true := by
  simp [ensureNs, hg]

/-- the event documents produced by appending `es` when the clock stands at `clock` -/
def evDocs : Nat → List EvSpec → List Doc
  | _, [] => []
  | clock, e :: r => oplogEvent (clock + 1) e.h e.op e.doc e.changes :: evDocs (clock + 1) r

theorem evDocs_length (k : Nat) (es : List EvSpec) : (evDocs k es).length = es.length := by
  induction es generalizing k with
  | nil => rfl
  | cons e r ih => simp [evDocs, ih]

theorem evDocs_append (k : Nat) (es fs : List EvSpec) :
    evDocs k (es ++ fs) = evDocs k es ++ evDocs (k + es.length) fs := by
  induction es generalizing k with
  | nil => rfl
  | cons e r ih => simp only [List.cons_append, evDocs, ih, List.length_cons, Nat.add_assoc, Nat.add_comm 1]

theorem appendOplog_get_other (c : Catalog) (nu : Nu) (h : Handle) (op : String) (doc : Option Doc)
    (ch : Option (List (String × V))) (h' : Handle) (hne : h' ≠ oplogHandle) :
    (appendOplog c nu h op doc ch).1.get? h' = c.get? h' :=
  (Catalog.get?_clock ..).trans (Catalog.get?_set_other _ _ _ _ hne)

theorem appendOplog_oplog (c : Catalog) (nu : Nu) (h : Handle) (op : String) (doc : Option Doc)
    (ch : Option (List (String × V))) :
    (appendOplog c nu h op doc ch).1.oplog
      = c.oplog ++ [{ id := nu.nextId, doc := oplogEvent (c.clock + 1) h op doc ch }] :=
  (Catalog.oplog_clock ..).trans (Catalog.oplog_set _ _)

theorem appendOplog_clock (c : Catalog) (nu : Nu) (h : Handle) (op : String) (doc : Option Doc)
    (ch : Option (List (String × V))) : (appendOplog c nu h op doc ch).1.clock = c.clock + 1 := rfl

theorem appendOplog_nu (c : Catalog) (nu : Nu) (h : Handle) (op : String) (doc : Option Doc)
    (ch : Option (List (String × V))) :
    (appendOplog c nu h op doc ch).2 = { nu with nextId := nu.nextId + 1 } := rfl

theorem appendEvs_cons (cn : Catalog × Nu) (e : EvSpec) (es : List EvSpec) :
    appendEvs cn (e :: es) = appendEvs (appendEv cn e) es := rfl

theorem appendEvs_get_other (cn : Catalog × Nu) (es : List EvSpec) (h' : Handle) (hne : h' ≠ oplogHandle) :
    (appendEvs cn es).1.get? h' = cn.1.get? h' := by
  induction es generalizing cn with
  | nil => rfl
  | cons e r ih => rw [appendEvs_cons, ih]; exact appendOplog_get_other _ _ _ _ _ _ _ hne

/-- every event takes one document identity; the generated ids are not touched -/
theorem appendEvs_nu (cn : Catalog × Nu) (es : List EvSpec) :
    (appendEvs cn es).2 = { cn.2 with nextId := cn.2.nextId + es.length } := by
  induction es generalizing cn with
  | nil => rfl
  | cons e r ih => rw [appendEvs_cons, ih, List.length_cons, Nat.add_comm r.length, ← Nat.add_assoc]; rfl

/-- `cat'` is `cat` with the events `es` appended to the oplog (clock advanced accordingly) -/
structure Ext (cat cat' : Catalog) (es : List EvSpec) : Prop where
  oplog : cat'.oplog.map (·.doc) = cat.oplog.map (·.doc) ++ evDocs cat.clock es
  clock : cat'.clock = cat.clock + es.length
  plain : OplogPlain cat → OplogPlain cat'

theorem Ext.refl (cat : Catalog) : Ext cat cat [] := ⟨by simp [evDocs], rfl, id⟩

theorem Ext.trans {a b c : Catalog} {es fs : List EvSpec} (h1 : Ext a b es) (h2 : Ext b c fs) : Ext a c (es ++ fs) :=
  ⟨by rw [h2.oplog, h1.oplog, evDocs_append, h1.clock, List.append_assoc],
   by rw [h2.clock, h1.clock, List.length_append, Nat.add_assoc],
   fun h => h2.plain (h1.plain h)⟩

theorem Ext.set (cat : Catalog) (h : Handle) (x : Coll) (hne : h ≠ oplogHandle) : Ext cat (cat.set h x) [] := by
  refine ⟨by simp [Catalog.oplog_set_other _ _ _ hne, evDocs], Catalog.set_clock .., ?_⟩
  intro hp hc hm ho
  rcases Catalog.mem_set (h' := hc.1) (c' := hc.2) hm with ⟨e, _⟩ | ⟨hm', _⟩
  · exact absurd (e ▸ ho) hne
  · exact hp hc hm' ho

theorem Ext.append (c : Catalog) (nu : Nu) (h : Handle) (op : String) (doc : Option Doc)
    (ch : Option (List (String × V))) : Ext c (appendOplog c nu h op doc ch).1 [⟨h, op, doc, ch⟩] := by
  refine ⟨by simp [appendOplog_oplog, evDocs], rfl, ?_⟩
  intro hp hc hm ho
  -- the oplog collection keeps the indexes it had (none, if it is created here)
  rcases Catalog.mem_set (cat := c) (h := oplogHandle) (h' := hc.1) (c' := hc.2) hm with ⟨_, e⟩ | ⟨hm', _⟩
  · rw [e]
    cases hg : c.get? oplogHandle with
    | none => simp [newColl]
    | some x => simpa [hg] using hp _ (Catalog.get?_mem hg) rfl
  · exact hp hc hm' ho

theorem Ext.appendEvs (cn : Catalog × Nu) (es : List EvSpec) : Ext cn.1 (appendEvs cn es).1 es := by
  induction es generalizing cn with
  | nil => exact Ext.refl _
  | cons e r ih => exact (Ext.append ..).trans (ih (appendEv cn e))

/-- removing namespaces other than the oplog leaves the oplog alone -/
theorem Ext.filter (cat : Catalog) (keep : Handle × Coll → Bool) (hk : ∀ a, a.1 = oplogHandle → keep a = true) :
    Ext cat { cat with namespaces := cat.namespaces.filter keep } [] := by
  refine ⟨?_, rfl, fun hp hc hm ho => hp hc (List.mem_filter.mp hm).1 ho⟩
  have : (cat.namespaces.filter keep).find? (fun a => a.1 == oplogHandle) = cat.namespaces.find? (fun a => a.1 == oplogHandle) := by
    rw [List.find?_filter]
    congr
    funext a
    by_cases e : a.1 = oplogHandle <;> simp [e, hk]
  simp [Catalog.oplog, Catalog.get?, this, evDocs]

/-! ### The catalog-level writes

  Every write helper of transaction.go replaces one namespace `h` (never the oplog) by a new collection and then
  appends events: its catalog is `(appendEvs (cat.set h coll, nu) es).1`. -/

theorem Ext.write (cat : Catalog) (h : Handle) (coll : Coll) (nu : Nu) (es : List EvSpec) (hno : h ≠ oplogHandle) :
    Ext cat (Lungo.appendEvs (cat.set h coll, nu) es).1 es :=
  (Ext.set cat h coll hno).trans (Ext.appendEvs (cat.set h coll, nu) es)

theorem write_get? (cat : Catalog) (h : Handle) (coll : Coll) (nu : Nu) (es : List EvSpec) (h' : Handle)
    (hne : h' ≠ oplogHandle) :
    (appendEvs (cat.set h coll, nu) es).1.get? h' = if h' = h then some coll else cat.get? h' := by
  rw [appendEvs_get_other _ _ _ hne, Catalog.get?_set]

theorem insertOne_ok {sch : SchemaEval} {cat cat' : Catalog} {h : Handle} {d d' : Doc} {nu nu' : Nu}
    (hr : insertOne sch cat h d nu = .ok (cat', d', nu')) :
    ∃ coll sd nu1, (ensureNs cat h).insert sch d nu = .ok (coll, sd, nu1) ∧ d' = sd.doc ∧
      cat' = (appendEvs (cat.set h coll, nu1) [⟨h, "insert", some sd.doc, none⟩]).1 ∧
      nu' = (appendEvs (cat.set h coll, nu1) [⟨h, "insert", some sd.doc, none⟩]).2 := by
  unfold insertOne at hr
  split at hr
  · cases hr
  · rename_i coll sd nu1 hins
    simp only [Except.ok.injEq, Prod.mk.injEq] at hr
    obtain ⟨rfl, rfl, rfl⟩ := hr
    exact ⟨coll, sd, nu1, hins, rfl, rfl, rfl⟩

theorem deleteOp_ok {sch : SchemaEval} {cat cat' : Catalog} {h : Handle} {q : Doc} {sort : Option Doc}
    {skip limit : Int} {nu nu' : Nu} {res : TResult}
    (hr : deleteOp sch cat h q sort skip limit nu = .ok (cat', res, nu')) :
    ∃ coll list, (ensureNs cat h).delete sch q sort skip limit = .ok (coll, list) ∧ res.matched = list.map (·.doc) ∧
      cat' = (appendEvs (cat.set h coll, nu) (list.map fun sd => ⟨h, "delete", some sd.doc, none⟩)).1 ∧
      nu' = (appendEvs (cat.set h coll, nu) (list.map fun sd => ⟨h, "delete", some sd.doc, none⟩)).2 := by
  unfold deleteOp at hr
  simp only at hr
  split at hr
  · cases hr
  · rename_i coll list hdel
    rw [foldl_appendOplog list (fun sd => (⟨h, "delete", some sd.doc, none⟩ : EvSpec))] at hr
    simp only [Except.ok.injEq, Prod.mk.injEq] at hr
    obtain ⟨rfl, rfl, rfl⟩ := hr
    exact ⟨coll, list, hdel, rfl, rfl, rfl⟩

/-- ν after a delete: one identity per delete event, i.e. per removed document -/
theorem deleteOp_nu {sch : SchemaEval} {cat cat' : Catalog} {h : Handle} {q : Doc} {sort : Option Doc}
    {skip limit : Int} {nu nu' : Nu} {res : TResult}
    (hr : deleteOp sch cat h q sort skip limit nu = .ok (cat', res, nu')) :
    nu' = { nu with nextId := nu.nextId + res.matched.length } := by
  obtain ⟨coll, list, _, hm, _, rfl⟩ := deleteOp_ok hr
  rw [appendEvs_nu, hm, List.length_map, List.length_map]

end Lungo
