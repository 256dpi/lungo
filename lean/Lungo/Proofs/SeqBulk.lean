/-
  Lungo.Proofs.SeqBulk — C01: bulkWrite. The operations in order, each with the semantics of the
  single calls (`insertOne_abs`, `replaceOp_abs`, `updateOp_abs`, `deleteOp_abs`); ordered stops at
  the first failing one, unordered continues; the reply's counts are sums over the successful
  operations, upserted ids and errors are keyed by operation index.
-/
import Lungo.Proofs.SeqReplace
namespace Lungo.SeqRef
open Lungo Lungo.Spec

variable {sch : SchemaEval}

/-- one operation of `Transaction.Bulk` -/
def opStep (ac : ACtx) (cat : Catalog) (h : Handle) (op : Operation) (nu : Nu) : Res (Catalog × TResult × Nu) :=
  match op.opcode with
  | .insert => match insertOne ac.sch cat h op.document nu with
    | .error e => .error e
    | .ok (c, d, n) => .ok (c, { modified := [d] }, n)
  | .replace => replaceOp ac cat h op.filter op.document op.sort op.upsert nu
  | .update => updateOp ac cat h op.filter op.document op.sort op.upsert op.skip op.limit op.arrayFilters nu
  | .delete => deleteOp ac.sch cat h op.filter op.sort op.skip op.limit nu

theorem bulk_go_cons (ac : ACtx) (h : Handle) (ordered : Bool) (cat : Catalog) (nu : Nu) (acc : List TResult)
    (ch : Nat) (op : Operation) (r : List Operation) :
    Txn.bulk.go ac h ordered cat nu acc ch (op :: r) =
      match opStep ac cat h op nu with
      | .error e =>
        if ordered then (cat, nu, acc ++ [{ error := some e }], ch)
        else Txn.bulk.go ac h ordered cat nu (acc ++ [{ error := some e }]) ch r
      | .ok (cat', tr, nu') =>
        Txn.bulk.go ac h ordered cat' nu' (acc ++ [tr])
          (ch + (tr.modified.length + (if tr.upserted.isSome then 1 else if op.opcode == .delete then tr.matched.length else 0))) r := by
  rw [Txn.bulk.go]
  rfl

theorem deleteOp_oids {cat cat' : Catalog} {h : Handle} {q : Doc} {sort : Option Doc} {skip limit : Int}
    {nu nu' : Nu} {r : TResult} (e : deleteOp sch cat h q sort skip limit nu = .ok (cat', r, nu')) :
    nu'.oids = nu.oids := by rw [deleteOp_nu e]

/-- what one bulk operation needs to know about its arguments, on the Spec's state -/
def BulkOneOk (ac : ACtx) (db : SeqDB) (h : Handle) (oids : List V) : BulkModel → Prop
  | .insertOne d => DocOk d ∧ ∀ o ∈ oids, o.i64Ok = true
  | .replaceOne q r up => ReplaceOk ac db h q r up oids
  | .updateOne q u up fs => UpdateOk ac db h q u up fs oids
  | .updateMany q u up fs => UpdateOk ac db h q u up fs oids
  | .deleteOne q => QueryOk ac.sch db h q
  | .deleteMany q => QueryOk ac.sch db h q

/-- one bulk operation = the Spec's `bulkOne` -/
theorem bulkOne_abs {ac : ACtx} {cat : Catalog} {nu : Nu} (g : Good ac.sch true cat nu.nextId)
    (ok : OkDB (abs cat)) {h : Handle} (hne : h ≠ oplogHandle) (m : BulkModel)
    (hw : BulkOneOk ac (abs cat) h nu.oids m) :
    (opStep ac cat h m.toOp nu).map (fun r => (abs r.1, r.2.1, r.2.2.oids)) =
      bulkOne ac (abs cat) h nu.oids m := by
  cases m with
  | insertOne d =>
    simp only [opStep, BulkModel.toOp, bulkOne]
    rw [← insertOne_abs g.1 hne ok hw.1 hw.2]
    cases insertOne ac.sch cat h d nu <;> rfl
  | replaceOne q r up => exact replaceOp_abs g ok hne q r none up hw
  | updateOne q u up fs | updateMany q u up fs => exact updateOp_abs g ok hne q u none up 0 _ fs hw
  | deleteOne q | deleteMany q =>
    simp only [opStep, BulkModel.toOp, bulkOne]
    rw [← deleteOp_abs g ok hne q none 0 _ nu hw]
    cases hd : deleteOp ac.sch cat h q none 0 _ nu with
    | error e => rfl
    | ok r => simp only [Except.map, deleteOp_oids hd]

theorem opStep_good {ac : ACtx} {cat cat' : Catalog} {h : Handle} {op : Operation} {nu nu' : Nu} {tr : TResult}
    (g : Good ac.sch true cat nu.nextId) (hne : h ≠ oplogHandle)
    (e : opStep ac cat h op nu = .ok (cat', tr, nu')) : Good ac.sch true cat' nu'.nextId := by
  refine (CatStep.good (ac := ac) (strict := False) (a := (cat, nu)) (b := (cat', nu')) ?_ g).1
  unfold opStep at e
  split at e
  · split at e
    · cases e
    · rename_i hi
      cases e
      exact insertOne_steps (fun _ => hne) hi
  · exact replaceOp_steps (fun _ => hne) e
  · exact updateOp_steps (fun _ => hne) e
  · exact deleteOp_steps (fun _ => hne) e

theorem changesOf_eq (m : BulkModel) (tr : TResult) :
    changesOf m tr =
      tr.modified.length + (if tr.upserted.isSome then 1 else if m.toOp.opcode == .delete then tr.matched.length else 0) := by
  cases m <;> rfl

/-- along a bulk, judged on the Spec's states: every operation is well-formed where it is executed -/
def BulkOk (ac : ACtx) (h : Handle) (ordered : Bool) : SeqDB → List V → List BulkModel → Prop
  | _, _, [] => True
  | db, oids, m :: r =>
    OkDB db ∧ BulkOneOk ac db h oids m ∧
      (match bulkOne ac db h oids m with
       | .error _ => ordered = false → BulkOk ac h ordered db oids r
       | .ok (db', _, oids') => BulkOk ac h ordered db' oids' r)

/-- the loop of `Transaction.Bulk` = the Spec's `bulkAll` -/
theorem bulk_go_abs {ac : ACtx} {h : Handle} (ordered : Bool) (hne : h ≠ oplogHandle) :
    ∀ (ms : List BulkModel) (cat : Catalog) (nu : Nu) (acc : List TResult) (ch : Nat),
      Good ac.sch true cat nu.nextId → BulkOk ac h ordered (abs cat) nu.oids ms →
      bulkAll ac h ordered (abs cat) nu.oids acc ch ms =
        (abs (Txn.bulk.go ac h ordered cat nu acc ch (ms.map BulkModel.toOp)).1,
         (Txn.bulk.go ac h ordered cat nu acc ch (ms.map BulkModel.toOp)).2.2.1,
         (Txn.bulk.go ac h ordered cat nu acc ch (ms.map BulkModel.toOp)).2.2.2)
  | [], cat, nu, acc, ch, _, _ => by simp [Txn.bulk.go, bulkAll]
  | m :: r, cat, nu, acc, ch, g, hb => by
    obtain ⟨ok, hw, hrest⟩ := hb
    have hone := bulkOne_abs g ok hne m hw
    rw [List.map_cons, bulk_go_cons, bulkAll]
    rw [← hone] at hrest ⊢
    cases hs : opStep ac cat h m.toOp nu with
    | error e =>
      rw [hs] at hrest
      simp only [Except.map] at hrest ⊢
      cases ordered with
      | true => simp
      | false =>
        simp only [Bool.false_eq_true, ↓reduceIte]
        exact bulk_go_abs false hne r cat nu _ ch g (hrest rfl)
    | ok res =>
      obtain ⟨cat', tr, nu'⟩ := res
      rw [hs] at hrest
      simp only [Except.map] at hrest ⊢
      rw [changesOf_eq]
      exact bulk_go_abs ordered hne r cat' nu' _ _ (opStep_good g hne hs) hrest

/-! The reply: the implementation's left fold = the Spec's sums. -/

/-- the step of the fold in `runCall (.bulkWrite …)` -/
def mstep (acc : Reply) (x : Nat × TResult × Operation) : Reply :=
  match acc with
  | .bulk ins mat mod del ups uids errs =>
    match x.2.1.error with
    | some e => .bulk ins mat mod del ups uids (errs ++ [(x.1, e)])
    | none =>
      match x.2.2.opcode with
      | .insert => .bulk (ins + x.2.1.modified.length) mat mod del ups uids errs
      | .delete => .bulk ins mat mod (del + x.2.1.matched.length) ups uids errs
      | _ =>
        match x.2.1.upserted with
        | some d => .bulk ins (mat + x.2.1.matched.length) (mod + x.2.1.modified.length) del (ups + 1) (uids ++ [(x.1, Get d "_id")]) errs
        | none => .bulk ins (mat + x.2.1.matched.length) (mod + x.2.1.modified.length) del ups uids errs
  | other => other

theorem foldl_add_init : ∀ (l : List Nat) (n : Nat), l.foldl (· + ·) n = n + l.foldl (· + ·) 0
  | [], n => by simp
  | a :: r, n => by
    simp only [List.foldl_cons]
    rw [foldl_add_init r (n + a), foldl_add_init r (0 + a)]
    omega

theorem sumBy_cons {α} (f : α → Nat) (x : α) (l : List α) : sumBy f (x :: l) = f x + sumBy f l := by
  simp only [sumBy, List.map_cons, List.foldl_cons]
  rw [foldl_add_init]
  omega

theorem sumBy_nil {α} (f : α → Nat) : sumBy f ([] : List α) = 0 := rfl

/-! what the head of a list adds to a sum, a count or a `filterMap` over the elements satisfying `p` -/
section
variable {α : Type} (p : α → Bool) (x : α) (l : List α)

theorem sumBy_filter_cons (f : α → Nat) :
    sumBy f ((x :: l).filter p) = (if p x then f x else 0) + sumBy f (l.filter p) := by
  rw [List.filter_cons]; split <;> simp [sumBy_cons]

theorem length_filter_cons :
    ((x :: l).filter p).length = (if p x then 1 else 0) + (l.filter p).length := by
  rw [List.filter_cons]; split <;> simp <;> omega

theorem filterMap_filter_cons {β} (g : α → Option β) :
    ((x :: l).filter p).filterMap g = (if p x then (g x).toList else []) ++ (l.filter p).filterMap g := by
  rw [List.filter_cons]; split <;> simp [List.filterMap_cons]
  cases g x <;> rfl

end

abbrev Row := Nat × TResult × BulkModel

def rowGood (x : Row) : Bool := x.2.1.error.isNone
def rowWrite (x : Row) : Bool := !BulkModel.isInsert x.2.2 && !BulkModel.isDelete x.2.2

/-- the Spec's reply over the rows (operation index, result, operation) -/
def tallyRows (rows : List Row) : Reply :=
  let good := rows.filter fun (_, r, _) => r.error.isNone
  let writes := good.filter fun (_, _, m) => !BulkModel.isInsert m && !BulkModel.isDelete m
  .bulk
    (sumBy (fun (_, r, _) => r.modified.length) (good.filter fun (_, _, m) => BulkModel.isInsert m))
    (sumBy (fun (_, r, _) => r.matched.length) writes)
    (sumBy (fun (_, r, _) => r.modified.length) writes)
    (sumBy (fun (_, r, _) => r.matched.length) (good.filter fun (_, _, m) => BulkModel.isDelete m))
    (writes.filter fun (_, r, _) => r.upserted.isSome).length
    (writes.filterMap fun (i, r, _) => r.upserted.map fun d => (i, Get d "_id"))
    (rows.filterMap fun (i, r, _) => r.error.map fun e => (i, e))

theorem bulkReply_eq (ms : List BulkModel) (rs : List TResult) :
    bulkReply ms rs = tallyRows ((List.range rs.length).zip (rs.zip ms)) := rfl

/-- a reply with the counts of `b` added to those of `a` (lists appended) -/
def addReply : Reply → Reply → Reply
  | .bulk a b c d e u er, .bulk a' b' c' d' e' u' er' =>
    .bulk (a + a') (b + b') (c + c') (d + d') (e + e') (u ++ u') (er ++ er')
  | x, _ => x

/-- every component of the tally is a sum (a count, a list) over the rows: the head's share is added -/
theorem tally_cons (x : Row) (rows : List Row) :
    tallyRows (x :: rows) = addReply (tallyRows [x]) (tallyRows rows) := by
  simp only [tallyRows, List.filter_filter, sumBy_filter_cons, length_filter_cons, filterMap_filter_cons,
    List.filterMap_cons, List.filter_nil, List.filterMap_nil, sumBy_nil, List.length_nil, addReply, Nat.add_zero,
    List.append_nil]
  cases x.2.1.error <;> rfl

/-- one step of the implementation's fold adds the share of its row: by the cases of `mstep` -/
theorem mstep_row (a b c d e : Nat) (u : List (Nat × V)) (er : List (Nat × Err)) (x : Row) :
    mstep (.bulk a b c d e u er) (x.1, x.2.1, x.2.2.toOp) =
      addReply (.bulk a b c d e u er) (tallyRows [x]) := by
  obtain ⟨i, r, m⟩ := x
  simp only [tallyRows, List.filter_filter, sumBy_filter_cons, length_filter_cons, filterMap_filter_cons,
    List.filterMap_cons, List.filter_nil, List.filterMap_nil, sumBy_nil, List.length_nil, addReply, Nat.add_zero,
    List.append_nil, mstep]
  cases he : r.error with
  | some e' => simp
  | none =>
    cases m with
    | insertOne d => simp [BulkModel.isInsert, BulkModel.isDelete, BulkModel.toOp]
    | deleteOne q | deleteMany q => simp [BulkModel.isInsert, BulkModel.isDelete, BulkModel.toOp]
    | replaceOne q rp up | updateOne q up fs | updateMany q up fs =>
      cases hu : r.upserted <;> simp [BulkModel.isInsert, BulkModel.isDelete, BulkModel.toOp]

theorem tally_isBulk (rows : List Row) : ∃ a b c d e u er, tallyRows rows = .bulk a b c d e u er :=
  ⟨_, _, _, _, _, _, _, rfl⟩

theorem addReply_assoc (a b c d e : Nat) (u : List (Nat × V)) (er : List (Nat × Err)) (x y : Reply)
    (hx : ∃ a b c d e u er, x = .bulk a b c d e u er) (hy : ∃ a b c d e u er, y = .bulk a b c d e u er) :
    addReply (addReply (.bulk a b c d e u er) x) y = addReply (.bulk a b c d e u er) (addReply x y) := by
  obtain ⟨a1, b1, c1, d1, e1, u1, er1, rfl⟩ := hx
  obtain ⟨a2, b2, c2, d2, e2, u2, er2, rfl⟩ := hy
  simp only [addReply, Nat.add_assoc, List.append_assoc]

theorem fold_tally : ∀ (rows : List Row) (a b c d e : Nat) (u : List (Nat × V)) (er : List (Nat × Err)),
    rows.foldl (fun acc x => mstep acc (x.1, x.2.1, x.2.2.toOp)) (.bulk a b c d e u er) =
      addReply (.bulk a b c d e u er) (tallyRows rows)
  | [], a, b, c, d, e, u, er => by
    simp [tallyRows, addReply, sumBy_nil]
  | x :: rows, a, b, c, d, e, u, er => by
    obtain ⟨a1, b1, c1, d1, e1, u1, er1, h1⟩ := tally_isBulk [x]
    rw [List.foldl_cons, mstep_row, tally_cons x rows, ← addReply_assoc _ _ _ _ _ _ _ _ _ ⟨_, _, _, _, _, _, _, h1⟩
      (tally_isBulk rows), h1]
    exact fold_tally rows ..

/-- the reply of `runCall (.bulkWrite …)` is the Spec's `bulkReply` -/
theorem bulkReply_fold (ms : List BulkModel) (rs : List TResult) :
    ((List.range rs.length).zip (rs.zip (ms.map BulkModel.toOp))).foldl mstep (.bulk 0 0 0 0 0 [] []) =
      bulkReply ms rs := by
  have hz : (List.range rs.length).zip (rs.zip (ms.map BulkModel.toOp)) =
      ((List.range rs.length).zip (rs.zip ms)).map (fun x => (x.1, x.2.1, x.2.2.toOp)) := by
    rw [List.zip_map_right, List.zip_map_right]
    rfl
  rw [hz, List.foldl_map, fold_tally, bulkReply_eq]
  obtain ⟨a2, b2, c2, d2, e2, u2, er2, h2⟩ := tally_isBulk ((List.range rs.length).zip (rs.zip ms))
  rw [h2]
  simp [addReply]

/-- along a bulk, from the state in which the first operation runs (the collection is created first) -/
def BulkCallOk (ac : ACtx) (db : SeqDB) (h : Handle) (ordered : Bool) (oids : List V) (ms : List BulkModel) : Prop :=
  BulkOk ac h ordered (if (db.get? h).isSome then db else db.put h SColl.new) oids ms

theorem any_bad_find (models : List BulkModel) :
    (models.find? (fun m => match m with
        | .replaceOne _ r _ => (validateReplacement r).toBool == false
        | _ => false)).isSome = models.any badReplacement := by
  have hf : (fun m : BulkModel => match m with
        | .replaceOne _ r _ => (validateReplacement r).toBool == false
        | _ => false) = badReplacement := by
    funext m; cases m <;> rfl
  rw [hf, Bool.eq_iff_iff, List.find?_isSome, List.any_eq_true]

theorem refines_bulkWrite (s : Sys) (h : Handle) (models : List BulkModel) (ordered : Bool) (oids : List V)
    (g : Good sch true s.catalog s.nextId)
    (hw : BulkCallOk (acOf sch) (abs s.catalog) h ordered oids models) :
    Refines sch s (.bulkWrite h models ordered) oids := by
  unfold Refines Sys.step
  simp only [Spec.step, runCall]
  rw [← any_bad_find]
  generalize List.find? _ models = bad
  cases bad with
  | some m => rfl
  | none =>
    simp only [Option.isSome_none, Bool.false_eq_true, ↓reduceIte, Txn.bulk]
    cases hwr : writable h true with
    | error e => rfl
    | ok _ =>
      have hne := writable_ne_oplog hwr
      simp only
      unfold BulkCallOk at hw
      rw [← base_abs s.catalog hne] at hw
      have gb := g.base (h := h) hne
      have hgo := bulk_go_abs (ac := acOf sch) ordered hne models _ (s.nu oids) [] 0 gb hw
      rw [base_abs s.catalog hne] at hgo
      simp only [Sys.nu] at hgo ⊢
      rw [hgo]
      simp only [Except.map]
      congr 2
      · exact (commit_keepIf s _ _ _).symm
      · exact (bulkReply_fold models _).symm

end Lungo.SeqRef
