/-
  Abort, Delete, tracked Close/Claim and Suspend/Resume on the GridFS model.
-/
import Lungo.Proofs.GridFSUpload
namespace Lungo.GridFS
open Lungo.Spec

theorem filter_ne_append_mkDocs (C0 : List ChunkDoc) (id : Nat) (D : List Bytes) (k : Nat)
    (hC0 : ∀ d ∈ C0, d.file ≠ id) :
    (C0 ++ mkDocs id k D).filter (fun d => d.file != id) = C0 :=
  filter_append_eq_left (fun d hd => bne_iff_ne.mpr (hC0 d hd)) fun d hd => by
    rw [(mem_mkDocs id D k d hd).1, bne_self_eq_false]

section
variable {C0 : List ChunkDoc} {F0 : List FileDoc} {Mb : List Marker} {id c B : Nat} {tracked : Bool}
  {st : Store} {s : UploadStream} {P : Bytes} {D : List Bytes}

/-- Abort removes every chunk and the marker of the upload and nothing else -/
theorem abort_ok (env : Env C0 Mb id c B) (inv : UpInv C0 F0 Mb id c B tracked st s P D) :
    ∃ st' s', s.abort st = (st', s', none) ∧ st'.chunks = C0 ∧ st'.files = F0 ∧ st'.markers = Mb := by
  -- Abort skips the delete when no chunk was flushed: then `D = []` and there is none to delete
  have hdel : (if s.chunks > 0 then st.deleteChunks s.id else st) = { st with chunks := C0 } := by
    split
    · rw [Store.deleteChunks, inv.chunks, inv.sid, filter_ne_append_mkDocs C0 id D 0 env.hC0]
    · have : D = [] := List.eq_nil_of_length_eq_zero (by rw [← inv.cnt]; omega)
      have : st.chunks = C0 := by rw [inv.chunks, this]; exact List.append_nil _
      rw [← this]
  rw [UploadStream.abort, inv.closed, if_neg Bool.false_ne_true, hdel]
  rcases inv.mark with ⟨hm, hM⟩ | ⟨_, mid, hm, hM, hne⟩
  · rw [hm]
    exact ⟨_, _, rfl, rfl, inv.files, hM⟩
  · rw [hm]
    refine ⟨_, _, rfl, rfl, inv.files, ?_⟩
    show st.markers.filter _ = Mb
    rw [hM]
    exact filter_key_append_last Marker.id ⟨mid, id, .uploading, 0, c⟩ hne

/-- the store between two segments of a tracked upload of `content` -/
structure Susp (C0 : List ChunkDoc) (F0 : List FileDoc) (Mb : List Marker) (id c : Nat) (content : Bytes)
    (st : Store) (D : List Bytes) : Prop where
  chunks : st.chunks = C0 ++ mkDocs id 0 D
  files : st.files = F0
  full : AllFull c D
  pre : D.flatten <+: content
  mark : (st.markers = Mb ∧ D = []) ∨
         (∃ mid, st.markers = Mb ++ [⟨mid, id, .uploading, 0, c⟩] ∧ ∀ m ∈ Mb, m.id ≠ mid)
  fresh : ∀ m ∈ st.markers, m.id < st.nextId

/-- what is persisted of an open tracked stream is a suspended upload (the buffer is not persisted) -/
theorem UpInv.toSusp {content : Bytes} (inv : UpInv C0 F0 Mb id c B true st s P D) (hD : AllFull c D)
    (hP : P <+: content) : Susp C0 F0 Mb id c content st D :=
  { chunks := inv.chunks, files := inv.files, full := hD
    pre := List.IsPrefix.trans ⟨s.buffer, inv.flat⟩ hP
    mark := by
      rcases inv.mark with ⟨h1, h2⟩ | ⟨_, mid, _, h2, h3⟩
      · exact Or.inl ⟨h2, inv.trk rfl h1⟩
      · exact Or.inr ⟨mid, h2, h3⟩
    fresh := inv.fresh }

theorem suspend_ok (env : Env C0 Mb id c B) {content : Bytes} (inv : UpInv C0 F0 Mb id c B true st s P D)
    (hD : AllFull c D) (hP : P <+: content) :
    ∃ st' s' n D', s.suspend st = (st', s', n, none) ∧ Susp C0 F0 Mb id c content st' D' := by
  rw [UploadStream.suspend, inv.str, inv.closed]
  simp only [Bool.true_eq_false, Bool.false_eq_true, if_false]
  by_cases hb : s.buffer.length > 0
  · obtain ⟨st2, s2, D2, hu, inv2, hD2, _⟩ := upload_false_ok env inv hD
    simp only [if_pos hb, hu]
    exact ⟨_, _, _, D2, rfl, inv2.toSusp hD2 hP⟩
  · simp only [if_neg hb]
    exact ⟨_, _, _, D, rfl, inv.toSusp hD hP⟩

theorem resumeScan_mkDocs (id c : Nat) : ∀ (D : List Bytes) (k len : Nat), AllFull c D →
    resumeScan c (mkDocs id k D) k len = some (k + D.length, len + D.flatten.length)
  | [], _, _, _ => rfl
  | a :: D, k, len, h => by
    have ha : a.length = c := h a (List.mem_cons_self ..)
    rw [mkDocs, resumeScan, if_neg (by simp [ha]),
      resumeScan_mkDocs id c D (k + 1) (len + a.length) fun x hx => h x (List.mem_cons_of_mem _ hx),
      List.length_cons, List.flatten_cons, List.length_append]
    simp only [Nat.add_assoc, Nat.add_comm 1]

/-- A new stream + Resume (or nothing to resume) continues exactly after the persisted chunks: the scan
    accepts them (numbered from 0, all full) and adopts their count and total length. -/
theorem resumeOrFresh_ok (env : Env C0 Mb id c B) {content : Bytes} {st : Store} {D : List Bytes}
    (h : Susp C0 F0 Mb id c content st D) :
    ∃ s, resumeOrFresh st id c B = .ok (s, D.flatten.length) ∧
      UpInv C0 F0 Mb id c B true st s D.flatten D ∧ s.buffer = [] := by
  unfold resumeOrFresh UploadStream.resume UploadStream.new
  simp only [Bool.true_eq_false, if_false, Option.isSome_none, Bool.false_eq_true, List.length_nil,
    Nat.lt_irrefl, or_self, gt_iff_lt]
  rcases h.mark with ⟨hm, hD⟩ | ⟨mid, hm, hne⟩
  · subst hD
    rw [findMarker_none_of st id (hm ▸ env.hMb)]
    exact ⟨_, rfl, UpInv.init st (h.chunks.trans (List.append_nil _)) h.files hm h.fresh, rfl⟩
  · rw [findMarker_last (m := ⟨mid, id, .uploading, 0, c⟩) hm env.hMb]
    simp only [ne_eq, not_true_eq_false, if_false]
    rw [chunksOfFile_eq st C0 id D h.chunks env.hC0, resumeScan_mkDocs id c D 0 0 h.full]
    simp only [Nat.zero_add]
    refine ⟨_, rfl, ?_, rfl⟩
    exact { closed := rfl, sid := rfl, sc := rfl, sB := rfl, str := rfl
            chunks := h.chunks, files := h.files, flat := List.append_nil _, cnt := rfl, len := rfl
            mark := Or.inr ⟨rfl, mid, rfl, hm, hne⟩, fresh := h.fresh
            trk := fun _ h0 => nomatch h0 }

theorem pieces_flatten : ∀ (ns : List Nat) (l : Bytes), (pieces l ns).flatten = l.take ns.sum
  | [], l => by rw [List.sum_nil, List.take_zero]; rfl
  | n :: ns, l => by rw [pieces, List.flatten_cons, pieces_flatten ns, List.sum_cons, List.take_add]

/-- the non-final segments keep the store in a suspended state -/
theorem trackedSegments_ok (env : Env C0 Mb id c B) (content : Bytes) : ∀ (plan : List (List Nat)) (st : Store)
    (D : List Bytes), Susp C0 F0 Mb id c content st D →
    ∃ st' D', trackedSegments content id c B st plan = (st', none) ∧ Susp C0 F0 Mb id c content st' D'
  | [], st, D, h => ⟨st, D, rfl, h⟩
  | sizes :: plan, st, D, h => by
    obtain ⟨s, hr, inv, hb⟩ := resumeOrFresh_ok (B := B) env h
    obtain ⟨st2, s2, hw, D2, inv2, hD2, _⟩ := writeAll_ok env (pieces (content.drop D.flatten.length) sizes) st s _
      (inv.ready env h.full hb)
    -- the segment has written a piece of what follows the persisted prefix
    obtain ⟨t, ht⟩ := h.pre
    have hpre : D.flatten ++ (pieces (content.drop D.flatten.length) sizes).flatten <+: content := by
      rw [pieces_flatten, ← ht, List.drop_left]
      exact (List.prefix_append_right_inj _).mpr (List.take_prefix _ _)
    obtain ⟨st3, s3, n, D3, hs, h3⟩ := suspend_ok env inv2 hD2 hpre
    rw [trackedSegments, hr]
    simp only [hw, hs]
    exact trackedSegments_ok env content plan st3 D3 h3

theorem replaceMarker_last {st : Store} {Mb : List Marker} {m : Marker} (m' : Marker) (hm : st.markers = Mb ++ [m])
    (hid : m'.id = m.id) (h : ∀ x ∈ Mb, x.id ≠ m.id) :
    st.replaceMarker m' = ({ st with markers := Mb ++ [m'] }, true) := by
  have hany : st.markers.any (fun x => x.id == m'.id) = true := by rw [hm, hid]; simp
  rw [Store.replaceMarker, if_pos hany, hm, hid,
    map_ite_append_last m' (fun x hx => beq_eq_false_iff_ne.mpr (h x hx)) (beq_self_eq_true _)]

/-- Close on a tracked bucket flushes the rest and sets the marker to `uploaded` with the final length -/
theorem close_tracked_ok (env : Env C0 Mb id c B) (inv : UpInv C0 F0 Mb id c B true st s P D) (hD : AllFull c D) :
    ∃ st' s' mid, s.close st = (st', s', none) ∧ st'.chunks = C0 ++ mkDocs id 0 (chunksOf c P) ∧
      st'.files = F0 ∧ st'.markers = Mb ++ [⟨mid, id, .uploaded, P.length, c⟩] ∧ ∀ m ∈ Mb, m.id ≠ mid := by
  obtain ⟨st2, s2, hf, inv2, hb, hmk⟩ := close_flush env inv hD
  obtain ⟨_, mid, hm, hM, hne⟩ := inv2.marker_isSome (hmk rfl)
  rw [UploadStream.close, inv.closed, if_neg Bool.false_ne_true]
  simp only [hf, inv2.str, if_true, hm,
    replaceMarker_last ⟨mid, s2.id, .uploaded, s2.length, s2.chunkSize⟩ hM rfl hne]
  exact ⟨_, _, mid, rfl, inv2.chunks, inv2.files, by rw [inv2.sid, inv2.sc, inv2.length_eq hb], hne⟩

/-- ClaimUpload turns the `uploaded` marker into the file record -/
theorem claimUpload_ok {st : Store} {Mb : List Marker} {mid id L c : Nat}
    (hm : st.markers = Mb ++ [⟨mid, id, .uploaded, L, c⟩]) (hMb : ∀ m ∈ Mb, m.file ≠ id) (hne : ∀ m ∈ Mb, m.id ≠ mid)
    (hF : ∀ f ∈ st.files, f.id ≠ id) :
    claimUpload st true id = ({ st with files := st.files ++ [⟨id, L, c⟩], markers := Mb }, none) := by
  rw [claimUpload]
  simp only [Bool.true_eq_false, if_false, findMarker_last (m := ⟨mid, id, .uploaded, L, c⟩) hm hMb, ne_eq,
    not_true_eq_false, Store.insertFile, findFile_none_of st id hF, Option.isSome_none, Bool.false_eq_true,
    Store.deleteMarkerById, hm]
  rw [show List.filter _ _ = Mb from filter_key_append_last Marker.id ⟨mid, id, .uploaded, L, c⟩ hne]

end

/-- a complete tracked upload in segments stores the same documents as a plain upload -/
theorem trackedUpload_ok (st : Store) (id c B : Nat) (hc : 0 < c) (hcB : c ≤ B)
    (hC : ∀ d ∈ st.chunks, d.file ≠ id) (hF : ∀ f ∈ st.files, f.id ≠ id) (hM : ∀ m ∈ st.markers, m.file ≠ id)
    (hfresh : ∀ m ∈ st.markers, m.id < st.nextId) (content : Bytes) (plan : List (List Nat)) (last : List Nat) :
    (trackedUpload st content id c B plan last).2 = none ∧
    (trackedUpload st content id c B plan last).1.chunks = st.chunks ++ mkDocs id 0 (chunksOf c content) ∧
    (trackedUpload st content id c B plan last).1.files = st.files ++ [⟨id, content.length, c⟩] ∧
    (trackedUpload st content id c B plan last).1.markers = st.markers := by
  have env : Env st.chunks st.markers id c B := ⟨hc, hcB, hC, hM⟩
  have h0 : Susp st.chunks st.files st.markers id c content st [] :=
    { chunks := (List.append_nil _).symm, files := rfl, full := fun _ hd => absurd hd List.not_mem_nil
      pre := List.nil_prefix, mark := Or.inl ⟨rfl, rfl⟩, fresh := hfresh }
  obtain ⟨st1, D, ht, h1⟩ := trackedSegments_ok env content plan st [] h0
  obtain ⟨s, hr, inv, hb⟩ := resumeOrFresh_ok (B := B) env h1
  obtain ⟨st2, s2, hw, D2, inv2, hD2, _⟩ := writeAll_ok env
    (pieces (content.drop D.flatten.length) last ++ [(content.drop D.flatten.length).drop last.sum]) st1 s _
    (inv.ready env h1.full hb)
  -- the final segment has written all that follows the persisted prefix
  obtain ⟨t, hpre⟩ := h1.pre
  rw [List.flatten_append, pieces_flatten, List.flatten_singleton, List.take_append_drop, ← hpre, List.drop_left,
    hpre] at inv2
  obtain ⟨st3, s3, mid, hcl, c1, c2, c3, c4⟩ := close_tracked_ok env inv2 hD2
  rw [trackedUpload, ht]
  simp only [hr, hw, hcl, claimUpload_ok c3 hM c4 (c2 ▸ hF)]
  exact ⟨trivial, c1, by rw [c2], trivial⟩

end Lungo.GridFS
