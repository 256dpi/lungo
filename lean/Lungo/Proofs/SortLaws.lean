/-
  Lungo.Proofs.SortLaws — the sorting / distinct model (Lungo/Model/Sort.lean, mirroring
  bsonkit/sort.go, mongokit/sort.go, bsonkit/lists.go).

  The order laws of `V.cmp` hold only on values whose int64 payloads are in range (`V.i64Ok`), while
  core's `List.mergeSort` theorems want laws on the whole carrier.  §1 transports them to comparators
  that are lawful on a subset, by sorting over the subtype; §2 then says once what a stable sort by
  such a comparator does.  `order · · cols` on documents (§5) and `V.cmp` on values are the instances.
-/
import Lungo.Model.Sort
import Lungo.Proofs.CompareLaws
import Lungo.Proofs.AccessLaws
namespace Lungo
open Lungo.Ord

/-! ## §1 mergeSort with laws on a subset -/

section restricted
variable {α : Type} {P : α → Prop} {le : α → α → Bool}

theorem mergeSort_attachWith (l : List α) (hl : ∀ a ∈ l, P a) :
    l.mergeSort le = ((l.attachWith P hl).mergeSort (fun a b => le a.1 b.1)).map Subtype.val := by
  rw [List.map_mergeSort (s := le) (fun a _ b _ => rfl)]
  simp

theorem pairwise_mergeSort_on
    (trans : ∀ a b c, P a → P b → P c → le a b → le b c → le a c)
    (total : ∀ a b, P a → P b → le a b || le b a)
    (l : List α) (hl : ∀ a ∈ l, P a) : (l.mergeSort le).Pairwise (fun a b => le a b) := by
  rw [mergeSort_attachWith l hl]
  have := List.pairwise_mergeSort (le := fun (a b : {x // P x}) => le a.1 b.1)
    (fun a b c => trans a.1 b.1 c.1 a.2 b.2 c.2) (fun a b => total a.1 b.1 a.2 b.2) (l.attachWith P hl)
  exact List.Pairwise.map _ (fun _ _ h => h) this

theorem sublist_mergeSort_on
    (trans : ∀ a b c, P a → P b → P c → le a b → le b c → le a c)
    (total : ∀ a b, P a → P b → le a b || le b a)
    (l : List α) (hl : ∀ a ∈ l, P a) {ys : List α} (hp : ys.Pairwise (fun a b => le a b)) (hs : ys.Sublist l) :
    ys.Sublist (l.mergeSort le) := by
  rw [mergeSort_attachWith l hl]
  have hs' : ys.Sublist ((l.attachWith P hl).map Subtype.val) := by simpa using hs
  obtain ⟨l', hl', rfl⟩ := List.sublist_map_iff.mp hs'
  have := List.sublist_mergeSort (le := fun (a b : {x // P x}) => le a.1 b.1)
    (fun a b c => trans a.1 b.1 c.1 a.2 b.2 c.2) (fun a b => total a.1 b.1 a.2 b.2)
    (ys := l') (xs := l.attachWith P hl) (List.pairwise_map.mp hp) hl'
  exact this.map Subtype.val
end restricted

/-! ## §2 stable sorting by a comparator that is a total preorder on a subset -/

section generic
variable {α : Type}

/-- `c` is reflexive and swap-antisymmetric everywhere, transitive on `P` -/
structure PreorderOn (c : α → α → Ordering) (P : α → Prop) : Prop where
  refl : ∀ a, c a a = .eq
  swap : ∀ a b, c b a = (c a b).swap
  trans : ∀ a b d, P a → P b → P d → c a b ≠ .gt → c b d ≠ .gt → c a d ≠ .gt

/-- the "not greater" test handed to the sorting routine -/
def leOf (c : α → α → Ordering) (a b : α) : Bool := c a b != .gt

def stableSort (c : α → α → Ordering) (l : List α) : List α := l.mergeSort (leOf c)

variable {c : α → α → Ordering} {P : α → Prop}

theorem PreorderOn.comap {β : Type} (h : PreorderOn c P) (f : β → α) :
    PreorderOn (fun a b => c (f a) (f b)) (fun a => P (f a)) :=
  ⟨fun _ => h.refl _, fun _ _ => h.swap _ _, fun _ _ _ => h.trans _ _ _⟩

/-- ties are transitive: `a ≤ d` through `b`, and `d ≤ a` through `b` -/
theorem PreorderOn.eq_trans (h : PreorderOn c P) (a b d : α) (oa : P a) (ob : P b) (od : P d)
    (h1 : c a b = .eq) (h2 : c b d = .eq) : c a d = .eq := by
  have le : c a d ≠ .gt := h.trans a b d oa ob od (by rw [h1]; decide) (by rw [h2]; decide)
  have ge : c d a ≠ .gt :=
    h.trans d b a od ob oa (by rw [h.swap b d, h2]; decide) (by rw [h.swap a b, h1]; decide)
  rw [h.swap a d] at ge
  cases hc : c a d with
  | eq => rfl
  | gt => exact absurd hc le
  | lt => rw [hc] at ge; exact absurd rfl ge

theorem leOf_iff {a b : α} : leOf c a b = true ↔ c a b ≠ .gt := by simp [leOf]

theorem leOf_total (h : PreorderOn c P) (a b : α) : (leOf c a b || leOf c b a) = true := by
  simp only [leOf, h.swap a b]; cases c a b <;> rfl

theorem leOf_trans (h : PreorderOn c P) (a b d : α) (oa : P a) (ob : P b) (od : P d)
    (h1 : leOf c a b = true) (h2 : leOf c b d = true) : leOf c a d = true :=
  leOf_iff.mpr (h.trans a b d oa ob od (leOf_iff.mp h1) (leOf_iff.mp h2))

theorem stableSort_perm (l : List α) : (stableSort c l).Perm l := List.mergeSort_perm _ _

theorem stableSort_pairwise (h : PreorderOn c P) (l : List α) (ok : ∀ a ∈ l, P a) :
    (stableSort c l).Pairwise (fun a b => c a b ≠ .gt) :=
  (pairwise_mergeSort_on (P := P) (le := leOf c) (leOf_trans h) (fun a b _ _ => leOf_total h a b)
    l ok).imp leOf_iff.mp

theorem stableSort_sublist (h : PreorderOn c P) (l : List α) (ok : ∀ a ∈ l, P a) {ys : List α}
    (hp : ys.Pairwise (fun a b => c a b ≠ .gt)) (hs : ys.Sublist l) : ys.Sublist (stableSort c l) :=
  sublist_mergeSort_on (P := P) (le := leOf c) (leOf_trans h) (fun a b _ _ => leOf_total h a b)
    l ok (hp.imp leOf_iff.mpr) hs

/-- stability in its strongest form: the elements tied with `a` appear in the result exactly as they
    appear in the input (same elements, same relative order). -/
theorem stableSort_ties (h : PreorderOn c P) (l : List α) (ok : ∀ a ∈ l, P a) (a : α) (oa : P a) :
    (stableSort c l).filter (fun b => c a b == .eq) = l.filter (fun b => c a b == .eq) := by
  -- the tie class of `a` is a sorted sublist of the input, so it survives as a sublist of the output;
  -- being as long as the tie class of the output, it is that class
  have hsub : (l.filter fun b => c a b == .eq).Sublist (stableSort c l) := by
    apply stableSort_sublist h l ok _ List.filter_sublist
    refine List.pairwise_of_forall_mem_list fun x hx y hy => ?_
    obtain ⟨mx, ex⟩ := List.mem_filter.mp hx
    obtain ⟨my, ey⟩ := List.mem_filter.mp hy
    have exa : c x a = .eq := by rw [h.swap a x, beq_iff_eq.mp ex]; rfl
    rw [h.eq_trans x a y (ok x mx) oa (ok y my) exa (beq_iff_eq.mp ey)]; decide
  have h2 := hsub.filter fun b => c a b == .eq
  rw [List.filter_filter, show (fun x => (c a x == .eq) && (c a x == .eq)) = fun x => c a x == .eq from
    funext fun x => Bool.and_self _] at h2
  exact (h2.eq_of_length ((stableSort_perm l).filter _).length_eq.symm).symm

/-- two permutations of each other that are both sorted and keep every tie class in the same order
    are equal (no transitivity needed: heads of sorted permutations tie) -/
theorem sorted_ties_unique (h : PreorderOn c P) : ∀ (l1 l2 : List α), l1.Perm l2 →
    l1.Pairwise (fun a b => c a b ≠ .gt) → l2.Pairwise (fun a b => c a b ≠ .gt) →
    (∀ a ∈ l1, l1.filter (fun b => c a b == .eq) = l2.filter (fun b => c a b == .eq)) → l1 = l2 := by
  intro l1
  induction l1 with
  | nil => intro l2 hp _ _ _; exact (List.Perm.nil_eq hp)
  | cons x t1 ih =>
    intro l2 hp s1 s2 hf
    match l2 with
    | [] => exact absurd hp.length_eq (by simp)
    | y :: t2 =>
      have hxy : c x y ≠ .gt := by
        rcases List.mem_cons.mp (hp.symm.subset (List.mem_cons_self : y ∈ y :: t2)) with rfl | hy
        · rw [h.refl]; decide
        · exact (List.pairwise_cons.mp s1).1 y hy
      have hyx : c y x ≠ .gt := by
        rcases List.mem_cons.mp (hp.subset (List.mem_cons_self : x ∈ x :: t1)) with rfl | hx
        · rw [h.refl]; decide
        · exact (List.pairwise_cons.mp s2).1 x hx
      have hxy_eq : c x y = .eq := by
        match hc : c x y with
        | .eq => rfl
        | .gt => exact absurd hc hxy
        | .lt => exact absurd (by rw [h.swap x y, hc]; rfl) hyx
      -- `x` heads its tie class in `l1`, and `y` ties with it, so `y` heads the same class in `l2`
      have hhead := hf x List.mem_cons_self
      simp only [List.filter_cons, h.refl, beq_self_eq_true, ↓reduceIte, hxy_eq] at hhead
      obtain rfl : x = y := (List.cons.inj hhead).1
      refine congrArg _ (ih t2 ((List.perm_cons x).mp hp) (List.pairwise_cons.mp s1).2
        (List.pairwise_cons.mp s2).2 fun a ha => ?_)
      have := hf a (List.mem_cons_of_mem _ ha)
      simp only [List.filter_cons] at this
      split at this
      · exact (List.cons.inj this).2
      · exact this

/-- `stableSort` is THE stable sort: any list that is a permutation of the input, non-decreasing and
    keeps ties in input order equals it. -/
theorem stableSort_unique (h : PreorderOn c P) (l : List α) (ok : ∀ a ∈ l, P a) (l' : List α)
    (hp : l'.Perm l) (hs : l'.Pairwise (fun a b => c a b ≠ .gt))
    (ht : ∀ a ∈ l, l'.filter (fun b => c a b == .eq) = l.filter (fun b => c a b == .eq)) :
    l' = stableSort c l := by
  refine sorted_ties_unique h l' (stableSort c l) (hp.trans (stableSort_perm l).symm) hs
    (stableSort_pairwise h l ok) fun a ha => ?_
  have ha' : a ∈ l := hp.subset ha
  rw [ht a ha', stableSort_ties h l ok a (ok a ha')]

theorem filter_stableSort (h : PreorderOn c P) (l : List α) (ok : ∀ a ∈ l, P a) (p : α → Bool) :
    (stableSort c l).filter p = stableSort c (l.filter p) := by
  have ok' : ∀ a ∈ l.filter p, P a := fun a ha => ok a (List.mem_filter.mp ha).1
  refine stableSort_unique h (l.filter p) ok' _ ((stableSort_perm l).filter p)
    ((stableSort_pairwise h l ok).sublist List.filter_sublist) fun a ha => ?_
  have comm : ∀ l : List α, (l.filter p).filter (fun b => c a b == .eq) =
      (l.filter fun b => c a b == .eq).filter p := fun l => by
    rw [List.filter_filter, List.filter_filter]; congr 1; funext x; exact Bool.and_comm _ _
  rw [comm, comm, stableSort_ties h l ok a (ok a (List.mem_filter.mp ha).1)]
end generic

/-! ## §3 `get` preserves `i64Ok` -/

theorem i64OkList_append {a b : List V} : i64OkList (a ++ b) = (i64OkList a && i64OkList b) := by
  induction a with
  | nil => simp [i64OkList]
  | cons x r ih => simp [i64OkList, ih, Bool.and_assoc]

theorem i64OkList_iff {a : List V} : i64OkList a = true ↔ ∀ x ∈ a, x.i64Ok = true := by
  induction a with
  | nil => simp [i64OkList]
  | cons x r ih => simp [i64OkList, ih]

theorem i64Ok_mem (v : V) (h : v.i64Ok = true) : ∀ w ∈ v.members, w.i64Ok = true := by
  cases v with
  | doc fs =>
    intro w hw
    obtain ⟨kv, hkv, rfl⟩ := List.mem_map.mp hw
    exact i64Ok_of_mem_fields h kv hkv
  | arr xs => exact i64Ok_of_mem_list h
  | _ => exact fun _ hw => nomatch hw

theorem get_i64Ok (v : V) (path : Path) (c k : Bool) (h : v.i64Ok = true) :
    (get v path c k).1.i64Ok = true :=
  get_part (P := fun v => v.i64Ok = true) rfl i64Ok_mem (fun _ h => i64OkList_iff.mpr h) c k v path h

/-- a written value with in-range int64 payloads keeps them in range -/
theorem put_i64Ok {v x nv prev : V} {p : Path} {pre : Bool} (hv : v.i64Ok = true) (hx : x.i64Ok = true)
    (h : put v p x pre = .ok (nv, prev)) : nv.i64Ok = true :=
  (put_part (P := fun v => v.i64Ok = true) rfl rfl i64Ok_mem
    (fun fs h => by
      simp only [V.i64Ok]
      induction fs with
      | nil => rfl
      | cons kv r ih =>
        simp only [V.members, List.map_cons, List.forall_mem_cons] at h
        simp only [i64OkFields, h.1, Bool.true_and]
        exact ih h.2)
    (fun _ h => i64OkList_iff.mpr h) hx p v nv prev hv h).1

theorem getField_i64Ok (fs : List (String × V)) (key : String) (rest : Path) (c k : Bool)
    (h : i64OkFields fs = true) : (getField fs key rest c k).1.i64Ok = true := by
  rw [getField_find]
  cases hf : Doc.find? fs key with
  | none => rfl
  | some v => exact get_i64Ok v rest c k (i64Ok_mem (.doc fs) h v (slot?_mem (v := .doc fs) hf))

theorem getIdx_i64Ok (xs : List V) (idx : Nat) (rest : Path) (c k : Bool)
    (h : i64OkList xs = true) : ∀ r, getIdx xs idx rest c k = some r → r.1.i64Ok = true := by
  intro r hr
  rw [getIdx_eq] at hr
  obtain ⟨v, hv, rfl⟩ := Option.map_eq_some_iff.mp hr
  exact get_i64Ok v rest c k (i64Ok_of_mem_list h v (List.mem_of_getElem? hv))

theorem getCollect_i64Ok (xs : List V) (key : String) (rest : Path) (c k : Bool)
    (h : i64OkList xs = true) : i64OkList (getCollect xs key rest c k) = true := by
  refine i64OkList_iff.mpr fun y hy => ?_
  rw [getCollect_eq] at hy
  obtain ⟨x, hx, hy⟩ := List.mem_flatMap.mp hy
  exact collectItem_part i64Ok_mem (get_i64Ok x _ c k (i64Ok_of_mem_list h x hx)) y hy

/-! ## §4 sortKey -/

theorem V.cmp_le_trans {a b c : V} (oa : a.i64Ok = true) (ob : b.i64Ok = true) (oc : c.i64Ok = true)
    (h1 : V.cmp a b ≠ .gt) (h2 : V.cmp b c ≠ .gt) : V.cmp a c ≠ .gt :=
  (V.cmp_at a b c oa ob oc).le_trans h1 h2

theorem V.cmp_preorder : PreorderOn V.cmp (fun v => v.i64Ok = true) :=
  ⟨V.cmp_refl, fun a b => V.cmp_swap a b, fun _ _ _ oa ob od => V.cmp_le_trans oa ob od⟩

/-- the step of the scan for the sort key of an array: take the item if it compares `o` with the best
    so far (`o = .lt`: ascending, the minimum; `o = .gt`: descending, the maximum) -/
def keyStep (o : Ordering) (best item : V) : V := if V.cmp item best == o then item else best

theorem sortKey_cons_asc (x : V) (rest : List V) :
    sortKey (.arr (x :: rest)) false = rest.foldl (keyStep .lt) x := rfl
theorem sortKey_cons_desc (x : V) (rest : List V) :
    sortKey (.arr (x :: rest)) true = rest.foldl (keyStep .gt) x := rfl

theorem sortKey_nil (r : Bool) : sortKey (.arr []) r = .arr [] := rfl

theorem sortKey_nonarr (v : V) (r : Bool) (h : v.isArr = false) : sortKey v r = v := by
  cases v <;> first | rfl | simp [V.isArr] at h

theorem keyStep_sel (o : Ordering) (b i : V) : keyStep o b i = b ∨ keyStep o b i = i := by
  unfold keyStep; split
  · exact .inr rfl
  · exact .inl rfl

/-- a fold that keeps one of its two arguments returns an element of the list; if the one it keeps is
    `R`-below both, the result is `R`-below every element (`R` reflexive, transitive on `P`) -/
theorem foldl_select {f : V → V → V} {R : V → V → Prop} {P : V → Prop}
    (sel : ∀ b i, f b i = b ∨ f b i = i) (le : ∀ b i, P b → P i → R (f b i) b ∧ R (f b i) i)
    (refl : ∀ a, R a a) (trans : ∀ a b c, P a → P b → P c → R a b → R b c → R a c) :
    ∀ (rest : List V) (x : V), (∀ y ∈ x :: rest, P y) →
      rest.foldl f x ∈ x :: rest ∧ ∀ y ∈ x :: rest, R (rest.foldl f x) y := by
  intro rest
  induction rest with
  | nil => intro x _; exact ⟨List.mem_cons_self, fun y hy => by rw [List.mem_singleton.mp hy]; exact refl _⟩
  | cons i r ih =>
    intro x ok
    have okx := ok x List.mem_cons_self
    have oki := ok i (by simp)
    have okf : P (f x i) := by rcases sel x i with e | e <;> rw [e] <;> assumption
    have ok' : ∀ y ∈ f x i :: r, P y := fun y hy => by
      rcases List.mem_cons.mp hy with rfl | hy
      · exact okf
      · exact ok y (by simp [hy])
    obtain ⟨hm, hle⟩ := ih (f x i) ok'
    have hstep := hle (f x i) List.mem_cons_self
    rw [List.foldl_cons]
    refine ⟨?_, fun y hy => ?_⟩
    · rcases List.mem_cons.mp hm with e | hm'
      · rw [e]; rcases sel x i with e' | e' <;> simp [e']
      · simp [hm']
    · rcases List.mem_cons.mp hy with rfl | hy
      · exact trans _ _ _ (ok' _ hm) okf okx hstep (le y i okx oki).1
      · rcases List.mem_cons.mp hy with rfl | hy
        · exact trans _ _ _ (ok' _ hm) okf oki hstep (le x y okx oki).2
        · exact hle y (List.mem_cons_of_mem _ hy)

theorem sortKey_mem (x : V) (rest : List V) (r : Bool) : sortKey (.arr (x :: rest)) r ∈ x :: rest := by
  have h := fun o => (foldl_select (R := fun _ _ => True) (P := fun _ => True) (keyStep_sel o)
    (fun _ _ _ _ => ⟨trivial, trivial⟩) (fun _ => trivial) (fun _ _ _ _ _ _ _ _ => trivial) rest x
    (fun _ _ => trivial)).1
  cases r
  · exact h .lt
  · exact h .gt

theorem sortKey_asc_spec (x : V) (rest : List V) (ok : i64OkList (x :: rest) = true) :
    sortKey (.arr (x :: rest)) false ∈ x :: rest ∧
      ∀ y ∈ x :: rest, V.cmp (sortKey (.arr (x :: rest)) false) y ≠ .gt := by
  rw [sortKey_cons_asc]
  refine foldl_select (R := fun a b => V.cmp a b ≠ .gt) (P := fun v => v.i64Ok = true) (keyStep_sel _)
    (fun b i _ _ => ?_) (fun a => by rw [V.cmp_refl]; decide) (fun _ _ _ oa ob oc => V.cmp_le_trans oa ob oc)
    rest x (i64OkList_iff.mp ok)
  unfold keyStep
  split
  · next h => exact ⟨by rw [beq_iff_eq.mp h]; decide, by rw [V.cmp_refl]; decide⟩
  · next h =>
    refine ⟨by rw [V.cmp_refl]; decide, fun h' => h ?_⟩
    rw [V.cmp_swap i b] at h'
    exact beq_iff_eq.mpr (Ordering.swap_eq_gt.mp h')

theorem sortKey_desc_spec (x : V) (rest : List V) (ok : i64OkList (x :: rest) = true) :
    sortKey (.arr (x :: rest)) true ∈ x :: rest ∧
      ∀ y ∈ x :: rest, V.cmp y (sortKey (.arr (x :: rest)) true) ≠ .gt := by
  rw [sortKey_cons_desc]
  refine foldl_select (R := fun a b => V.cmp b a ≠ .gt) (P := fun v => v.i64Ok = true) (keyStep_sel _)
    (fun b i _ _ => ?_) (fun a => by rw [V.cmp_refl]; decide) (fun _ _ _ oa ob oc h1 h2 => V.cmp_le_trans oc ob oa h2 h1)
    rest x (i64OkList_iff.mp ok)
  unfold keyStep
  split
  · next h =>
    exact ⟨by rw [V.cmp_swap i b, beq_iff_eq.mp h]; decide, by rw [V.cmp_refl]; decide⟩
  · next h => exact ⟨by rw [V.cmp_refl]; decide, by simpa using h⟩

theorem sortKey_i64Ok (v : V) (r : Bool) (h : v.i64Ok = true) : (sortKey v r).i64Ok = true := by
  match v with
  | .arr (x :: rest) => exact i64OkList_iff.mp (by simpa [V.i64Ok] using h) _ (sortKey_mem x rest r)
  | .arr [] => exact h
  | .null | .missing | .i32 _ | .i64 _ | .f64 _ | .dec _ _ | .str _ | .bin _ _ | .oid _ | .bool _
  | .date _ | .ts _ _ | .regex _ _ | .doc _ => exact h

/-! ## §5 order -/

/-- documents whose int64 payloads are all in range (every well-formed document) -/
def Doc.ok (d : Doc) : Prop := (V.doc d).i64Ok = true

def colKey (col : Column) (d : Doc) : V := sortKey (Get d col.path) col.reverse

def dirOrd (rev : Bool) (o : Ordering) : Ordering := if rev then o.swap else o

theorem colKey_i64Ok (col : Column) (d : Doc) (h : d.ok) : (colKey col d).i64Ok = true :=
  sortKey_i64Ok _ _ (get_i64Ok _ _ _ _ h)

theorem order_nil (l r : Doc) : order l r [] = .eq := rfl

theorem order_cons (l r : Doc) (col : Column) (cols : List Column) :
    order l r (col :: cols) =
      (dirOrd col.reverse (V.cmp (colKey col l) (colKey col r))).then (order l r cols) := by
  simp only [order, colKey, dirOrd]
  cases V.cmp (sortKey (Get l col.path) col.reverse) (sortKey (Get r col.path) col.reverse) <;>
    cases col.reverse <;> rfl

/-- the laws of a reversed comparator at `(a, b, d)` are those of the original at `(d, b, a)` -/
theorem Laws.dir {aa ab ba bd ad dd db da : Ordering} (rev : Bool)
    (h : Laws aa ab ba bd ad) (h' : Laws dd db bd ba da) (hda : da = ad.swap) :
    Laws (dirOrd rev aa) (dirOrd rev ab) (dirOrd rev ba) (dirOrd rev bd) (dirOrd rev ad) := by
  cases rev
  · exact h
  · obtain ⟨r1, s1, t1, l1, c1⟩ := h
    obtain ⟨r2, s2, t2, l2, c2⟩ := h'
    simp only [dirOrd, ↓reduceIte]
    constructor
    · rw [r1]; rfl
    · rw [s1]
    · intro h1 h2
      have e1 : ba = .lt := by rw [s1]; exact h1
      have e2 : db = .lt := by
        rw [s2] at h2; rw [Ordering.swap_swap] at h2; exact h2
      rw [← hda]; exact t2 e2 e1
    · intro h1; rw [l1 (Ordering.swap_eq_eq.mp h1)]
    · intro h1; rw [c1 (Ordering.swap_eq_eq.mp h1)]

theorem order_at (cols : List Column) (a b d : Doc) (oa : a.ok) (ob : b.ok) (od : d.ok) :
    Laws (order a a cols) (order a b cols) (order b a cols) (order b d cols) (order a d cols) := by
  induction cols with
  | nil => exact ⟨rfl, rfl, (fun h _ => nomatch h), fun _ => rfl, fun _ => rfl⟩
  | cons col cols ih =>
    simp only [order_cons]
    have ka := colKey_i64Ok col a oa
    have kb := colKey_i64Ok col b ob
    have kd := colKey_i64Ok col d od
    exact (Laws.dir col.reverse (V.cmp_at _ _ _ ka kb kd) (V.cmp_at _ _ _ kd kb ka)
      (V.cmp_swap _ _)).then ih

theorem order_refl (cols : List Column) (a : Doc) : order a a cols = .eq := by
  induction cols with
  | nil => rfl
  | cons col cols ih => rw [order_cons, V.cmp_refl, ih]; cases col.reverse <;> rfl

theorem order_swap (cols : List Column) (a b : Doc) : order b a cols = (order a b cols).swap := by
  induction cols with
  | nil => rfl
  | cons col cols ih =>
    rw [order_cons, order_cons, ih, V.cmp_swap (colKey col a) (colKey col b)]
    cases V.cmp (colKey col a) (colKey col b) <;> cases col.reverse <;> simp [dirOrd, Ordering.then]

theorem order_trans (cols : List Column) (a b d : Doc) (oa : a.ok) (ob : b.ok) (od : d.ok)
    (h1 : order a b cols ≠ .gt) (h2 : order b d cols ≠ .gt) : order a d cols ≠ .gt :=
  (order_at cols a b d oa ob od).le_trans h1 h2

theorem order_lt_trans (cols : List Column) (a b d : Doc) (oa : a.ok) (ob : b.ok) (od : d.ok)
    (h1 : order a b cols = .lt) (h2 : order b d cols = .lt) : order a d cols = .lt :=
  (order_at cols a b d oa ob od).lt_trans h1 h2

theorem order_congr (cols : List Column) (a a' b : Doc) (oa : a.ok) (oa' : a'.ok) (ob : b.ok)
    (h : order a a' cols = .eq) : order a b cols = order a' b cols :=
  (order_at cols a a' b oa oa' ob).congr_l h

theorem order_preorder (cols : List Column) : PreorderOn (fun a b => order a b cols) Doc.ok :=
  ⟨order_refl cols, order_swap cols, order_trans cols⟩

/-! ## §6 sortDocs -/

/-- the Boolean "not greater" relation handed to the sorting routine -/
def ordLe (cols : List Column) (a b : Doc) : Bool := order a b cols != .gt

theorem sortDocs_eq (list : List Doc) (cols : List Column) : sortDocs list cols = list.mergeSort (ordLe cols) := rfl

/- `sortDocs list cols` is `stableSort (order · · cols) list` by definition: the theorems of §2 apply to it
   through `order_preorder`. -/

theorem sortDocs_perm (list : List Doc) (cols : List Column) : (sortDocs list cols).Perm list :=
  List.mergeSort_perm _ _

/-! ## §7 dedupSorted and Distinct -/

theorem dedupSorted_head (x : V) (r : List V) : ∃ t, dedupSorted (x :: r) = x :: t := by
  induction r with
  | nil => exact ⟨[], by rw [dedupSorted]⟩
  | cons y r ih =>
    rw [dedupSorted]
    split
    · exact ih
    · exact ⟨_, rfl⟩

theorem dedupSorted_sublist (l : List V) : (dedupSorted l).Sublist l := by
  fun_induction dedupSorted l with
  | case1 => exact .slnil
  | case2 x => exact .refl _
  | case3 x y r _ ih => exact ih.trans ((List.sublist_cons_self y r).cons_cons x)
  | case4 x y r _ ih => exact ih.cons_cons x

theorem dedupSorted_complete (l : List V) : ∀ v ∈ l, ∃ w ∈ dedupSorted l, V.cmp v w = .eq := by
  fun_induction dedupSorted l with
  | case1 => intro v hv; cases hv
  | case2 x => intro v hv; exact ⟨v, hv, V.cmp_refl v⟩
  | case3 x y r he ih =>
    intro v hv
    rcases List.mem_cons.mp hv with rfl | hv
    · exact ih _ List.mem_cons_self
    · rcases List.mem_cons.mp hv with rfl | hv
      · obtain ⟨t, ht⟩ := dedupSorted_head x r
        exact ⟨x, by rw [ht]; exact List.mem_cons_self, by rw [V.cmp_swap x v, beq_iff_eq.mp he]; rfl⟩
      · exact ih v (List.mem_cons_of_mem _ hv)
  | case4 x y r _ ih =>
    intro v hv
    rcases List.mem_cons.mp hv with rfl | hv
    · exact ⟨v, List.mem_cons_self, V.cmp_refl v⟩
    · obtain ⟨w, hw, e⟩ := ih v hv
      exact ⟨w, List.mem_cons_of_mem _ hw, e⟩

theorem dedupSorted_strict (l : List V) : (∀ v ∈ l, v.i64Ok = true) →
    l.Pairwise (fun a b => V.cmp a b ≠ .gt) → (dedupSorted l).Pairwise (fun a b => V.cmp a b = .lt) := by
  fun_induction dedupSorted l with
  | case1 => intro _ _; exact .nil
  | case2 x => intro _ _; exact List.pairwise_singleton _ _
  | case3 x y r _ ih =>
    intro ok hp
    exact ih (fun v hv => ok v (by rcases List.mem_cons.mp hv with rfl | hv <;> simp [*]))
      (hp.sublist ((List.sublist_cons_self y r).cons_cons x))
  | case4 x y r hne ih =>
    intro ok hp
    obtain ⟨hx, hp'⟩ := List.pairwise_cons.mp hp
    -- `x` is below `y`, not equal to it, so strictly below; and `y` is below everything that follows
    have hlt : V.cmp x y = .lt := by
      match h : V.cmp x y with
      | .lt => rfl
      | .eq => exact absurd (beq_iff_eq.mpr h) hne
      | .gt => exact absurd h (hx y List.mem_cons_self)
    refine List.pairwise_cons.mpr ⟨fun z hz => ?_, ih (fun v hv => ok v (List.mem_cons_of_mem _ hv)) hp'⟩
    have hz' : z ∈ y :: r := (dedupSorted_sublist _).subset hz
    have hyz : V.cmp y z ≠ .gt := by
      rcases List.mem_cons.mp hz' with rfl | hz''
      · rw [V.cmp_refl]; decide
      · exact (List.pairwise_cons.mp hp').1 z hz''
    exact (V.cmp_at x y z (ok x List.mem_cons_self) (ok y (by simp)) (ok z (List.mem_cons_of_mem _ hz'))).lt_of_lt_of_le hlt hyz

/-- the Boolean "not greater" relation on values handed to the sorting routine by `Collect` -/
def cmpLe (a b : V) : Bool := V.cmp a b != .gt

theorem All_i64Ok (d : Doc) (path : Path) (compact merge : Bool) (h : d.ok) :
    (All d path compact merge).1.i64Ok = true :=
  All_part (P := fun v => v.i64Ok = true) rfl i64Ok_mem (fun _ h => i64OkList_iff.mpr h) d path compact merge h

/-- one document's contribution to `Collect(list, path, compact=true, merge=true, flatten=true, ·)` -/
def contribution (d : Doc) (path : String) : List V :=
  let v := (All d (splitPath path) true true).1
  if v.isMissing then [] else match v with
    | .arr a => a
    | _ => [v]

/-- the values collected before sorting and de-duplication -/
def collected (list : List Doc) (path : String) : List V := list.flatMap (contribution · path)

theorem collect_nodistinct (list : List Doc) (path : String) :
    collect list path true true true false = collected list path := by
  simp only [collect, collected, Bool.true_and, Bool.not_false, ↓reduceIte]
  induction list with
  | nil => rfl
  | cons d r ih =>
    simp only [List.foldr_cons, List.flatMap_cons, ih, contribution]
    split
    · rfl
    · split <;> simp_all

theorem Distinct_eq (list : List Doc) (path : String) :
    Distinct list path = dedupSorted ((collected list path).mergeSort cmpLe) := by
  rw [← collect_nodistinct]
  simp only [Distinct, collect, Bool.not_true, Bool.false_eq_true, ↓reduceIte, Bool.not_false]
  rfl

theorem contribution_i64Ok (d : Doc) (path : String) (h : d.ok) : ∀ v ∈ contribution d path, v.i64Ok = true := by
  have h0 := All_i64Ok d (splitPath path) true true h
  intro v hv
  simp only [contribution] at hv
  split at hv
  · cases hv
  · split at hv
    · next a ha => rw [ha] at h0; exact i64OkList_iff.mp (by simpa [V.i64Ok] using h0) v hv
    · rw [List.mem_singleton.mp hv]; exact h0

theorem collected_i64Ok (list : List Doc) (path : String) (ok : ∀ d ∈ list, d.ok) :
    ∀ v ∈ collected list path, v.i64Ok = true := by
  intro v hv
  obtain ⟨d, hd, hv⟩ := List.mem_flatMap.mp hv
  exact contribution_i64Ok d path (ok d hd) v hv

theorem Distinct_strict (list : List Doc) (path : String) (ok : ∀ d ∈ list, d.ok) :
    (Distinct list path).Pairwise (fun a b => V.cmp a b = .lt) := by
  rw [Distinct_eq]
  exact dedupSorted_strict _ (fun v hv => collected_i64Ok list path ok v (List.mem_mergeSort.mp hv))
    (stableSort_pairwise V.cmp_preorder _ (collected_i64Ok list path ok))

theorem Distinct_sound (list : List Doc) (path : String) : ∀ v ∈ Distinct list path, v ∈ collected list path := by
  intro v hv
  rw [Distinct_eq] at hv
  exact List.mem_mergeSort.mp ((dedupSorted_sublist _).subset hv)

theorem Distinct_complete (list : List Doc) (path : String) :
    ∀ v ∈ collected list path, ∃ w ∈ Distinct list path, V.cmp v w = .eq := by
  intro v hv
  rw [Distinct_eq]
  exact dedupSorted_complete _ v (List.mem_mergeSort.mpr hv)

/-! ## §8 paths that cross no array: `All` is `Get` -/

/-- `path` never meets an array strictly before its end when followed from `v`
    (it "descends through embedded documents only"). -/
def noArrayBefore (v : V) (path : Path) : Prop :=
  ∀ pre suf, path = pre ++ suf → suf ≠ [] → (get v pre false false).1.isArr = false

theorem getField_doc (fs : List (String × V)) (key : String) (rest : Path) (c k : Bool) (hk : (key == "" && rest.isEmpty) = false) :
    getField fs key rest c k = get (.doc fs) (key :: rest) c k := by
  simp [get, hk]

theorem noArrayBefore_tail {v : V} {key : String} {rest : Path} {w : V} (hk : key ≠ "")
    (hw : slot? v key = some w) (h : noArrayBefore v (key :: rest)) : noArrayBefore w rest := by
  intro pre suf e hs
  have := h (key :: pre) suf (by simp [e]) hs
  rwa [get_cons _ _ _ _ _ (by simp [hk]), hw] at this

theorem get_noArray (path : Path) : ∀ (v : V) (c k : Bool), "" ∉ path → noArrayBefore v path →
    get v path c k = ((get v path false false).1, false) := by
  induction path with
  | nil => intro v c k _ _; simp [get]
  | cons key rest ih =>
    intro v c k hne h
    have hkey : key ≠ "" := fun e => hne (by simp [e])
    have hv : v.isArr = false := by simpa [get] using h [] (key :: rest) rfl (by simp)
    rw [get_cons _ _ _ c _ (by simp [hkey]), get_cons _ _ _ false _ (by simp [hkey])]
    cases hs : slot? v key with
    | some w => exact ih w c k (fun e => hne (by simp [e])) (noArrayBefore_tail hkey hs h)
    | none => cases v <;> first | rfl | cases hv

theorem All_noArray (d : Doc) (path : Path) (compact merge : Bool) (hne : "" ∉ path)
    (h : noArrayBefore (.doc d) path) : All d path compact merge = (getP d path, false) := by
  simp only [All, getP, get_noArray path (.doc d) true compact hne h]
  simp

/-- the contribution of one document to `Distinct`, for a path that crosses no array inside it:
    nothing if the path is missing, the elements if the value is an array, else the value itself -/
def plainContribution (v : V) : List V :=
  match v with
  | .missing => []
  | .arr a => a
  | v => [v]

theorem contribution_noArray (d : Doc) (path : String) (hne : "" ∉ splitPath path)
    (h : noArrayBefore (.doc d) (splitPath path)) :
    contribution d path = plainContribution (Get d path) := by
  simp only [contribution, All_noArray d _ true true hne h, Get, getP]
  cases (get (V.doc d) (splitPath path) false false).fst <;> simp [V.isMissing, plainContribution]

/-! ## §9 missing as null -/

theorem V.cmp_missing_null : V.cmp .missing .null = .eq := by decide

/-- Missing is of the class of null: against anything else the class decides -/
theorem V.cmp_missing_left (x : V) : V.cmp .missing x = V.cmp .null x := by
  by_cases hx : x.cls = .null
  · rw [V.cmp_null rfl hx, V.cmp_null rfl hx]
  · have h : Class.null.rank < x.cls.rank := by revert hx; cases x.cls <;> decide
    rw [V.cmp_rank .missing x h, V.cmp_rank .null x h]

theorem V.cmp_missing_right (x : V) : V.cmp x .missing = V.cmp x .null := by
  rw [V.cmp_swap .missing x, V.cmp_swap .null x, V.cmp_missing_left]

/-- "missing as null" on sort keys -/
def nullify (v : V) : V := match v with | .missing => .null | v => v

theorem sortKey_nullify_cmp (v x : V) (r : Bool) :
    V.cmp (sortKey (nullify v) r) x = V.cmp (sortKey v r) x := by
  cases v <;> simp only [nullify]
  simp only [sortKey]; exact (V.cmp_missing_left x).symm

/-- a document lacking a sort field sorts exactly like one holding `null` there -/
theorem order_missing_as_null (l l' r : Doc) (cols : List Column)
    (h : ∀ c ∈ cols, Get l' c.path = nullify (Get l c.path)) : order l r cols = order l' r cols := by
  induction cols with
  | nil => rfl
  | cons col cols ih =>
    rw [order_cons, order_cons, ih (fun c hc => h c (by simp [hc]))]
    simp only [colKey, h col (by simp), sortKey_nullify_cmp]

end Lungo
