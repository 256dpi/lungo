/-
  Lungo.Proofs.SeqReplace — C01: replaceOne / findOneAndReplace (with upsert). Per index the
  implementation removes the old document and adds the replacement; the Spec asks that the
  replacement be admissible among the other documents (`admits` over the collection without the
  old document) and swaps it into the slot.
-/
import Lungo.Proofs.SeqUpdate
namespace Lungo.SeqRef
open Lungo Lungo.Spec

variable {sch : SchemaEval}

/-- the slot of the old document, by identity and by value -/
theorem replaceDoc_abs {docs : List SDoc} {old nw : SDoc} (hd : IdsDistinct docs) (hinj : DocInj docs)
    (hold : old ∈ docs) :
    (replaceDoc docs old.id nw).map (·.doc) = swapDoc (docs.map (·.doc)) old.doc nw.doc := by
  unfold replaceDoc swapDoc
  rw [List.map_map, List.map_map]
  apply List.map_congr_left
  intro sd hsd
  simp only [Function.comp]
  rw [id_beq_sameDoc hd hinj hsd hold]
  split <;> rfl

theorem Get_ok (d : Doc) (p : String) (h : DocOk d) : (Get d p).i64Ok = true := by
  unfold Get
  exact get_i64Ok (.doc d) (splitPath p) false false h

/-- the stored replacement is a Go value when the replacement and the old document are -/
theorem replacementFor_ok {old repl nw : Doc} (ho : DocOk old) (hr : DocOk repl)
    (h : replacementFor old repl = .ok nw) : DocOk nw := by
  unfold replacementFor at h
  simp only at h
  split at h
  · cases hp : Put repl ["_id"] (Get old "_id") true with
    | error e => rw [hp] at h; cases h
    | ok p =>
      obtain ⟨x, prev⟩ := p
      rw [hp] at h
      simp only [Except.ok.injEq] at h
      subst h
      exact put_id_ok hr (Get_ok old "_id" ho) hp
  · split at h
    · cases h
    · simp only [Except.ok.injEq] at h
      subst h; exact hr

/-- `Collection.Replace` = the Spec's replace: (collection, matched, modified) -/
theorem replace_abs {c : Coll} (k : CollOk sch c) {nu : Nu} (hb : IdsBelow c.docs nu.nextId)
    (q repl : Doc) (sort : Option Doc) (hne : noMatchError sch q c.docs) (hr : DocOk repl) :
    (c.replace sch q repl sort nu).map
        (fun r => (absC r.1.coll, r.1.matched.map (·.doc), r.1.modified.map (·.doc))) =
      (absC c).replace sch q repl sort := by
  unfold SColl.replace
  rw [Coll.replace_eq, ← select_abs c q sort 0 1 k.docsOk hne]
  cases hsel : selectDocs sch c q sort 0 1 with
  | error e => rfl
  | ok list =>
    cases list with
    | nil => rfl
    | cons old rest =>
      have hold : old ∈ c.docs := selectDocs_mem hsel old (by simp)
      simp only [Except.map, List.map_cons, bind, Except.bind]
      cases hrf : replacementFor old.doc repl with
      | error e => rfl
      | ok nwd =>
        have hnw : DocOk nwd := replacementFor_ok (k.docsOk old hold) hr hrf
        -- the old document leaves every index; what is left is the admission of the new one among the others
        have hinj : ∀ x ∈ c.docs, x.id = old.id → x = old := fun x hx e => ids_inj k.coherent.1 x hx old hold e
        obtain ⟨idx1, hrem⟩ := removeFromIndexes_ok hold k.coherent.2
        have hsub : ∀ x ∈ c.docs.filter (fun sd => !([old].any (·.id == sd.id))), x ∈ c.docs :=
          fun x hx => (List.mem_filter.mp hx).1
        have hadm := addToIndexes_admits (sch := sch) (sd := ⟨nu.nextId, nwd⟩)
          (fun x hx => hb.fresh x (hsub x hx))
          (idInj_of_distinct (k.coherent.1.sublist List.filter_sublist)) (fun x hx => k.docsOk x (hsub x hx)) hnw idx1
          ((AllCoherent.remove k.coherent.2 hinj hrem).congr fun x => by rw [mem_filter_notAny]; simp)
        rw [removeFromIndexes_shape hrem, remove_abs k.coherent.1 k.inj (list := [old]) (by simpa using hold)] at hadm
        simp only [List.map_cons, List.map_nil] at hadm
        simp only [absC, SColl.remove]
        rw [← hadm, replace_upd_of_removed hrem]
        cases hupd : addToIndexes sch ⟨nu.nextId, nwd⟩ idx1 with
        | error e => rfl
        | ok idx =>
          simp only [Except.map, pure, Except.pure, replaceDoc_abs k.coherent.1 k.inj hold, addToIndexes_shape hupd,
            removeFromIndexes_shape hrem]
          congr 3
          split <;> rfl

theorem replace_oids {c : Coll} {q repl : Doc} {sort : Option Doc} {nu nu' : Nu} {res : CResult}
    (h : c.replace sch q repl sort nu = .ok (res, nu')) : nu'.oids = nu.oids := by
  rcases Coll.replace_ok h with ⟨_, _, rfl⟩ | ⟨_, _, _, _, _, _, _, _, rfl⟩ <;> rfl

/-- what a replace call needs to know about its arguments, on the Spec's state -/
structure ReplaceOk (ac : ACtx) (db : SeqDB) (h : Handle) (q repl : Doc) (upsert : Bool) (oids : List V) : Prop where
  query : QueryOk ac.sch db h q
  replOk : DocOk repl
  ups : upsert = true → UpsertOk ac q (some repl) none []
  oids : ∀ o ∈ oids, o.i64Ok = true

/-- `Transaction.replace` = the Spec's `opReplace` -/
theorem replaceOp_abs {ac : ACtx} {cat : Catalog} {nu : Nu} (g : Good ac.sch true cat nu.nextId)
    (ok : OkDB (abs cat)) {h : Handle} (hne : h ≠ oplogHandle) (q repl : Doc) (sort : Option Doc)
    (upsert : Bool) (hw : ReplaceOk ac (abs cat) h q repl upsert nu.oids) :
    (replaceOp ac cat h q repl sort upsert nu).map (fun r => (abs r.1, r.2.1, r.2.2.oids)) =
      opReplace ac (abs cat) h q repl sort upsert nu.oids := by
  have k := g.nsOk_ensure h
  have kc := collOk_ensureNs g ok hne
  have hra := replace_abs (nu := nu) kc k.below q repl sort (queryOk_noMatchError hne hw.query) hw.replOk
  unfold replaceOp opReplace
  rw [abs_coll cat hne]
  dsimp only
  rw [← hra]
  cases hrep : (ensureNs cat h).replace ac.sch q repl sort nu with
  | error e => simp only [Except.map]
  | ok r =>
    obtain ⟨res, nu1⟩ := r
    simp only [Except.map, List.isEmpty_map]
    have hoids := replace_oids hrep
    obtain ⟨_, _, hle⟩ := k.coherent.replace k.below hrep
    cases hcond : (res.matched.isEmpty && upsert) with
    | true =>
      simp only [↓reduceIte]
      have hup : upsert = true := (Bool.and_eq_true_iff.mp hcond).2
      have hins := upsert_abs (ac := ac) (c := ensureNs cat h) (nu := nu1) k.coherent
        (k.below.mono hle) kc.docsOk q (some repl) none [] (hw.ups hup) (by rw [hoids]; exact hw.oids)
      rw [hoids] at hins
      rw [← hins]
      cases hu : (ensureNs cat h).upsert ac q (some repl) none [] nu1 with
      | error e => rfl
      | ok r2 =>
        obtain ⟨coll, sd, nu2⟩ := r2
        simp only [Except.map, abs_set_append g.1.oplog hne, appendOplog_nu]
    | false =>
      simp only [Bool.false_eq_true, ↓reduceIte]
      cases hm : res.modified with
      | nil => simp [abs_set cat res.coll hne, hoids]
      | cons m rest => simp [abs_set_append g.1.oplog hne, appendOplog_nu, hoids]

/-- `Transaction.Replace` (after `validateReplacement`) = the Spec's `replaceCall` -/
theorem txnReplace_abs {ac : ACtx} (s : Sys) (h : Handle) (q repl : Doc) (sort : Option Doc) (upsert : Bool)
    (oids : List V) (g : Good ac.sch true s.catalog s.nextId) (ok : OkDB (abs s.catalog))
    (hw : ReplaceOk ac (abs s.catalog) h q repl upsert oids) :
    replaceCall ac (abs s.catalog) h q repl sort upsert oids =
      (match validateReplacement repl with
       | .error e => (.error e : Res (Txn × TResult × Nu))
       | .ok _ => Txn.replace ac { catalog := s.catalog } h q sort repl upsert (s.nu oids)).map
        (fun (r : Txn × TResult × Nu) => (abs (s.commit r.1 r.2.2).catalog, r.2.1)) := by
  unfold replaceCall Txn.replace
  cases validateReplacement repl with
  | error e => rfl
  | ok _ =>
    simp only
    cases hwr : writable h true with
    | error e => rfl
    | ok _ =>
      have hne := writable_ne_oplog hwr
      simp only [abs_get? s.catalog hne, Option.isNone_map]
      cases hg : ((s.catalog.get? h).isNone && !upsert) with
      | true => simp [Except.map, Sys.commit]
      | false =>
        simp only [Bool.false_eq_true, ↓reduceIte]
        have hop := replaceOp_abs (nu := s.nu oids) g ok hne q repl sort upsert hw
        simp only [Sys.nu] at hop ⊢
        rw [← hop]
        cases replaceOp ac s.catalog h q repl sort upsert { nextId := s.nextId, oids := oids } with
        | error e => rfl
        | ok r =>
          obtain ⟨cat', res, nu'⟩ := r
          simp only [Except.map]
          cases hb : (!res.modified.isEmpty || res.upserted.isSome) <;> simp [Sys.commit, keepIf]

theorem refines_replaceOne (s : Sys) (h : Handle) (q repl : Doc) (upsert : Bool) (oids : List V)
    (g : Good sch true s.catalog s.nextId) (ok : OkDB (abs s.catalog))
    (hw : ReplaceOk (acOf sch) (abs s.catalog) h q repl upsert oids) :
    Refines sch s (.replaceOne h q repl upsert) oids := by
  unfold Refines Sys.step
  simp only [Spec.step, runCall, txnReplace_abs (ac := acOf sch) s h q repl none upsert oids g ok hw]
  cases validateReplacement repl with
  | error e => rfl
  | ok _ =>
    simp only
    cases Txn.replace (acOf sch) { catalog := s.catalog } h q none repl upsert (s.nu oids) with
    | error e => rfl
    | ok r => rfl

theorem refines_findOneAndReplace (s : Sys) (h : Handle) (q repl : Doc) (sort proj : Option Doc)
    (upsert after : Bool) (oids : List V) (g : Good sch true s.catalog s.nextId) (ok : OkDB (abs s.catalog))
    (hw : ReplaceOk (acOf sch) (abs s.catalog) h q repl upsert oids) :
    Refines sch s (.findOneAndReplace h q repl sort proj upsert after) oids := by
  unfold Refines Sys.step
  simp only [Spec.step, runCall, txnReplace_abs (ac := acOf sch) s h q repl sort upsert oids g ok hw]
  cases validateReplacement repl with
  | error e => rfl
  | ok _ =>
    simp only
    cases Txn.replace (acOf sch) { catalog := s.catalog } h q sort repl upsert (s.nu oids) with
    | error e => rfl
    | ok r =>
      obtain ⟨t, res, nu⟩ := r
      simp only [Except.map]
      cases projOpt sch proj (famDoc res after) with
      | error e => rfl
      | ok d => rfl

end Lungo.SeqRef
