/-
  Lungo.Proofs.ExpireLaws — TTL expiry (C19): the `$or`-of-`$lt` filter built by Transaction.Expire
  decides exactly "some value offered for the TTL field is a date before the cutoff"; Collection.Delete
  with that filter removes exactly the matching documents; what the loop over the namespaces does.
-/
import Lungo.Proofs.OplogLaws
import Lungo.Proofs.CompareLaws
import Lungo.Proofs.MatchLaws
import Lungo.Proofs.CollEq
namespace Lungo

/-- the field of a TTL index: the first key of its key document (`(*Config.Key)[0].Key`) -/
def ttlField (i : Index) : String :=
  match i.config.key with
  | (k, _) :: _ => k
  | [] => ""

/-- `time.Now().Add(-expiry)` as a BSON date (milliseconds) -/
def ttlCutoff (i : Index) (nowMs : Int) : Int := nowMs - i.config.expiry / 1000000

/-- the condition document `{field: {$lt: cutoff}}` of one TTL index -/
def ttlCond (i : Index) (nowMs : Int) : Doc := [(ttlField i, .doc [("$lt", .date (ttlCutoff i nowMs))])]

/-- the TTL indexes of a collection -/
def ttlIndexes (c : Coll) : List (String × Index) := c.indexes.filter fun (_, i) => i.config.expiry > 0

/-- a value that is a date strictly before the cutoff -/
def isExpiredDate (cutoff : Int) : V → Bool
  | .date ms => ms < cutoff
  | _ => false

/-- the values the matcher offers to a comparison operator for `path` (matchUnwind with
    merge = true, yieldMerge = false): the elements of the value at `path` if it is an array
    (for a fan-out path: the merged candidate list), plus the value itself unless the path fanned
    out over an array of documents. -/
def offered (d : Doc) (path : String) : List V :=
  let (value, multi) := All d (splitPath path) true true
  (match value with
   | .arr arr => arr
   | _ => []) ++ (if multi then [] else [value])

/-- `offered` is what `matchUnwind` hands to a comparison operator -/
theorem offered_eq_unwound (d : Doc) (path : String) : offered d path = unwound d path true false := by
  unfold offered unwound
  generalize All d (splitPath path) true true = r
  obtain ⟨value, multi⟩ := r
  cases multi <;> rfl

/-- document `d` is expired w.r.t. TTL index `i` at time `nowMs` -/
def expiredBy (i : Index) (nowMs : Int) (d : Doc) : Bool :=
  (offered d (ttlField i)).any (isExpiredDate (ttlCutoff i nowMs))

/-- document `d` of collection `c` is expired at time `nowMs` -/
def expired (c : Coll) (nowMs : Int) (d : Doc) : Bool :=
  (ttlIndexes c).any fun ni => expiredBy ni.2 nowMs d

theorem intCmp_lt (a b : Int) : (intCmp a b == .lt) = decide (a < b) := by
  unfold intCmp
  by_cases h : a < b
  · simp [h]
  · by_cases h2 : a = b <;> simp [h, h2] <;> split <;> simp_all

/-- type bracketing: `$lt date` holds exactly for dates before it -/
theorem lt_date_test (c : Int) :
    (fun field : V => field.cls == (V.date c).cls && V.cmp field (.date c) == .lt) = isExpiredDate c := by
  funext field
  cases field <;> simp [V.cls, isExpiredDate, V.cmp_date, intCmp_lt]

/-- one TTL condition `{f: {$lt: date}}` evaluates to a truth value, never to an error -/
theorem mProcess_ttlCond (sch : SchemaEval) (d : Doc) (i : Index) (nowMs : Int)
    (hf : isOpKey (ttlField i) = false) :
    mProcess sch d (ttlCond i nowMs) "" true
      = if expiredBy i nowMs d then .ok () else .error .notMatched := by
  unfold ttlCond
  rw [mProcess, mProcess]
  have hop : mOp sch d "$lt" (ttlField i) (.date (ttlCutoff i nowMs))
      = if expiredBy i nowMs d then .ok () else .error .notMatched := by
    rw [mOp_leaf sch d "$lt" (ttlField i) _ _ rfl, matchComp_lt_bool, matchUnwind_toRes, lt_date_test,
      unwindAny_eq, ← offered_eq_unwound]
    rfl
  have hexpr : mExpr sch d "" (ttlField i) (.doc [("$lt", .date (ttlCutoff i nowMs))]) true
      = if expiredBy i nowMs d then .ok () else .error .notMatched := by
    unfold mExpr
    simp only [hf, Bool.false_eq_true, ↓reduceIte, joinKey]
    have : isOpKey "$lt" = true := by simp [isOpKey]
    simp only [this, ↓reduceIte, BEq.rfl]
    rw [mOps]
    simp only [this, Bool.not_true, Bool.false_eq_true, ↓reduceIte, hop]
    rw [mOps]
    split <;> simp_all
  rw [hexpr]
  split <;> simp_all

theorem disj_bools (bs : List Bool) :
    disj (bs.map fun b => if b then (.ok () : Res Unit) else .error .notMatched)
      = if bs.any id then .ok () else .error .notMatched := by
  induction bs with
  | nil => simp [disj]
  | cons b r ih =>
    cases b
    · simp only [List.map_cons, disj, Bool.false_eq_true, ↓reduceIte, List.any_cons, id, Bool.false_or]
      exact ih
    · simp [disj]

/-- the field of every TTL index is a plain field name (not a `$`-operator key) -/
def TTLFieldsPlain (c : Coll) : Prop := ∀ ni ∈ ttlIndexes c, isOpKey (ttlField ni.2) = false

/-- the query document built by Transaction.Expire for collection `c` -/
def expireQuery (c : Coll) (nowMs : Int) : Doc :=
  [("$or", .arr ((ttlIndexes c).map fun ni => V.doc (ttlCond ni.2 nowMs)))]

/-- the filter of Transaction.Expire decides `expired` and never fails -/
theorem expireQuery_match (sch : SchemaEval) (c : Coll) (nowMs : Int) (hne : ttlIndexes c ≠ [])
    (hf : TTLFieldsPlain c) (d : Doc) : Match sch d (expireQuery c nowMs) = .ok (expired c nowMs d) := by
  have hq : expireQuery c nowMs = [("$or", .arr (((ttlIndexes c).map fun ni => ttlCond ni.2 nowMs).map V.doc))] := by
    rw [List.map_map]; rfl
  have hconds : ((ttlIndexes c).map fun ni => ttlCond ni.2 nowMs).map (fun q => mProcess sch d q "" true)
      = ((ttlIndexes c).map fun ni => expiredBy ni.2 nowMs d).map
          fun b => if b then (.ok () : Res Unit) else .error .notMatched := by
    simp only [List.map_map]
    exact List.map_congr_left fun ni hni => mProcess_ttlCond sch d ni.2 nowMs (hf ni hni)
  unfold Match
  rw [hq, mProcess, mExpr_or_disj sch d "" _ (by simpa using hne), hconds, disj_bools, List.any_map]
  rw [show (ttlIndexes c).any (id ∘ fun ni => expiredBy ni.2 nowMs d) = expired c nowMs d from rfl]
  cases expired c nowMs d <;> simp [mProcess]

/-- filtering with a filter that always evaluates to a truth value (limit 0 = all) -/
theorem filterDocs_pure (sch : SchemaEval) (q : Doc) (p : Doc → Bool)
    (hp : ∀ d, Match sch d q = .ok (p d)) (l : List SDoc) :
    filterDocs sch q 0 l = .ok (l.filter fun sd => p sd.doc) := by
  induction l with
  | nil => rfl
  | cons sd r ih =>
    rw [filterDocs, hp sd.doc]
    cases h : p sd.doc
    · simp only [List.filter_cons, h]; exact ih
    · simp only [List.filter_cons, h]
      simp [ih]

/-- a function that separates the members of a list is injective on it -/
theorem eq_of_pairwise_ne {α β} {f : α → β} {l : List α} (hd : l.Pairwise fun a b => f a ≠ f b) {x y : α}
    (hx : x ∈ l) (hy : y ∈ l) (e : f x = f y) : x = y := by
  induction l with
  | nil => cases hx
  | cons a r ih =>
    rw [List.pairwise_cons] at hd
    rcases List.mem_cons.mp hx with rfl | hx' <;> rcases List.mem_cons.mp hy with rfl | hy'
    · rfl
    · exact absurd e (hd.1 y hy')
    · exact absurd e.symm (hd.1 x hx')
    · exact ih hd.2 hx' hy'

/-- document identities (Go pointers) are pairwise distinct within a collection -/
def DocIdsDistinct (c : Coll) : Prop := c.docs.Pairwise fun a b => a.id ≠ b.id

/-- removing by the identities of the selected documents removes the selected documents -/
theorem filter_by_ids {l : List SDoc} (hd : l.Pairwise fun a b => a.id ≠ b.id) (q : SDoc → Bool) :
    l.filter (fun sd => !((l.filter q).any (·.id == sd.id))) = l.filter (fun sd => !q sd) := by
  apply List.filter_congr
  intro sd hsd
  congr 1
  rw [Bool.eq_iff_iff, List.any_eq_true]
  constructor
  · rintro ⟨x, hx, hid⟩
    rw [List.mem_filter] at hx
    exact eq_of_pairwise_ne hd hx.1 hsd (by simpa using hid) ▸ hx.2
  · exact fun hq => ⟨sd, List.mem_filter.mpr ⟨hsd, hq⟩, by simp⟩

/-- Collection.Delete(query, nil, 0, 0) with a filter that always yields a truth value -/
theorem Coll.delete_pure (sch : SchemaEval) (c : Coll) (q : Doc) (p : Doc → Bool)
    (hp : ∀ d, Match sch d q = .ok (p d)) (c' : Coll) (list : List SDoc)
    (h : c.delete sch q none 0 0 = .ok (c', list)) :
    list = c.docs.filter (fun sd => p sd.doc) ∧
    c'.docs = c.docs.filter (fun sd => !(list.any (·.id == sd.id))) := by
  obtain ⟨hsel, _, _, rfl⟩ := Coll.delete_ok h
  simp only [selectDocs, Int.lt_irrefl, ↓reduceIte, gt_iff_lt, filterDocs_pure sch q p hp, Int.toNat_zero,
    List.drop_zero, Except.ok.injEq] at hsel
  exact ⟨hsel.symm, rfl⟩

/-- the delete events of a list of removed documents -/
def deleteSpecs (h : Handle) (rm : List SDoc) : List EvSpec := rm.map fun sd => ⟨h, "delete", some sd.doc, none⟩

/-- Transaction.delete(handle, …, query, nil, 0, 0) with a truth-valued filter `p`: the namespace
    loses exactly the documents satisfying `p` (order kept), every other namespace is untouched,
    and the oplog gains one delete event per removed document in natural order. -/
theorem deleteOp_pure (sch : SchemaEval) (cat : Catalog) (h : Handle) (q : Doc) (p : Doc → Bool)
    (hp : ∀ d, Match sch d q = .ok (p d)) (c : Coll) (hc : cat.get? h = some c) (hd : DocIdsDistinct c)
    (hno : h ≠ oplogHandle) (nu : Nu) (cat' : Catalog) (res : TResult) (nu' : Nu)
    (hr : deleteOp sch cat h q none 0 0 nu = .ok (cat', res, nu')) :
    let rm := c.docs.filter (fun sd => p sd.doc)
    res.matched = rm.map (·.doc) ∧
    (∃ c', cat'.get? h = some c' ∧ c'.docs = c.docs.filter (fun sd => !p sd.doc)) ∧
    (∀ h', h' ≠ h → h' ≠ oplogHandle → cat'.get? h' = cat.get? h') ∧
    Ext cat cat' (deleteSpecs h rm) := by
  obtain ⟨coll, list, hdel, hm, rfl, _⟩ := deleteOp_ok hr
  rw [ensureNs_of_get hc] at hdel
  obtain ⟨rfl, hdocs⟩ := Coll.delete_pure sch c q p hp coll _ hdel
  refine ⟨hm, ⟨coll, ?_, hdocs.trans (filter_by_ids hd _)⟩, fun h' hne hne2 => ?_, Ext.write cat h coll nu _ hno⟩
  · rw [write_get? _ _ _ _ _ _ hno, if_pos rfl]
  · rw [write_get? _ _ _ _ _ _ hne2, if_neg hne]

/-- the documents an expiry pass removes from collection `c` -/
def expiredDocs (c : Coll) (nowMs : Int) : List SDoc := c.docs.filter fun sd => expired c nowMs sd.doc

/-- the delete events of an expiry pass over the namespaces `l` (in iteration order) -/
def expireSpecs (nowMs : Int) (l : List (Handle × Coll)) : List EvSpec :=
  l.flatMap fun hc => deleteSpecs hc.1 (expiredDocs hc.2 nowMs)

theorem expired_of_no_ttl (c : Coll) (nowMs : Int) (h : ttlIndexes c = []) (d : Doc) : expired c nowMs d = false := by
  simp [expired, h]

theorem expiredDocs_of_no_ttl (c : Coll) (nowMs : Int) (h : ttlIndexes c = []) : expiredDocs c nowMs = [] := by
  simp [expiredDocs, expired_of_no_ttl c nowMs h]

/-- one round of the loop: a namespace without TTL index is skipped, in any other the documents matching the
    query built from its TTL indexes are deleted -/
theorem expire_go_cons (sch : SchemaEval) (nowMs : Int) (cat : Catalog) (nu : Nu) (deleted : Nat) (h : Handle) (c : Coll)
    (r : List (Handle × Coll)) :
    Txn.expire.go sch nowMs cat nu deleted ((h, c) :: r) =
      if (ttlIndexes c).isEmpty then Txn.expire.go sch nowMs cat nu deleted r else
        match deleteOp sch cat h (expireQuery c nowMs) none 0 0 nu with
        | .error e => .error e
        | .ok (cat', res, nu') => Txn.expire.go sch nowMs cat' nu' (deleted + res.matched.length) r := by
  rw [Txn.expire.go]
  rfl

/-- what the loop of Transaction.Expire does to the catalog -/
theorem expire_go_spec (sch : SchemaEval) (nowMs : Int) (l : List (Handle × Coll)) :
    ∀ (cat : Catalog) (nu : Nu) (deleted : Nat) (cat' : Catalog) (nu' : Nu) (deleted' : Nat),
    l.Pairwise (fun a b => a.1 ≠ b.1) →
    (∀ hc ∈ l, hc.1 ≠ oplogHandle → cat.get? hc.1 = some hc.2) →
    (∀ hc ∈ l, ttlIndexes hc.2 ≠ [] → hc.1 ≠ oplogHandle ∧ DocIdsDistinct hc.2 ∧ TTLFieldsPlain hc.2) →
    Txn.expire.go sch nowMs cat nu deleted l = .ok (cat', nu', deleted') →
    (∀ hc ∈ l, hc.1 ≠ oplogHandle → ∃ c', cat'.get? hc.1 = some c' ∧
        c'.docs = hc.2.docs.filter (fun sd => !expired hc.2 nowMs sd.doc) ∧ (ttlIndexes hc.2 = [] → c' = hc.2)) ∧
    (∀ h', h' ≠ oplogHandle → (∀ hc ∈ l, hc.1 ≠ h') → cat'.get? h' = cat.get? h') ∧
    Ext cat cat' (expireSpecs nowMs l) ∧
    deleted' = deleted + (expireSpecs nowMs l).length := by
  induction l with
  | nil =>
    intro cat nu deleted cat' nu' deleted' _ _ _ hr
    simp only [Txn.expire.go, Except.ok.injEq, Prod.mk.injEq] at hr
    obtain ⟨rfl, rfl, rfl⟩ := hr
    exact ⟨nofun, fun _ _ _ => rfl, Ext.refl _, rfl⟩
  | cons hc r ih =>
    intro cat nu deleted cat' nu' deleted' hnd hsync hgood hr
    obtain ⟨h, c⟩ := hc
    rw [List.pairwise_cons] at hnd
    rw [expire_go_cons] at hr
    -- the first namespace: `cat1` is the catalog after its round
    obtain ⟨cat1, nu1, hc1, hother, hext, hr⟩ : ∃ cat1 nu1,
        (h ≠ oplogHandle → ∃ c1, cat1.get? h = some c1 ∧
          c1.docs = c.docs.filter (fun sd => !expired c nowMs sd.doc) ∧ (ttlIndexes c = [] → c1 = c)) ∧
        (∀ h', h' ≠ h → h' ≠ oplogHandle → cat1.get? h' = cat.get? h') ∧
        Ext cat cat1 (deleteSpecs h (expiredDocs c nowMs)) ∧
        Txn.expire.go sch nowMs cat1 nu1 (deleted + (expiredDocs c nowMs).length) r = .ok (cat', nu', deleted') := by
      by_cases hempty : ttlIndexes c = []
      · rw [if_pos (by rw [hempty]; rfl)] at hr
        refine ⟨cat, nu, fun hno => ⟨c, hsync _ (List.mem_cons_self ..) hno, ?_, fun _ => rfl⟩, fun _ _ _ => rfl, ?_, ?_⟩
        · exact (List.filter_eq_self.mpr fun sd _ => by simp [expired_of_no_ttl c nowMs hempty]).symm
        · rw [expiredDocs_of_no_ttl c nowMs hempty]; exact Ext.refl _
        · rw [expiredDocs_of_no_ttl c nowMs hempty]; exact hr
      · rw [if_neg (by simpa using hempty)] at hr
        obtain ⟨hno, hdist, hplain⟩ := hgood (h, c) (List.mem_cons_self ..) hempty
        split at hr
        · cases hr
        · rename_i cat1 res nu1 hdel
          obtain ⟨hm, ⟨c1, hc1, hc1docs⟩, hother, hext⟩ :=
            deleteOp_pure sch cat h (expireQuery c nowMs) (expired c nowMs) (expireQuery_match sch c nowMs hempty hplain)
              c (hsync _ (List.mem_cons_self ..) hno) hdist hno nu cat1 res nu1 hdel
          rw [hm, List.length_map] at hr
          exact ⟨cat1, nu1, fun _ => ⟨c1, hc1, hc1docs, fun e => absurd e hempty⟩, hother, hext, hr⟩
    obtain ⟨ha, hb, hc', he⟩ := ih cat1 nu1 _ cat' nu' deleted' hnd.2
      (fun x hx hxo => by rw [hother x.1 (Ne.symm (hnd.1 x hx)) hxo]; exact hsync x (List.mem_cons_of_mem _ hx) hxo)
      (fun x hx => hgood x (List.mem_cons_of_mem _ hx)) hr
    have hspec : expireSpecs nowMs ((h, c) :: r) = deleteSpecs h (expiredDocs c nowMs) ++ expireSpecs nowMs r :=
      List.flatMap_cons
    have hlen : (deleteSpecs h (expiredDocs c nowMs)).length = (expiredDocs c nowMs).length := List.length_map _
    refine ⟨fun x hx hxo => ?_, fun h' hno' hall => ?_, hspec ▸ hext.trans hc', ?_⟩
    · rcases List.mem_cons.mp hx with rfl | hx'
      · obtain ⟨c1, hg, hrest⟩ := hc1 hxo
        exact ⟨c1, by rw [hb h hxo (fun y hy => Ne.symm (hnd.1 y hy))]; exact hg, hrest⟩
      · exact ha x hx' hxo
    · rw [hb h' hno' (fun y hy => hall y (List.mem_cons_of_mem _ hy))]
      exact hother h' (Ne.symm (hall (h, c) (List.mem_cons_self ..))) hno'
    · rw [he, hspec, List.length_append, hlen, Nat.add_assoc]

end Lungo
