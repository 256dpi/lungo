/-
  Lungo.Proofs.OwnSys — a history of transaction calls, publishes (Engine.Commit) and snapshot-taking
  steps over one heap.  Two facts carry everything C02/C03 say about histories: no event changes an object
  that exists (`Sys.run_agree`), and the invariant `Sys.Good` (closed heap, allocated roots, valid
  snapshots) survives every event; together: an existing root shows the same for ever (`Sys.Good.observe_run`).
-/
import Lungo.Proofs.OwnClosed
import Lungo.Expected.TxnPrograms
import Lungo.Model.CommitStore
namespace Lungo.Own

/-- the driver hands the transaction FRESH documents (`bsonkit.Transform` of the caller's values) -/
def allocArgs (h : Heap) : List (Var × List Nat) → Heap × List (Var × List Nat)
  | [] => (h, [])
  | (v, vals) :: r =>
    let a := h.allocs (vals.map Obj.doc)
    let b := allocArgs a.1 r
    (b.1, (v, a.2) :: b.2)

theorem allocArgs_spec (h : Heap) (d : List (Var × List Nat)) :
    h.size ≤ (allocArgs h d).1.size ∧ Agree h (allocArgs h d).1 ∧ (Closed h → Closed (allocArgs h d).1) ∧
    ∀ p ∈ (allocArgs h d).2, ∀ o ∈ p.2, h.size ≤ o := by
  induction d generalizing h with
  | nil => exact ⟨Nat.le_refl _, Agree.refl _, id, by simp [allocArgs]⟩
  | cons x r ih =>
    obtain ⟨v, vals⟩ := x
    simp only [allocArgs]
    have sz := Heap.allocs_size h (vals.map Obj.doc)
    obtain ⟨i1, i2, i3, i4⟩ := ih (h.allocs (vals.map Obj.doc)).1
    refine ⟨by omega, fun o ho => ?_, fun c => i3 (c.allocs _ ?_), fun p hp o ho => ?_⟩
    · rw [i2 o (by omega)]; exact h.allocs_get_lt _ ho
    · intro y hy q hq; obtain ⟨w, _, rfl⟩ := List.mem_map.mp hy; simp [Obj.ptrs] at hq
    · rcases List.mem_cons.mp hp with rfl | hp
      · exact (Heap.allocs_ids h _ o ho).1
      · have := i4 p hp o ho; omega

structure Sys where
  heap : Heap
  txn : TxnState                    -- the active transaction (catalog pointer, dirty flag)
  engine : Nat                      -- e.catalog: what every client without the transaction sees
  snaps : List (Nat × CatView)      -- recorded snapshot roots with what they showed when taken

inductive Ev
  | call (name : String) (handle : Nat) (docs : List (Var × List Nat)) (ch : Choices)
                                    -- one Transaction write method (by name) with arbitrary nondeterminism
  | begin                           -- Engine.Begin: NewTransaction(e.catalog)
  | commit (r : CommitStore.StoreRes)   -- Engine.Commit: store, then `e.catalog = txn.Catalog()`
  | abort                           -- Engine.Abort
  | snapTxn                         -- somebody keeps `t.Catalog()` (a cursor, a read inside the transaction)
  | snapEngine                      -- somebody keeps `e.catalog` (a read-only transaction, a cursor)

def Sys.step (s : Sys) : Ev → Sys
  | .call name handle docs ch =>
    match Expected.txnPrograms.lookup name with
    | none => s
    | some p =>
      let a := allocArgs s.heap docs
      let r := run p { handle := handle, docs := a.2 } ch (a.1, s.txn)
      { s with heap := r.1, txn := r.2.1 }
  | .begin => { s with txn := ⟨s.engine, false⟩ }
  | .commit r =>
    if s.txn.dirty then
      match r with
      | .ok => { s with engine := s.txn.catalog }
      | _ => s
    else s
  | .abort => s
  | .snapTxn => { s with snaps := (s.txn.catalog, observe s.heap s.txn.catalog) :: s.snaps }
  | .snapEngine => { s with snaps := (s.engine, observe s.heap s.engine) :: s.snaps }

def Sys.run (s : Sys) : List Ev → Sys
  | [] => s
  | e :: es => (s.step e).run es

/-- the history invariant -/
structure Sys.Good (s : Sys) : Prop where
  wf : WF s.heap s.txn
  engine : s.engine < s.heap.size
  snaps : ∀ p ∈ s.snaps, p.1 < s.heap.size ∧ observe s.heap p.1 = p.2

/-- a call leaves everything that existed before it untouched -/
theorem call_agree (name : String) (p : Prog) (hl : Expected.txnPrograms.lookup name = some p)
    (handle : Nat) (docs : List (Var × List Nat)) (ch : Choices) (h : Heap) (t : TxnState) :
    h.size ≤ (run p { handle := handle, docs := (allocArgs h docs).2 } ch ((allocArgs h docs).1, t)).1.size ∧
    Agree h (run p { handle := handle, docs := (allocArgs h docs).2 } ch ((allocArgs h docs).1, t)).1 := by
  obtain ⟨a1, a2, _, a4⟩ := allocArgs_spec h docs
  have hp := Expected.expected_owned (name, p) (lookup_mem hl)
  obtain ⟨s, _⟩ := run_sound false p hp { handle := handle, docs := (allocArgs h docs).2 } ch (allocArgs h docs).1 t
  refine ⟨Nat.le_trans a1 s.size, fun o ho => ?_⟩
  rw [s.frozen (Nat.lt_of_lt_of_le ho a1) (Nat.lt_of_lt_of_le ho a1) (.inr ?_)]
  · exact a2 o ho
  · intro hm
    obtain ⟨q, hq, hoq⟩ := List.mem_flatMap.mp hm
    have := a4 q hq o hoq
    omega

/-- a call moves the heap and the transaction only -/
theorem Sys.step_call (s : Sys) (name : String) (handle : Nat) (docs : List (Var × List Nat)) (ch : Choices) :
    (s.step (.call name handle docs ch)).engine = s.engine ∧ (s.step (.call name handle docs ch)).snaps = s.snaps := by
  simp only [Sys.step]
  split <;> exact ⟨rfl, rfl⟩

/-- **no event changes an object that exists**: calls write only what they allocate (their arguments arrive
    fresh), the other events do not touch the heap -/
theorem Sys.step_agree (s : Sys) (e : Ev) : s.heap.size ≤ (s.step e).heap.size ∧ Agree s.heap (s.step e).heap := by
  cases e with
  | call name handle docs ch =>
    simp only [Sys.step]
    split
    · exact ⟨Nat.le_refl _, Agree.refl _⟩
    · exact call_agree name _ ‹_› handle docs ch s.heap s.txn
  | commit r =>
    simp only [Sys.step]
    split
    · cases r <;> exact ⟨Nat.le_refl _, Agree.refl _⟩
    · exact ⟨Nat.le_refl _, Agree.refl _⟩
  | begin | abort | snapTxn | snapEngine => exact ⟨Nat.le_refl _, Agree.refl _⟩

theorem Sys.run_agree (s : Sys) (es : List Ev) : s.heap.size ≤ (s.run es).heap.size ∧ Agree s.heap (s.run es).heap := by
  induction es generalizing s with
  | nil => exact ⟨Nat.le_refl _, Agree.refl _⟩
  | cons e es ih =>
    obtain ⟨l1, a1⟩ := s.step_agree e
    obtain ⟨l2, a2⟩ := ih (s.step e)
    exact ⟨Nat.le_trans l1 l2, a1.trans l1 a2⟩

theorem Sys.Good.step {s : Sys} (g : s.Good) (e : Ev) : (s.step e).Good := by
  cases e with
  | call name handle docs ch =>
    obtain ⟨le, ag⟩ := s.step_agree (.call name handle docs ch)
    obtain ⟨e1, e2⟩ := s.step_call name handle docs ch
    refine ⟨?_, e1 ▸ Nat.lt_of_lt_of_le g.engine le, e2 ▸ fun q hq => ⟨Nat.lt_of_lt_of_le (g.snaps q hq).1 le,
      (observe_agree g.wf.closed ag (g.snaps q hq).1).trans (g.snaps q hq).2⟩⟩
    simp only [Sys.step]
    split
    · exact g.wf
    · obtain ⟨a1, _, a3, _⟩ := allocArgs_spec s.heap docs
      exact wf_run _ _ ch _ _ ⟨a3 g.wf.closed, Nat.lt_of_lt_of_le g.wf.cat a1⟩
  | begin => exact ⟨⟨g.wf.closed, g.engine⟩, g.engine, g.snaps⟩
  | commit r =>
    simp only [Sys.step]
    split
    · cases r with
      | ok => exact ⟨g.wf, g.wf.cat, g.snaps⟩
      | fail | failWritten | panic => exact g
    · exact g
  | abort => exact g
  | snapTxn => exact ⟨g.wf, g.engine, List.forall_mem_cons.mpr ⟨⟨g.wf.cat, rfl⟩, g.snaps⟩⟩
  | snapEngine => exact ⟨g.wf, g.engine, List.forall_mem_cons.mpr ⟨⟨g.engine, rfl⟩, g.snaps⟩⟩

theorem Sys.Good.run {s : Sys} (g : s.Good) (es : List Ev) : (s.run es).Good := by
  induction es generalizing s with
  | nil => exact g
  | cons e es ih => exact ih (g.step e)

/-- **what an existing root shows never changes**, whatever happens later: calls that fail half-way, calls
    that succeed, commits with any store outcome, aborts -/
theorem Sys.Good.observe_run {s : Sys} (g : s.Good) (es : List Ev) {root : Nat} (hr : root < s.heap.size) :
    observe (s.run es).heap root = observe s.heap root :=
  observe_agree g.wf.closed (s.run_agree es).2 hr

end Lungo.Own
