/-
  Lungo.Proofs.CatStep — what a driver call does to its transaction, read off the model once.
  `runCall` runs at most one transaction method (`Call.txnCall`, `TxnCall.Runs`). Of every method there is one
  inversion (`Txn.…_ok`: the work it did on the catalog, and that it published the catalog it worked on or kept
  the transaction as it was), and every piece of work moves the catalog and ν by a few steps (`CatStep`), of
  which only one, `write`, looks at a collection — through the method of mongokit.Collection that made it
  (`CollStep`). A catalog invariant is then proved by induction over the steps; the methods and the 27 calls
  are not analysed again.
-/
import Lungo.Model.Api
namespace Lungo

variable {sch : SchemaEval} {ac : ACtx} {strict : Prop}

theorem writable_db {h : Handle} {b : Bool} (hw : writable h b = .ok ()) : h.db ≠ "local" := by
  unfold writable at hw
  split at hw
  · cases hw
  · split at hw
    · cases hw
    · rename_i hl
      simpa using hl

theorem writable_ne_oplog {h : Handle} {b : Bool} (hw : writable h b = .ok ()) : h ≠ oplogHandle :=
  fun e => writable_db hw (e ▸ rfl)

/-- what `Transaction.append` is called with -/
structure EvSpec where
  h : Handle
  op : String
  doc : Option Doc
  changes : Option (List (String × V))

def appendEv (cn : Catalog × Nu) (e : EvSpec) : Catalog × Nu := appendOplog cn.1 cn.2 e.h e.op e.doc e.changes

def appendEvs (cn : Catalog × Nu) (es : List EvSpec) : Catalog × Nu := es.foldl appendEv cn

/-- the `foldl` loops of the transaction methods are `appendEvs` over the mapped list -/
theorem foldl_appendOplog {α} (l : List α) (F : α → EvSpec) (cn : Catalog × Nu) :
    l.foldl (fun (cn : Catalog × Nu) a => appendOplog cn.1 cn.2 (F a).h (F a).op (F a).doc (F a).changes) cn
      = appendEvs cn (l.map F) := by
  unfold appendEvs
  rw [List.foldl_map]
  rfl

theorem appendEvs_append (cn : Catalog × Nu) (es fs : List EvSpec) :
    appendEvs cn (es ++ fs) = appendEvs (appendEvs cn es) fs := List.foldl_append

/-- a call of one transaction method with its arguments (`none`: the driver call only reads) -/
inductive TxnCall where
  | none
  | create (h : Handle)
  | insert (h : Handle) (list : List Doc) (ordered : Bool)
  | bulk (h : Handle) (ops : List Operation) (ordered : Bool)
  | replace (h : Handle) (q : Doc) (sort : Option Doc) (repl : Doc) (upsert : Bool)
  | update (h : Handle) (q : Doc) (sort : Option Doc) (u : Doc) (skip limit : Int) (upsert : Bool)
      (filters : List Doc)
  | delete (h : Handle) (q : Doc) (sort : Option Doc) (skip limit : Int)
  | createIndex (h : Handle) (name : String) (config : IndexConfig)
  | dropIndex (h : Handle) (name : String)
  | dropIndexByKey (h : Handle) (key : Doc)
  | drop (h : Handle)
  | expire (nowMs : Int)

/-- the method that `runCall` runs for a driver call -/
def Call.txnCall : Call → TxnCall
  | .insertOne h doc => .insert h [doc] true
  | .insertMany h docs ordered => .insert h docs ordered
  | .updateOne h q u upsert fs => .update h q none u 0 1 upsert fs
  | .updateMany h q u upsert fs => .update h q none u 0 0 upsert fs
  | .replaceOne h q repl upsert => .replace h q none repl upsert
  | .deleteOne h q => .delete h q none 0 1
  | .deleteMany h q => .delete h q none 0 0
  | .findOneAndDelete h q sort _ => .delete h q sort 0 1
  | .findOneAndReplace h q repl sort _ upsert _ => .replace h q sort repl upsert
  | .findOneAndUpdate h q u sort _ upsert _ fs => .update h q sort u 0 1 upsert fs
  | .bulkWrite h models ordered => .bulk h (models.map BulkModel.toOp) ordered
  | .createIndex h name config => .createIndex h name config
  | .dropIndex h name => .dropIndex h name
  | .dropAllIndexes h => .dropIndex h ""
  | .dropIndexByKey h key => .dropIndexByKey h key
  | .createCollection h => .create h
  | .dropCollection h => .drop h
  | .dropDatabase db => .drop ⟨db, ""⟩
  | .expire nowMs => .expire nowMs
  | .find .. | .findOne .. | .count .. | .estCount _ | .distinct .. | .listIndexes _
  | .listCollections .. | .listDatabases _ => .none

/-- method `m`, run on transaction `t` with `nu`, succeeded and left `t'` and `nu'` -/
inductive TxnCall.Runs (sch : SchemaEval) (t : Txn) (nu : Nu) : TxnCall → Txn → Nu → Prop
  | none : Runs sch t nu .none t nu
  | create {h t'} : t.create h = .ok t' → Runs sch t nu (.create h) t' nu
  | insert {h list ordered t' r nu'} :
      t.insert sch h list ordered nu = .ok (t', r, nu') → Runs sch t nu (.insert h list ordered) t' nu'
  | bulk {h ops ordered t' rs nu'} :
      t.bulk (acOf sch) h ops ordered nu = .ok (t', rs, nu') → Runs sch t nu (.bulk h ops ordered) t' nu'
  | replace {h q sort repl upsert t' r nu'} :
      t.replace (acOf sch) h q sort repl upsert nu = .ok (t', r, nu') →
      Runs sch t nu (.replace h q sort repl upsert) t' nu'
  | update {h q sort u skip limit upsert filters t' r nu'} :
      t.update (acOf sch) h q sort u skip limit upsert filters nu = .ok (t', r, nu') →
      Runs sch t nu (.update h q sort u skip limit upsert filters) t' nu'
  | delete {h q sort skip limit t' r nu'} :
      t.delete sch h q sort skip limit nu = .ok (t', r, nu') → Runs sch t nu (.delete h q sort skip limit) t' nu'
  | createIndex {h name config t' name'} :
      t.createIndex sch h name config = .ok (t', name') → Runs sch t nu (.createIndex h name config) t' nu
  | dropIndex {h name t'} : t.dropIndex h name = .ok t' → Runs sch t nu (.dropIndex h name) t' nu
  | dropIndexByKey {h key t'} : t.dropIndexByKey h key = .ok t' → Runs sch t nu (.dropIndexByKey h key) t' nu
  | drop {h t' nu'} : t.drop h nu = .ok (t', nu') → Runs sch t nu (.drop h) t' nu'
  | expire {nowMs t' k nu'} : t.expire sch nowMs nu = .ok (t', k, nu') → Runs sch t nu (.expire nowMs) t' nu'

/-- a successful driver call ran its method successfully, and transaction and ν are what the method
    left (validation before and reply shaping after the method change neither) -/
theorem runCall_runs {t t' : Txn} {nu nu' : Nu} {c : Call} {r : Reply}
    (e : runCall sch t nu c = .ok (t', nu', r)) : c.txnCall.Runs sch t nu t' nu' := by
  cases c with
  | insertOne h doc =>
    simp only [runCall] at e
    split at e
    · cases e
    · rename_i he
      split at e
      · cases e
      · split at e
        · simp only [Except.ok.injEq, Prod.mk.injEq] at e
          obtain ⟨rfl, rfl, _⟩ := e
          exact .insert he
        · cases e
  | insertMany h docs ordered =>
    simp only [runCall] at e
    split at e
    · cases e
    · rename_i he
      simp only [Except.ok.injEq, Prod.mk.injEq] at e
      obtain ⟨rfl, rfl, _⟩ := e
      exact .insert he
  | find h q o =>
    simp only [runCall] at e
    split at e
    · cases e
    · split at e
      · cases e
      · simp only [Except.ok.injEq, Prod.mk.injEq] at e
        obtain ⟨rfl, rfl, _⟩ := e
        exact .none
  | findOne h q o =>
    simp only [runCall] at e
    split at e
    · cases e
    · simp only [Except.ok.injEq, Prod.mk.injEq] at e
      obtain ⟨rfl, rfl, _⟩ := e
      exact .none
    · split at e
      · cases e
      · simp only [Except.ok.injEq, Prod.mk.injEq] at e
        obtain ⟨rfl, rfl, _⟩ := e
        exact .none
  | count h q skip limit =>
    simp only [runCall] at e
    split at e
    · cases e
    · simp only [Except.ok.injEq, Prod.mk.injEq] at e
      obtain ⟨rfl, rfl, _⟩ := e
      exact .none
  | estCount h =>
    simp only [runCall] at e
    split at e
    · cases e
    · simp only [Except.ok.injEq, Prod.mk.injEq] at e
      obtain ⟨rfl, rfl, _⟩ := e
      exact .none
  | distinct h field q =>
    simp only [runCall] at e
    split at e
    · cases e
    · simp only [Except.ok.injEq, Prod.mk.injEq] at e
      obtain ⟨rfl, rfl, _⟩ := e
      exact .none
  | updateOne h q u upsert fs =>
    simp only [runCall] at e
    split at e
    · cases e
    · rename_i he
      simp only [Except.ok.injEq, Prod.mk.injEq] at e
      obtain ⟨rfl, rfl, _⟩ := e
      exact .update he
  | updateMany h q u upsert fs =>
    simp only [runCall] at e
    split at e
    · cases e
    · rename_i he
      simp only [Except.ok.injEq, Prod.mk.injEq] at e
      obtain ⟨rfl, rfl, _⟩ := e
      exact .update he
  | replaceOne h q repl upsert =>
    simp only [runCall] at e
    split at e
    · cases e
    · split at e
      · cases e
      · rename_i he
        simp only [Except.ok.injEq, Prod.mk.injEq] at e
        obtain ⟨rfl, rfl, _⟩ := e
        exact .replace he
  | deleteOne h q =>
    simp only [runCall] at e
    split at e
    · cases e
    · rename_i he
      simp only [Except.ok.injEq, Prod.mk.injEq] at e
      obtain ⟨rfl, rfl, _⟩ := e
      exact .delete he
  | deleteMany h q =>
    simp only [runCall] at e
    split at e
    · cases e
    · rename_i he
      simp only [Except.ok.injEq, Prod.mk.injEq] at e
      obtain ⟨rfl, rfl, _⟩ := e
      exact .delete he
  | findOneAndDelete h q sort proj =>
    simp only [runCall] at e
    split at e
    · cases e
    · rename_i he
      split at e
      · cases e
      · simp only [Except.ok.injEq, Prod.mk.injEq] at e
        obtain ⟨rfl, rfl, _⟩ := e
        exact .delete he
  | findOneAndReplace h q repl sort proj upsert after =>
    simp only [runCall] at e
    split at e
    · cases e
    · split at e
      · cases e
      · rename_i he
        split at e
        · cases e
        · simp only [Except.ok.injEq, Prod.mk.injEq] at e
          obtain ⟨rfl, rfl, _⟩ := e
          exact .replace he
  | findOneAndUpdate h q u sort proj upsert after fs =>
    simp only [runCall] at e
    split at e
    · cases e
    · rename_i he
      split at e
      · cases e
      · simp only [Except.ok.injEq, Prod.mk.injEq] at e
        obtain ⟨rfl, rfl, _⟩ := e
        exact .update he
  | bulkWrite h models ordered =>
    simp only [runCall] at e
    split at e
    · cases e
    · split at e
      · cases e
      · rename_i he
        simp only [Except.ok.injEq, Prod.mk.injEq] at e
        obtain ⟨rfl, rfl, _⟩ := e
        exact .bulk he
  | createIndex h name config =>
    simp only [runCall] at e
    split at e
    · cases e
    · rename_i he
      simp only [Except.ok.injEq, Prod.mk.injEq] at e
      obtain ⟨rfl, rfl, _⟩ := e
      exact .createIndex he
  | dropIndex h name =>
    simp only [runCall] at e
    split at e
    · cases e
    · rename_i he
      simp only [Except.ok.injEq, Prod.mk.injEq] at e
      obtain ⟨rfl, rfl, _⟩ := e
      exact .dropIndex he
  | dropAllIndexes h =>
    simp only [runCall] at e
    split at e
    · cases e
    · rename_i he
      simp only [Except.ok.injEq, Prod.mk.injEq] at e
      obtain ⟨rfl, rfl, _⟩ := e
      exact .dropIndex he
  | dropIndexByKey h key =>
    simp only [runCall] at e
    split at e
    · cases e
    · rename_i he
      simp only [Except.ok.injEq, Prod.mk.injEq] at e
      obtain ⟨rfl, rfl, _⟩ := e
      exact .dropIndexByKey he
  | listIndexes h =>
    simp only [runCall] at e
    split at e
    · cases e
    · simp only [Except.ok.injEq, Prod.mk.injEq] at e
      obtain ⟨rfl, rfl, _⟩ := e
      exact .none
  | createCollection h =>
    simp only [runCall] at e
    split at e
    · cases e
    · rename_i he
      simp only [Except.ok.injEq, Prod.mk.injEq] at e
      obtain ⟨rfl, rfl, _⟩ := e
      exact .create he
  | dropCollection h =>
    simp only [runCall] at e
    split at e
    · cases e
    · split at e
      · cases e
      · rename_i he
        simp only [Except.ok.injEq, Prod.mk.injEq] at e
        obtain ⟨rfl, rfl, _⟩ := e
        exact .drop he
  | dropDatabase db =>
    simp only [runCall] at e
    split at e
    · cases e
    · rename_i he
      simp only [Except.ok.injEq, Prod.mk.injEq] at e
      obtain ⟨rfl, rfl, _⟩ := e
      exact .drop he
  | listCollections db q =>
    simp only [runCall] at e
    split at e
    · cases e
    · split at e
      · cases e
      · simp only [Except.ok.injEq, Prod.mk.injEq] at e
        obtain ⟨rfl, rfl, _⟩ := e
        exact .none
  | listDatabases q =>
    simp only [runCall] at e
    split at e
    · cases e
    · simp only [Except.ok.injEq, Prod.mk.injEq] at e
      obtain ⟨rfl, rfl, _⟩ := e
      exact .none
  | expire nowMs =>
    simp only [runCall] at e
    split at e
    · cases e
    · rename_i he
      simp only [Except.ok.injEq, Prod.mk.injEq] at e
      obtain ⟨rfl, rfl, _⟩ := e
      exact .expire he

/-- collection and index management: the collection as it is (a namespace is created),
    `Collection.CreateIndex`, `Collection.DropIndex`. The documents stay. -/
inductive IdxStep (ac : ACtx) : Coll → Coll → Prop
  | same (c) : IdxStep ac c c
  | createIndex {c c' name name' cfg} : c.createIndex ac.sch name cfg = .ok (c', name') → IdxStep ac c c'
  | dropIndex {c c' name dropped} : c.dropIndex name = .ok (c', dropped) → IdxStep ac c c'

/-- One call of mongokit.Collection as the catalog invariants see it: the collection and ν before and after.
    `h` is the handle of the namespace: indexes are never managed on the oplog. -/
inductive CollStep (ac : ACtx) (h : Handle) : Coll × Nu → Coll × Nu → Prop
  | insert {c c' d sd nu nu'} : c.insert ac.sch d nu = .ok (c', sd, nu') → CollStep ac h (c, nu) (c', nu')
  | upsert {c c' q repl u fs sd nu nu'} : c.upsert ac q repl u fs nu = .ok (c', sd, nu') → CollStep ac h (c, nu) (c', nu')
  | replace {c q repl sort res nu nu'} : c.replace ac.sch q repl sort nu = .ok (res, nu') →
      CollStep ac h (c, nu) (res.coll, nu')
  | update {c q u sort skip limit fs res nu nu'} : c.update ac q u sort skip limit fs nu = .ok (res, nu') →
      CollStep ac h (c, nu) (res.coll, nu')
  | delete {c c' q sort skip limit list nu} : c.delete ac.sch q sort skip limit = .ok (c', list) →
      CollStep ac h (c, nu) (c', nu)
  | manage {c c' nu} : h ≠ oplogHandle → IdxStep ac c c' → CollStep ac h (c, nu) (c', nu)

/-- How the pair (catalog, ν) moves while a transaction method runs: a namespace is replaced by what a
    collection method made of it (`write`), namespaces other than the oplog are dropped (`filter`), an event is
    appended to the oplog. `discard` is the work whose catalog is thrown away while ν has moved on: a method that
    found nothing to change, a `Collection.Replace` that matched nothing before the upsert.
    `strict` says that no write goes to the oplog namespace itself: `Txn.expire` deletes wherever it finds a TTL
    index, so this holds of it only when the oplog has none (`Txn.expire_steps`); `CatStep ac False` holds
    unconditionally (`runCall_steps`). -/
inductive CatStep (ac : ACtx) (strict : Prop) : Catalog × Nu → Catalog × Nu → Prop
  | refl (a) : CatStep ac strict a a
  | trans {a b c} : CatStep ac strict a b → CatStep ac strict b c → CatStep ac strict a c
  | discard {a b} : CatStep ac strict a b → CatStep ac strict a (a.1, b.2)
  | write {cat nu h coll nu1} : (strict → h ≠ oplogHandle) → CollStep ac h (ensureNs cat h, nu) (coll, nu1) →
      CatStep ac strict (cat, nu) (cat.set h coll, nu1)
  | filter {cat nu} (p : Handle × Coll → Bool) : (∀ c, p (oplogHandle, c) = true) →
      CatStep ac strict (cat, nu) ({ cat with namespaces := cat.namespaces.filter p }, nu)
  | oplog {cat nu h op doc ch} : CatStep ac strict (cat, nu) (appendOplog cat nu h op doc ch)

variable {cat cat' : Catalog} {h : Handle} {nu nu' : Nu} {t t' : Txn}

theorem CatStep.foldl {α : Type} (F : Catalog × Nu → α → Catalog × Nu)
    (hF : ∀ cn x, CatStep ac strict cn (F cn x)) :
    ∀ (l : List α) (cn : Catalog × Nu), CatStep ac strict cn (l.foldl F cn)
  | [], cn => .refl cn
  | x :: r, cn => (hF cn x).trans (foldl F hF r _)

/-! The four writes of transaction.go: the collection method, `write`, then events. -/

theorem insertOne_steps {d d' : Doc} (hs : strict → h ≠ oplogHandle)
    (e : insertOne ac.sch cat h d nu = .ok (cat', d', nu')) : CatStep ac strict (cat, nu) (cat', nu') := by
  unfold insertOne at e
  split at e
  · cases e
  · rename_i hi
    cases e
    exact (CatStep.write hs (.insert hi)).trans .oplog

theorem deleteOp_steps {q : Doc} {sort : Option Doc} {skip limit : Int} {r : TResult} (hs : strict → h ≠ oplogHandle)
    (e : deleteOp ac.sch cat h q sort skip limit nu = .ok (cat', r, nu')) : CatStep ac strict (cat, nu) (cat', nu') := by
  unfold deleteOp at e
  simp only at e
  split at e
  · cases e
  · rename_i hd
    cases e
    exact (CatStep.write hs (.delete hd)).trans (CatStep.foldl _ (fun _ _ => .oplog) _ _)

/-- the upsert branch of `replaceOp` and `updateOp`: the collection the method made is thrown away (it matched
    nothing), the upserted one is written and an insert logged -/
theorem CatStep.upserted {q : Doc} {repl u : Option Doc} {fs : List Doc} {coll c1 : Coll} {sd : SDoc} {nu1 nu2 : Nu}
    (hs : strict → h ≠ oplogHandle) (k : CollStep ac h (ensureNs cat h, nu) (c1, nu1))
    (e : (ensureNs cat h).upsert ac q repl u fs nu1 = .ok (coll, sd, nu2)) :
    CatStep ac strict (cat, nu) (appendOplog (cat.set h coll) nu2 h "insert" (some sd.doc) none) :=
  ((CatStep.write hs k).discard.trans (.write hs (.upsert e))).trans .oplog

theorem replaceOp_steps {q repl : Doc} {sort : Option Doc} {upsert : Bool} {r : TResult} (hs : strict → h ≠ oplogHandle)
    (e : replaceOp ac cat h q repl sort upsert nu = .ok (cat', r, nu')) : CatStep ac strict (cat, nu) (cat', nu') := by
  unfold replaceOp at e
  simp only at e
  split at e
  · cases e
  · rename_i hr
    split at e
    · split at e
      · cases e
      · rename_i hu
        cases e
        exact CatStep.upserted hs (.replace hr) hu
    · cases e
      split
      · exact (CatStep.write hs (.replace hr)).trans .oplog
      · exact .write hs (.replace hr)

theorem updateOp_steps {q u : Doc} {sort : Option Doc} {upsert : Bool} {skip limit : Int} {fs : List Doc} {r : TResult}
    (hs : strict → h ≠ oplogHandle) (e : updateOp ac cat h q u sort upsert skip limit fs nu = .ok (cat', r, nu')) :
    CatStep ac strict (cat, nu) (cat', nu') := by
  unfold updateOp at e
  simp only at e
  split at e
  · cases e
  · rename_i hr
    split at e
    · split at e
      · cases e
      · rename_i hu
        cases e
        exact CatStep.upserted hs (.update hr) hu
    · cases e
      exact (CatStep.write hs (.update hr)).trans (CatStep.foldl _ (fun _ _ => .oplog) _ _)

/-- `Txn.insert` and `Txn.bulk` start from the catalog with the namespace created -/
theorem CatStep.base (hne : h ≠ oplogHandle) :
    CatStep ac strict (cat, nu) (if (cat.get? h).isSome then cat else cat.set h (newColl true), nu) := by
  split
  · exact .refl _
  · have := CatStep.write (ac := ac) (strict := strict) (cat := cat) (nu := nu) (fun _ => hne) (.manage hne (.same _))
    rwa [show ensureNs cat h = newColl true by simp_all [ensureNs]] at this

/-- a method publishes the catalog it worked on, or keeps the transaction's own -/
theorem CatStep.publish {cat : Catalog} (k : CatStep ac strict (t.catalog, nu) (cat, nu'))
    (h : t' = t ∨ t' = { catalog := cat, dirty := true }) : CatStep ac strict (t.catalog, nu) (t'.catalog, nu') := by
  rcases h with rfl | rfl
  · exact k.discard
  · exact k

/-! One inversion per method (`Txn.…_ok`): the work it did on the catalog, and that it published the catalog it
    worked on or kept the transaction as it was. `Txn.…_steps` reads the steps off it. -/

theorem ite_eq_or {α : Type} {c : Prop} [Decidable c] (a b : α) :
    (if c then a else b) = a ∨ (if c then a else b) = b := by
  by_cases h : c
  · exact .inl (if_pos h)
  · exact .inr (if_neg h)

theorem Txn.insert_ok {sch : SchemaEval} {list : List Doc} {ordered : Bool} {r : TResult}
    (hr : t.insert sch h list ordered nu = .ok (t', r, nu')) :
    h ≠ oplogHandle ∧ ∃ g, g = Txn.insert.go sch h ordered
        (if (t.catalog.get? h).isSome then t.catalog else t.catalog.set h (newColl true)) nu [] none list ∧
      r = { modified := g.2.2.1, error := g.2.2.2 } ∧ nu' = g.2.1 ∧
      t' = if g.2.2.1.isEmpty then t else { catalog := g.1, dirty := true } := by
  unfold Txn.insert at hr
  split at hr
  · cases hr
  · rename_i hw
    cases hr
    exact ⟨writable_ne_oplog hw, _, rfl, rfl, rfl, rfl⟩

theorem Txn.bulk_ok {ops : List Operation} {ordered : Bool} {rs : List TResult}
    (hr : t.bulk ac h ops ordered nu = .ok (t', rs, nu')) :
    h ≠ oplogHandle ∧ ∃ g, g = Txn.bulk.go ac h ordered
        (if (t.catalog.get? h).isSome then t.catalog else t.catalog.set h (newColl true)) nu [] 0 ops ∧
      rs = g.2.2.1 ∧ nu' = g.2.1 ∧ t' = if g.2.2.2 > 0 then { catalog := g.1, dirty := true } else t := by
  unfold Txn.bulk at hr
  split at hr
  · cases hr
  · rename_i hw
    cases hr
    exact ⟨writable_ne_oplog hw, _, rfl, rfl, rfl, rfl⟩

/-- the common frame of `Txn.replace`, `Txn.update` and `Txn.delete`: check the handle, return the
    transaction at once if the namespace is missing (`guard`), else run `op` on the transaction's catalog
    and publish its catalog if it changed something (`cond`) -/
theorem guarded_ok {r : TResult} {guard : Bool} {cond : TResult → Bool} {op : Res (Catalog × TResult × Nu)}
    (e : (match writable h true with
      | .error e => .error e
      | .ok _ =>
        if guard then .ok (t, {}, nu) else
        match (generalizing := false) op with
        | .error e => .error e
        | .ok (cat, res, nu) =>
          if cond res then .ok ({ catalog := cat, dirty := true }, res, nu) else .ok (t, res, nu)
        : Res (Txn × TResult × Nu)) = .ok (t', r, nu')) :
    h ≠ oplogHandle ∧ ((t' = t ∧ r = {} ∧ nu' = nu) ∨ ∃ cat, op = .ok (cat, r, nu') ∧
      t' = if cond r then { catalog := cat, dirty := true } else t) := by
  split at e
  · cases e
  · rename_i hw
    refine ⟨writable_ne_oplog hw, ?_⟩
    split at e
    · cases e; exact .inl ⟨rfl, rfl, rfl⟩
    · split at e
      · cases e
      · rename_i _ cat res nu1
        split at e <;> cases e <;> exact .inr ⟨cat, rfl, by simp [*]⟩

theorem Txn.replace_ok {q repl : Doc} {sort : Option Doc} {upsert : Bool} {r : TResult}
    (hr : t.replace ac h q sort repl upsert nu = .ok (t', r, nu')) :
    h ≠ oplogHandle ∧ ((t' = t ∧ r = {} ∧ nu' = nu) ∨ ∃ cat, replaceOp ac t.catalog h q repl sort upsert nu = .ok (cat, r, nu') ∧
      t' = if !r.modified.isEmpty || r.upserted.isSome then { catalog := cat, dirty := true } else t) :=
  guarded_ok hr

theorem Txn.update_ok {q u : Doc} {sort : Option Doc} {upsert : Bool} {skip limit : Int} {fs : List Doc} {r : TResult}
    (hr : t.update ac h q sort u skip limit upsert fs nu = .ok (t', r, nu')) :
    h ≠ oplogHandle ∧ ((t' = t ∧ r = {} ∧ nu' = nu) ∨
      ∃ cat, updateOp ac t.catalog h q u sort upsert skip limit fs nu = .ok (cat, r, nu') ∧
      t' = if !r.modified.isEmpty || r.upserted.isSome then { catalog := cat, dirty := true } else t) :=
  guarded_ok hr

theorem Txn.delete_ok {sch : SchemaEval} {q : Doc} {sort : Option Doc} {skip limit : Int} {r : TResult}
    (hr : t.delete sch h q sort skip limit nu = .ok (t', r, nu')) :
    h ≠ oplogHandle ∧ ((t' = t ∧ r = {} ∧ nu' = nu) ∨ ∃ cat, deleteOp sch t.catalog h q sort skip limit nu = .ok (cat, r, nu') ∧
      t' = if !r.matched.isEmpty then { catalog := cat, dirty := true } else t) :=
  guarded_ok hr

/-- the namespaces `Txn.drop h` removes: `h` itself, or all of its database if `h` names no collection -/
def dropHit (h ns : Handle) : Bool := ns == h || (h.coll == "" && ns.db == h.db)

/-- the events `Txn.drop h` appends: one `drop` per removed namespace, then `dropDatabase` for a database -/
def dropSpecs (cat : Catalog) (h : Handle) : List EvSpec :=
  ((cat.namespaces.filter fun a => dropHit h a.1).map fun a => ⟨a.1, "drop", none, none⟩) ++
    (if h.coll == "" then [⟨h, "dropDatabase", none, none⟩] else [])

/-- the catalog without the namespaces `Txn.drop h` removes -/
def dropKeep (cat : Catalog) (h : Handle) : Catalog :=
  { cat with namespaces := cat.namespaces.filter fun a => !dropHit h a.1 }

theorem Txn.drop_ok (hr : t.drop h nu = .ok (t', nu')) :
    (t' = t ∧ nu' = nu) ∨ (h ≠ oplogHandle ∧ h.db ≠ "local" ∧
      nu' = (appendEvs (dropKeep t.catalog h, nu) (dropSpecs t.catalog h)).2 ∧
      t' = { catalog := (appendEvs (dropKeep t.catalog h, nu) (dropSpecs t.catalog h)).1, dirty := true }) := by
  unfold Txn.drop at hr
  split at hr
  · cases hr
  · rename_i hw
    simp only at hr
    split at hr
    · cases hr; exact .inl ⟨rfl, rfl⟩
    · rw [foldl_appendOplog _ (fun ns => (⟨ns, "drop", none, none⟩ : EvSpec)), List.map_map] at hr
      have : ∀ cn : Catalog × Nu, (if h.coll == "" then appendOplog cn.1 cn.2 h "dropDatabase" none none else cn) =
          appendEvs cn (if h.coll == "" then [⟨h, "dropDatabase", none, none⟩] else []) := fun cn => by split <;> rfl
      simp only [this, ← appendEvs_append] at hr
      cases hr
      exact .inr ⟨writable_ne_oplog hw, writable_db hw, rfl, rfl⟩

theorem Txn.expire_ok {sch : SchemaEval} {nowMs : Int} {n : Nat} (hr : t.expire sch nowMs nu = .ok (t', n, nu')) :
    ∃ cat, Txn.expire.go sch nowMs t.catalog nu 0 t.catalog.namespaces = .ok (cat, nu', n) ∧
      t' = if n > 0 then { catalog := cat, dirty := true } else t := by
  unfold Txn.expire at hr
  split at hr
  · cases hr
  · rename_i cat nu1 deleted hgo
    split at hr
    · rename_i hpos
      cases hr
      exact ⟨cat, hgo, by rw [if_pos hpos]⟩
    · rename_i hpos
      cases hr
      exact ⟨cat, by rw [hgo, Nat.eq_zero_of_not_pos hpos], rfl⟩

theorem Txn.insert.go_steps {ordered : Bool} (hne : h ≠ oplogHandle) :
    ∀ (list : List Doc) (cat : Catalog) (nu : Nu) (acc : List Doc) (err : Option Err),
    CatStep ac strict (cat, nu) ((Txn.insert.go ac.sch h ordered cat nu acc err list).1,
      (Txn.insert.go ac.sch h ordered cat nu acc err list).2.1)
  | [], cat, nu, acc, err => by rw [Txn.insert.go]; exact .refl _
  | d :: r, cat, nu, acc, err => by
    rw [Txn.insert.go]
    split
    · dsimp only
      split
      · exact .refl _
      · exact go_steps hne r cat nu acc _
    · rename_i cat' d' nu' hi
      exact (insertOne_steps (fun _ => hne) hi).trans (go_steps hne r cat' nu' _ err)

theorem Txn.insert_steps {list : List Doc} {ordered : Bool} {r : TResult}
    (e : t.insert ac.sch h list ordered nu = .ok (t', r, nu')) :
    CatStep ac strict (t.catalog, nu) (t'.catalog, nu') := by
  obtain ⟨hne, g, rfl, _, rfl, rfl⟩ := Txn.insert_ok e
  exact ((CatStep.base hne).trans (Txn.insert.go_steps hne list _ nu [] none)).publish (ite_eq_or ..)

theorem Txn.bulk.go_steps {ordered : Bool} (hne : h ≠ oplogHandle) :
    ∀ (ops : List Operation) (cat : Catalog) (nu : Nu) (acc : List TResult) (ch : Nat),
    CatStep ac strict (cat, nu) ((Txn.bulk.go ac h ordered cat nu acc ch ops).1,
      (Txn.bulk.go ac h ordered cat nu acc ch ops).2.1)
  | [], cat, nu, acc, ch => by rw [Txn.bulk.go]; exact .refl _
  | op :: r, cat, nu, acc, ch => by
    rw [Txn.bulk.go]
    simp only
    split
    · split
      · exact .refl _
      · exact go_steps hne r cat nu _ ch
    · rename_i cat' tr nu' hres
      refine .trans ?_ (go_steps hne r cat' nu' _ _)
      split at hres
      · split at hres
        · cases hres
        · rename_i hi
          simp only [Except.ok.injEq, Prod.mk.injEq] at hres
          obtain ⟨rfl, _, rfl⟩ := hres
          exact insertOne_steps (fun _ => hne) hi
      · exact replaceOp_steps (fun _ => hne) hres
      · exact updateOp_steps (fun _ => hne) hres
      · exact deleteOp_steps (fun _ => hne) hres

theorem Txn.bulk_steps {ops : List Operation} {ordered : Bool} {rs : List TResult}
    (e : t.bulk ac h ops ordered nu = .ok (t', rs, nu')) :
    CatStep ac strict (t.catalog, nu) (t'.catalog, nu') := by
  obtain ⟨hne, g, rfl, _, rfl, rfl⟩ := Txn.bulk_ok e
  exact ((CatStep.base hne).trans (Txn.bulk.go_steps hne ops _ nu [] 0)).publish (ite_eq_or ..).symm

/-- the three guarded methods: nothing to do, or the operation's steps and `publish` -/
theorem CatStep.of_guarded {r : TResult} {c : Bool} {op : Res (Catalog × TResult × Nu)}
    (hop : ∀ cat, op = .ok (cat, r, nu') → CatStep ac strict (t.catalog, nu) (cat, nu'))
    (k : (t' = t ∧ r = {} ∧ nu' = nu) ∨ ∃ cat, op = .ok (cat, r, nu') ∧ t' = if c then { catalog := cat, dirty := true } else t) :
    CatStep ac strict (t.catalog, nu) (t'.catalog, nu') := by
  rcases k with ⟨rfl, _, rfl⟩ | ⟨cat, e, rfl⟩
  · exact .refl _
  · exact (hop cat e).publish (ite_eq_or ..).symm

theorem Txn.replace_steps {q repl : Doc} {sort : Option Doc} {upsert : Bool} {r : TResult}
    (e : t.replace ac h q sort repl upsert nu = .ok (t', r, nu')) :
    CatStep ac strict (t.catalog, nu) (t'.catalog, nu') :=
  let ⟨hne, k⟩ := Txn.replace_ok e; CatStep.of_guarded (fun _ => replaceOp_steps fun _ => hne) k

theorem Txn.update_steps {q u : Doc} {sort : Option Doc} {skip limit : Int} {upsert : Bool} {filters : List Doc}
    {r : TResult} (e : t.update ac h q sort u skip limit upsert filters nu = .ok (t', r, nu')) :
    CatStep ac strict (t.catalog, nu) (t'.catalog, nu') :=
  let ⟨hne, k⟩ := Txn.update_ok e; CatStep.of_guarded (fun _ => updateOp_steps fun _ => hne) k

theorem Txn.delete_steps {q : Doc} {sort : Option Doc} {skip limit : Int} {r : TResult}
    (e : t.delete ac.sch h q sort skip limit nu = .ok (t', r, nu')) :
    CatStep ac strict (t.catalog, nu) (t'.catalog, nu') :=
  let ⟨hne, k⟩ := Txn.delete_ok e; CatStep.of_guarded (fun _ => deleteOp_steps fun _ => hne) k

/-- the oplog is neither the dropped namespace nor in the dropped database -/
theorem dropHit_oplog (hne : h ≠ oplogHandle) (hdb : h.db ≠ "local") : dropHit h oplogHandle = false := by
  have h1 : (oplogHandle == h) = false := beq_eq_false_iff_ne.mpr (Ne.symm hne)
  have h2 : (oplogHandle.db == h.db) = false := beq_eq_false_iff_ne.mpr (Ne.symm hdb)
  simp only [dropHit, h1, h2, Bool.and_false, Bool.or_false]

theorem Txn.drop_steps (e : t.drop h nu = .ok (t', nu')) :
    CatStep ac strict (t.catalog, nu) (t'.catalog, nu') := by
  rcases Txn.drop_ok e with ⟨rfl, rfl⟩ | ⟨hne, hdb, rfl, rfl⟩
  · exact .refl _
  · exact (CatStep.filter (fun a => !dropHit h a.1) fun c => by simp only [dropHit_oplog hne hdb, Bool.not_false]).trans
      (CatStep.foldl _ (fun _ _ => .oplog) _ _)

/-- What the methods that manage collections and indexes return: the transaction itself, or a dirty one in
    which one namespace (never the oplog) was replaced by what `Collection.CreateIndex` / `DropIndex` made of
    it, or — `Transaction.Create` — by itself. ν is not touched. -/
def Managed (ac : ACtx) (t t' : Txn) : Prop :=
  t' = t ∨ ∃ h coll, h ≠ oplogHandle ∧ IdxStep ac (ensureNs t.catalog h) coll ∧
    t' = { catalog := t.catalog.set h coll, dirty := true }

theorem Managed.steps (m : Managed ac t t') (nu : Nu) : CatStep ac strict (t.catalog, nu) (t'.catalog, nu) := by
  rcases m with rfl | ⟨h, coll, hne, k, rfl⟩
  · exact .refl _
  · exact .write (fun _ => hne) (.manage hne k)

theorem Txn.create_ok (hr : t.create h = .ok t') : Managed ac t t' := by
  unfold Txn.create at hr
  split at hr
  · cases hr
  · rename_i hw
    split at hr
    · cases hr; exact .inl rfl
    · cases hr
      refine .inr ⟨h, _, writable_ne_oplog hw, ?_, rfl⟩
      rw [show ensureNs t.catalog h = newColl true by simp_all [ensureNs]]
      exact .same _

theorem Txn.createIndex_ok {name name' : String} {cfg : IndexConfig}
    (hr : t.createIndex ac.sch h name cfg = .ok (t', name')) : Managed ac t t' := by
  unfold Txn.createIndex at hr
  split at hr
  · cases hr
  · rename_i hw
    split at hr
    · cases hr
    · rename_i hci
      cases hr
      exact .inr ⟨h, _, writable_ne_oplog hw, .createIndex hci, rfl⟩

theorem Txn.dropIndex_ok {name : String} (hr : t.dropIndex h name = .ok t') : Managed ac t t' := by
  unfold Txn.dropIndex at hr
  split at hr
  · cases hr
  · rename_i hw
    split at hr
    · cases hr
    · rename_i c hc
      split at hr
      · cases hr
      · rename_i hdi
        split at hr
        · cases hr; exact .inl rfl
        · cases hr
          refine .inr ⟨h, _, writable_ne_oplog hw, ?_, rfl⟩
          rw [show ensureNs t.catalog h = c by simp [ensureNs, hc]]
          exact .dropIndex hdi

theorem Txn.dropIndexByKey_ok {key : Doc} (hr : t.dropIndexByKey h key = .ok t') : Managed ac t t' := by
  unfold Txn.dropIndexByKey at hr
  split at hr
  · cases hr
  · split at hr
    · cases hr
    · split at hr
      · cases hr
      · exact Txn.dropIndex_ok hr

theorem Txn.create_steps (e : t.create h = .ok t') (nu : Nu) : CatStep ac strict (t.catalog, nu) (t'.catalog, nu) :=
  (Txn.create_ok e).steps nu

theorem Txn.createIndex_steps {name name' : String} {config : IndexConfig}
    (e : t.createIndex ac.sch h name config = .ok (t', name')) (nu : Nu) :
    CatStep ac strict (t.catalog, nu) (t'.catalog, nu) := (Txn.createIndex_ok e).steps nu

theorem Txn.dropIndex_steps {name : String} (e : t.dropIndex h name = .ok t') (nu : Nu) :
    CatStep ac strict (t.catalog, nu) (t'.catalog, nu) := (Txn.dropIndex_ok (ac := ac) e).steps nu

theorem Txn.dropIndexByKey_steps {key : Doc} (e : t.dropIndexByKey h key = .ok t') (nu : Nu) :
    CatStep ac strict (t.catalog, nu) (t'.catalog, nu) := (Txn.dropIndexByKey_ok (ac := ac) e).steps nu

/-- the oplog namespace carries no TTL index (it is created with `NewCollection(false)` and
    `local.*` is read-only), so an expiry pass never deletes from it -/
def OplogPlain (cat : Catalog) : Prop :=
  ∀ hc ∈ cat.namespaces, hc.1 = oplogHandle → hc.2.indexes.filter (fun (_, i) => i.config.expiry > 0) = []

theorem Txn.expire.go_steps {nowMs : Int} :
    ∀ (l : List (Handle × Coll)) (cat : Catalog) (nu : Nu) (deleted : Nat) {cat' : Catalog} {nu' : Nu} {d' : Nat},
    (strict → ∀ c, (oplogHandle, c) ∈ l → (c.indexes.filter fun (_, i) => i.config.expiry > 0) = []) →
    Txn.expire.go ac.sch nowMs cat nu deleted l = .ok (cat', nu', d') → CatStep ac strict (cat, nu) (cat', nu')
  | [], cat, nu, deleted, cat', nu', d', _, e => by
    simp only [Txn.expire.go, Except.ok.injEq, Prod.mk.injEq] at e
    obtain ⟨rfl, rfl, _⟩ := e
    exact .refl _
  | (h, c) :: r, cat, nu, deleted, cat', nu', d', hl, e => by
    rw [Txn.expire.go] at e
    simp only at e
    have hl' := fun hs c hm => hl hs c (List.mem_cons_of_mem _ hm)
    split at e
    · exact go_steps r cat nu deleted hl' e
    · rename_i httl
      split at e
      · cases e
      · rename_i cat1 res nu1 hd
        refine (deleteOp_steps (fun hs eh => httl ?_) hd).trans (go_steps r cat1 nu1 _ hl' e)
        rw [hl hs c (eh ▸ List.mem_cons_self ..)]
        rfl

theorem Txn.expire_steps {nowMs : Int} {k : Nat}
    (hp : strict → OplogPlain t.catalog) (e : t.expire ac.sch nowMs nu = .ok (t', k, nu')) :
    CatStep ac strict (t.catalog, nu) (t'.catalog, nu') := by
  obtain ⟨cat, hgo, rfl⟩ := Txn.expire_ok e
  exact (Txn.expire.go_steps t.catalog.namespaces t.catalog nu 0 (fun hs c hm => hp hs _ hm rfl) hgo).publish
    (ite_eq_or ..).symm

theorem TxnCall.Runs.steps {t t' : Txn} {nu nu' : Nu} {m : TxnCall} (hp : strict → OplogPlain t.catalog)
    (h : m.Runs sch t nu t' nu') : CatStep (acOf sch) strict (t.catalog, nu) (t'.catalog, nu') := by
  cases h with
  | none => exact .refl _
  | create e => exact Txn.create_steps e nu
  | insert e => exact Txn.insert_steps (ac := acOf sch) e
  | bulk e => exact Txn.bulk_steps e
  | replace e => exact Txn.replace_steps e
  | update e => exact Txn.update_steps e
  | delete e => exact Txn.delete_steps (ac := acOf sch) e
  | createIndex e => exact Txn.createIndex_steps (ac := acOf sch) e nu
  | dropIndex e => exact Txn.dropIndex_steps e nu
  | dropIndexByKey e => exact Txn.dropIndexByKey_steps e nu
  | drop e => exact Txn.drop_steps e
  | expire e => exact Txn.expire_steps (ac := acOf sch) hp e

theorem runCall_steps_of {t t' : Txn} {nu nu' : Nu} {c : Call} {r : Reply}
    (hp : strict → OplogPlain t.catalog) (e : runCall sch t nu c = .ok (t', nu', r)) :
    CatStep (acOf sch) strict (t.catalog, nu) (t'.catalog, nu') := (runCall_runs e).steps hp

theorem runCall_steps {t t' : Txn} {nu nu' : Nu} {c : Call} {r : Reply}
    (e : runCall sch t nu c = .ok (t', nu', r)) :
    CatStep (acOf sch) False (t.catalog, nu) (t'.catalog, nu') := runCall_steps_of (fun h => h.elim) e

/-- a successful call leaves the state of `Sys.step`: the commit of what `runCall` returned -/
theorem Sys.step_ok {s s' : Sys} {c : Call} {oids : List V} {r : Reply}
    (e : Sys.step sch s c oids = .ok (s', r)) :
    ∃ t nu, runCall sch { catalog := s.catalog } (s.nu oids) c = .ok (t, nu, r) ∧ s' = s.commit t nu := by
  unfold Sys.step at e
  split at e
  · cases e
  · rename_i t nu r' he
    simp only [Except.ok.injEq, Prod.mk.injEq] at e
    exact ⟨t, nu, e.2 ▸ he, e.1.symm⟩

end Lungo
