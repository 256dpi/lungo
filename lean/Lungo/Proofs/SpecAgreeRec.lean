/-
  Lungo.Proofs.SpecAgreeRec — the recursive combination, in two steps.

  1. `cond_eval`, `conds_eval`, `fieldValue_eval`: on a well-formed argument the matcher returns
     `toRes` of `evalC` (its own reading of the parsed condition, SpecAgree), for EVERY document;
     in particular it never fails there.
  2. `evalC_agrees`: on the core domain `evalC` is the reference predicate `holdsC`
     (induction over the condition; the operator lemmas of SpecAgree at the leaves).

  Then entries, `$and`/`$or`/`$nor` and whole filters (`top_agree`).
-/
import Lungo.Proofs.SpecAgree
namespace Lungo
open Lungo.Spec

/-- every operator without sub-expressions, on a well-formed argument and EVERY document -/
theorem leafOp_eval (d : Doc) (op path : String) (v : V) (c : Cond) (hp : parseLeaf op v = some c) :
    leafOp d op path v = some (toRes (evalC d path c)) := by
  unfold parseLeaf at hp
  split at hp
  · cases hp; exact congrArg some (matchComp_eval d path .eq v)
  · cases hp; exact congrArg some (matchComp_eval d path .gt v)
  · cases hp; exact congrArg some (matchComp_eval d path .gte v)
  · cases hp; exact congrArg some (matchComp_eval d path .lt v)
  · cases hp; exact congrArg some (matchComp_eval d path .lte v)
  · cases hp
    exact congrArg some ((congrArg negate (matchComp_eval d path .eq v)).trans (negate_toRes _))
  · split at hp
    · cases hp; exact congrArg some (matchIn_eval d path _)
    · cases hp
  · split at hp
    · cases hp
      exact congrArg some ((congrArg negate (matchIn_eval d path _)).trans (negate_toRes _))
    · cases hp
  · cases hp; exact congrArg some (matchExists_eval d path v)
  · exact congrArg some (matchType_eval d path v c hp)
  · exact congrArg some (matchSize_eval d path v c hp)
  · split at hp
    · cases hp; exact congrArg some (matchAll_eval d path _)
    · cases hp
  · exact congrArg some (matchMod_eval d path v c hp)
  · exact congrArg some (matchBits_eval d path .allSet v c hp)
  · exact congrArg some (matchBits_eval d path .allClear v c hp)
  · exact congrArg some (matchBits_eval d path .anySet v c hp)
  · exact congrArg some (matchBits_eval d path .anyClear v c hp)
  · cases hp

/-- the value of a field entry as lungo evaluates it (ProcessExpression, non-operator key) -/
def mField (sch : SchemaEval) (d : Doc) (path : String) (value : V) : Res Unit :=
  match value with
  | .doc ((k0, v0) :: exps) =>
    if isOpKey k0 then mOps sch d path ((k0, v0) :: exps) else matchComp d "" path value
  | _ => matchComp d "" path value

theorem mExpr_field (sch : SchemaEval) (d : Doc) (pfx key : String) (value : V) (root : Bool)
    (hk : isOpKey key = false) : mExpr sch d pfx key value root = mField sch d (joinKey pfx key) value := by
  unfold mExpr mField
  simp only [hk, Bool.false_eq_true, ↓reduceIte]
  rfl

theorem mExpr_op (sch : SchemaEval) (d : Doc) (pfx key : String) (value : V)
    (hk : isOpKey key = true) : mExpr sch d pfx key value false = mOp sch d key pfx value := by
  unfold mExpr
  simp [hk]

theorem elemLoop_toRes (f : V → Res Unit) (g : V → Bool) (xs : List V) (h : ∀ x ∈ xs, f x = toRes (g x)) :
    elemLoop f xs = toRes (xs.any g) := by
  induction xs with
  | nil => rfl
  | cons x r ih =>
    rw [elemLoop, h x List.mem_cons_self, List.any_cons]
    cases g x
    · exact ih fun y hy => h y (List.mem_cons_of_mem _ hy)
    · rfl

theorem mOp_elemMatch (sch : SchemaEval) (d : Doc) (path : String) (q : List (String × V)) (hq : q ≠ []) :
    mOp sch d "$elemMatch" path (.doc q) =
      elemLoop (fun item =>
          if (q.all fun kv => !isOpKey kv.1) && !item.isDoc then notMatched
          else mProcess sch [("item", item)] q "item" false) (elems d path) := by
  unfold mOp elems
  have : q.isEmpty = false := by cases q <;> simp_all
  simp only [leafOp, this]
  simp
  cases (All d (splitPath path) true true).1 <;> rfl

theorem parseFieldConds_allFields : ∀ {q : List (String × V)} {fcs : List FieldCond},
    parseFieldConds q = some fcs → (q.all fun kv => !isOpKey kv.1) = true
  | [], _, _ => rfl
  | (k, v) :: r, fcs, h => by
    rw [parseFieldConds] at h
    cases hop : isOpKey k with
    | true => simp [hop] at h
    | false =>
      simp only [hop, Bool.false_eq_true, ↓reduceIte] at h
      cases hr : parseFieldConds r with
      | none => cases hv : parseFieldValue v <;> simp [hv, hr] at h
      | some fcs' => simp [hop, parseFieldConds_allFields hr]

/-- sequencing in `Process`/`mOps`: a truth value, then the rest -/
theorem toRes_and (a b : Bool) (r : Res Unit) (hr : r = toRes b) :
    (match toRes a with
     | .error e => .error e
     | .ok _ => r) = toRes (a && b) := by
  cases a
  · rfl
  · exact hr

/-!
  The parser and the matcher both recurse through the documents nested in the filter value; the
  statements about a value are proved from those about the members of the document it is
  (`V.induct_mem`), the statements about operator and field documents by induction on the list. -/

/-- one expression operator `op: v` -/
def CondEval (sch : SchemaEval) (v : V) : Prop :=
  ∀ (op : String) (c : Cond), parseCond op v = some c →
    ∀ (d : Doc) (path : String), mOp sch d op path v = toRes (evalC d path c)

/-- the value `v` of a field entry (operator document or literal) -/
def FieldValueEval (sch : SchemaEval) (v : V) : Prop :=
  ∀ cs : List Cond, parseFieldValue v = some cs →
    ∀ (d : Doc) (path : String), mField sch d path v = toRes (evalCs d path cs)

/-- an operator document `q`, as `mOps` and as `Process` run it -/
def CondsEval (sch : SchemaEval) (q : List (String × V)) : Prop :=
  ∀ cs : List Cond, parseConds q = some cs →
    ∀ (d : Doc) (path : String), mOps sch d path q = toRes (evalCs d path cs) ∧
      mProcess sch d q path false = toRes (evalCs d path cs)

/-- a document of field conditions below a prefix (the field form of `$elemMatch` runs it on `{item: x}` below `item`) -/
def FieldCondsEval (sch : SchemaEval) (q : List (String × V)) : Prop :=
  ∀ fcs : List FieldCond, parseFieldConds q = some fcs →
    ∀ (d : Doc) (pfx : String), mProcess sch d q pfx false = toRes (evalFCs d pfx fcs)

theorem conds_eval_of (sch : SchemaEval) : ∀ q : List (String × V),
    (∀ kv ∈ q, CondEval sch kv.2) → CondsEval sch q
  | [], _, cs, hp, d, path => by
    rw [parseConds] at hp
    cases hp
    rw [mOps, mProcess]
    exact ⟨rfl, rfl⟩
  | (k, v) :: r, ih, cs, hp, d, path => by
    rw [parseConds] at hp
    cases hop : isOpKey k with
    | false => simp [hop] at hp
    | true =>
      simp only [hop, Bool.not_true, Bool.false_eq_true, ↓reduceIte] at hp
      cases hpc : parseCond k v with
      | none => simp [hpc] at hp
      | some c =>
        cases hpr : parseConds r with
        | none => simp [hpc, hpr] at hp
        | some cs' =>
          simp only [hpc, hpr, Option.some.injEq] at hp
          subst hp
          have ihr := conds_eval_of sch r (fun kv h => ih kv (List.mem_cons_of_mem _ h)) cs' hpr d path
          rw [mOps, mProcess, mExpr_op sch d path k v hop,
            ih (k, v) (List.mem_cons_self ..) k c hpc d path, evalCs]
          simp only [hop, Bool.not_true, Bool.false_eq_true, ↓reduceIte]
          exact ⟨toRes_and _ _ _ ihr.1, toRes_and _ _ _ ihr.2⟩

theorem fieldConds_eval_of (sch : SchemaEval) : ∀ q : List (String × V),
    (∀ kv ∈ q, FieldValueEval sch kv.2) → FieldCondsEval sch q
  | [], _, fcs, hp, d, pfx => by
    rw [parseFieldConds] at hp
    cases hp
    rw [mProcess]; rfl
  | (k, v) :: r, ih, fcs, hp, d, pfx => by
    rw [parseFieldConds] at hp
    cases hop : isOpKey k with
    | true => simp [hop] at hp
    | false =>
      simp only [hop, Bool.false_eq_true, ↓reduceIte] at hp
      cases hpv : parseFieldValue v with
      | none => simp [hpv] at hp
      | some cs =>
        cases hpr : parseFieldConds r with
        | none => simp [hpv, hpr] at hp
        | some fcs' =>
          simp only [hpv, hpr, Option.some.injEq] at hp
          subst hp
          rw [mProcess, mExpr_field sch _ pfx k v false hop,
            ih (k, v) (List.mem_cons_self ..) cs hpv d (joinKey pfx k), evalFCs, evalFC]
          exact toRes_and _ _ _
            (fieldConds_eval_of sch r (fun kv h => ih kv (List.mem_cons_of_mem _ h)) fcs' hpr d pfx)

/-- a value, given the statements for the document it may be -/
theorem value_eval_of (sch : SchemaEval) (v : V)
    (hc : ∀ q, v = .doc q → CondsEval sch q) (hf : ∀ q, v = .doc q → FieldCondsEval sch q) :
    CondEval sch v ∧ FieldValueEval sch v := by
  constructor
  · intro op c hp d path
    unfold parseCond at hp
    split at hp
    · -- $not
      rename_i hop
      cases eq_of_beq hop
      split at hp
      · rename_i e es
        obtain ⟨cs, hcs, rfl⟩ := Option.map_eq_some_iff.mp hp
        rw [mOp_not sch d path (e :: es) (List.cons_ne_nil _ _), (hc _ rfl cs hcs d path).2,
          negate_toRes, evalC]
      · cases hp
    · split at hp
      · -- $elemMatch
        rename_i hop
        cases eq_of_beq hop
        split at hp
        · rename_i k w es
          rw [mOp_elemMatch sch d path ((k, w) :: es) (List.cons_ne_nil _ _)]
          split at hp
          · -- operator form: conditions on the element
            rename_i hk
            obtain ⟨cs, hcs, rfl⟩ := Option.map_eq_some_iff.mp hp
            rw [evalC]
            refine elemLoop_toRes _ _ _ (fun x _ => ?_)
            rw [List.all_cons, hk]
            exact (hc _ rfl cs hcs [("item", x)] "item").2
          · -- field form: a filter on the element, which must be a document
            obtain ⟨fcs, hfcs, rfl⟩ := Option.map_eq_some_iff.mp hp
            rw [evalC, parseFieldConds_allFields hfcs]
            refine elemLoop_toRes _ _ _ (fun x _ => ?_)
            rw [hf _ rfl fcs hfcs [("item", x)] "item"]
            cases x.isDoc <;> rfl
        · cases hp
      · rw [mOp_leaf sch d op path v _ (leafOp_eval d op path v c hp)]
  · intro cs hp d path
    have lit : parseFieldValue v = some [.cmp .eq v] → mField sch d path v = matchComp d "" path v →
        mField sch d path v = toRes (evalCs d path cs) := by
      intro h1 h2
      rw [hp] at h1
      cases h1
      rw [h2, evalCs, evalCs, Bool.and_true]
      exact matchLit_eval d path v
    have hp0 := hp
    unfold parseFieldValue at hp
    split at hp
    · rename_i k w es
      cases hop : isOpKey k with
      | true =>
        rw [hop] at hp
        simp only [mField, hop, ↓reduceIte]
        exact (hc _ rfl cs hp d path).1
      | false => exact lit (by simp [parseFieldValue, hop]) (by simp [mField, hop])
    · rename_i hv
      have : mField sch d path v = matchComp d "" path v := by
        unfold mField
        split
        · exact absurd rfl (hv _ _ _)
        · rfl
      exact lit (hp0.trans hp.symm) this

theorem value_eval (sch : SchemaEval) : ∀ v : V, CondEval sch v ∧ FieldValueEval sch v :=
  V.induct_mem
    (fun fs ih => value_eval_of sch _
      (fun q h => by cases h; exact conds_eval_of sch fs fun kv hkv => (ih kv hkv).1)
      (fun q h => by cases h; exact fieldConds_eval_of sch fs fun kv hkv => (ih kv hkv).2))
    (fun _ _ => value_eval_of sch _ nofun nofun)
    (fun v hd _ => value_eval_of sch v (fun q h => by subst h; cases hd) (fun q h => by subst h; cases hd))

theorem cond_eval (sch : SchemaEval) (v : V) : CondEval sch v := (value_eval sch v).1

theorem conds_eval (sch : SchemaEval) (q : List (String × V)) : CondsEval sch q :=
  conds_eval_of sch q fun kv _ => cond_eval sch kv.2

theorem fieldValue_eval (sch : SchemaEval) (v : V) : FieldValueEval sch v := (value_eval sch v).2

theorem fieldConds_eval (sch : SchemaEval) (q : List (String × V)) : FieldCondsEval sch q :=
  fieldConds_eval_of sch q fun kv _ => fieldValue_eval sch kv.2

/-- the domain hypothesis of one condition `c` on `path` of `d` (proved domain: `ex = true`) -/
abbrev CondDom (d : Doc) (path : String) (c : Cond) : Prop :=
  coreC true (.doc d) (splitPath path) (fans (.doc d) (splitPath path)) c = true

abbrev CondsDom (d : Doc) (path : String) (cs : List Cond) : Prop :=
  coreCs true (.doc d) (splitPath path) (fans (.doc d) (splitPath path)) cs = true

theorem fo_imp {fo b : Bool} (h : (!fo || b) = true) : fo = true → b = true := by
  cases fo <;> simp_all

theorem candF_item (x : V) (p : Path) (f : Bool) :
    candF (.doc [("item", x)]) ("item" :: p) f = candF x p f := by
  simp [candF, List.lookup]

theorem cand_item (x : V) (p : Path) : cand (.doc [("item", x)]) ("item" :: p) = cand x p :=
  candF_item x p false

theorem fans_item (x : V) (p : Path) : fans (.doc [("item", x)]) ("item" :: p) = fans x p := by
  simp [fans, List.lookup]

theorem fans2_item (x : V) (p : Path) : fans2 (.doc [("item", x)]) ("item" :: p) = fans2 x p := by
  simp [fans2, List.lookup]

theorem leafsAt_congr {r1 r2 : V} {p1 p2 : Path} (h : cand r1 p1 = cand r2 p2) :
    leafsAt r1 p1 = leafsAt r2 p2 := by
  unfold leafsAt; rw [h]

mutual
/-- a condition only sees its root through the candidates of its path -/
theorem holdsC_congr {r1 r2 : V} {p1 p2 : Path} (h : cand r1 p1 = cand r2 p2) :
    ∀ c : Cond, holdsC r1 p1 c = holdsC r2 p2 c
  | .cmp _ _ | .ne _ | .in_ _ | .nin _ | .type _ _ | .all _ | .mod _ _ | .bits _ _ => by
    simp only [holdsC, leafsAt_congr h]
  | .exists_ _ | .size _ | .elemOps _ | .elemFields _ => by simp only [holdsC, h]
  | .not cs => by simp only [holdsC, holdsCs_congr h cs]
theorem holdsCs_congr {r1 r2 : V} {p1 p2 : Path} (h : cand r1 p1 = cand r2 p2) :
    ∀ cs : List Cond, holdsCs r1 p1 cs = holdsCs r2 p2 cs
  | [] => by simp only [holdsCs]
  | c :: cs => by simp only [holdsCs, holdsC_congr h c, holdsCs_congr h cs]
end

mutual
theorem coreC_congr {r1 r2 : V} {p1 p2 : Path} (h : cand r1 p1 = cand r2 p2)
    (h2 : fans2 r1 p1 = fans2 r2 p2) (ex fo : Bool) :
    ∀ c : Cond, coreC ex r1 p1 fo c = coreC ex r2 p2 fo c
  | .cmp _ _ | .ne _ | .in_ _ | .nin _ | .exists_ _ | .type _ _ | .all _ | .bits _ _ => by
    simp only [coreC]
  | .size _ => by simp only [coreC, h2]
  | .mod _ _ => by simp only [coreC, leafsAt_congr h]
  | .not cs => by simp only [coreC, coreCs_congr h h2 ex fo cs]
  | .elemOps _ | .elemFields _ => by simp only [coreC, h]
theorem coreCs_congr {r1 r2 : V} {p1 p2 : Path} (h : cand r1 p1 = cand r2 p2)
    (h2 : fans2 r1 p1 = fans2 r2 p2) (ex fo : Bool) :
    ∀ cs : List Cond, coreCs ex r1 p1 fo cs = coreCs ex r2 p2 fo cs
  | [] => by simp only [coreCs]
  | c :: cs => by simp only [coreCs, coreC_congr h h2 ex fo c, coreCs_congr h h2 ex fo cs]
end

theorem segOK_item : segOK "item" = true := by decide

theorem nna_item (x : V) (h : noNestedArrays x = true) : noNestedArrays (.doc [("item", x)]) = true := by
  simp [noNestedArrays, nnaFields, h]

/-- Agreement for conditions on `{item: x}` at a path `item.p` is agreement on `x` at `p`. -/
theorem evalCs_item {cs : List Cond}
    (ih : ∀ (d : Doc) (path : String), PathDom d path → CondsDom d path cs →
      evalCs d path cs = holdsCs (.doc d) (splitPath path) cs)
    {x : V} {s : String} {p : Path} (hs : splitPath s = "item" :: p) (hx : noNestedArrays x = true)
    (hp : segsOK p = true) (hc : coreCs true x p (fans x p) cs = true) :
    evalCs [("item", x)] s cs = holdsCs x p cs := by
  have hd : PathDom [("item", x)] s :=
    ⟨nna_item x hx, by rw [hs, segsOK, List.all_cons, segOK_item]; exact hp⟩
  have hc' : CondsDom [("item", x)] s cs := by
    unfold CondsDom
    rw [hs, fans_item, coreCs_congr (cand_item x p) (fans2_item x p)]
    exact hc
  rw [ih _ s hd hc', hs, holdsCs_congr (cand_item x p)]

/-- without a fan-out `$elemMatch` iterates over the elements of the candidate, if it is an array -/
theorem elems_noFan {d : Doc} {path : String} (hd : PathDom d path)
    (hf : fans (.doc d) (splitPath path) = false) :
    elems d path = (cand (.doc d) (splitPath path)).flatMap fun c => elemsOf c.1 := by
  obtain ⟨h1, h2⟩ := All_noFan d (splitPath path) true true hd.nna hd.segs hf
  unfold elems
  rw [h1]
  rcases length_le_one h2 with e | ⟨⟨v, f⟩, e⟩ <;> rw [e]
  · rfl
  · cases v <;> exact (List.append_nil _).symm

theorem cand_elems_nna {d : Doc} {p : Path} (hd : noNestedArrays (.doc d) = true) :
    ∀ x ∈ (cand (.doc d) p).flatMap (fun c => elemsOf c.1), noNestedArrays x = true := by
  intro x hx
  obtain ⟨c, hc, hxc⟩ := List.mem_flatMap.mp hx
  have hc0 := cand_nna p (.doc d) false hd c hc
  cases hc1 : c.1 with
  | arr a =>
    rw [hc1, elemsOf] at hxc
    rw [hc1, noNestedArrays] at hc0
    exact (nna_elem hc0 hxc).2
  | _ => rw [hc1] at hxc; cases hxc

mutual
theorem evalC_agrees : ∀ (c : Cond) (d : Doc) (path : String), PathDom d path → CondDom d path c →
    evalC d path c = holdsC (.doc d) (splitPath path) c
  | .cmp o v, d, path, hd, hc => by
    simp only [CondDom, coreC, Bool.and_eq_true] at hc
    rw [evalC, holdsC]; exact cmp_core hd v o.rel (fo_imp hc.2)
  | .ne v, d, path, hd, hc => by
    simp only [CondDom, coreC, Bool.and_eq_true] at hc
    rw [evalC, holdsC]; exact congrArg (!·) (cmp_core hd v CmpOp.eq.rel (fo_imp hc.2))
  | .in_ vs, d, path, hd, hc => by
    simp only [CondDom, coreC, Bool.and_eq_true] at hc
    rw [evalC, holdsC]; exact in_core hd vs (fo_imp hc.2)
  | .nin vs, d, path, hd, hc => by
    simp only [CondDom, coreC, Bool.and_eq_true] at hc
    rw [evalC, holdsC, in_core hd vs (fo_imp hc.2)]; rfl
  | .exists_ arg, d, path, hd, _ => by rw [evalC, holdsC, exists_core hd]
  | .type n ts, d, path, hd, hc => by
    simp only [CondDom, coreC] at hc
    rw [evalC, holdsC]; exact type_core hd n ts (fo_imp hc)
  | .size n, d, path, hd, hc => by
    simp only [CondDom, coreC, Bool.not_true, Bool.false_or, Bool.not_eq_true'] at hc
    rw [evalC, holdsC]; exact size_core hd n hc
  | .all vs, d, path, hd, hc => by
    simp only [CondDom, coreC, Bool.and_eq_true] at hc
    rw [evalC, holdsC, all_core hd vs (fo_imp hc.2)]; rfl
  | .mod dv r, d, path, hd, hc => by
    simp only [CondDom, coreC] at hc
    rw [evalC, holdsC]
    refine mod_core hd dv r ?_
    rw [← hc]
    exact all_congr_mem fun l _ => by cases l <;> rfl
  | .bits o ps, d, path, hd, _ => by rw [evalC, holdsC]; exact bits_core hd o ps
  | .not cs, d, path, hd, hc => by
    rw [evalC, holdsC, evalCs_agrees cs d path hd (by simpa [CondDom, coreC] using hc)]
  | .elemOps cs, d, path, hd, hc => by
    simp only [CondDom, coreC, Bool.and_eq_true, Bool.not_eq_true'] at hc
    obtain ⟨⟨hfo, hsplit⟩, hall⟩ := hc
    have hitem : splitPath "item" = ["item"] := by
      simp only [itemSplitOK, Bool.and_eq_true, beq_iff_eq] at hsplit; exact hsplit.1
    rw [evalC, holdsC, elems_noFan hd hfo, ← List.any_flatMap]
    refine any_congr_mem fun x hx => ?_
    exact evalCs_item (evalCs_agrees cs) hitem (cand_elems_nna hd.nna x hx) rfl
      (by simpa [fans] using List.all_eq_true.mp hall x hx)
  | .elemFields fcs, d, path, hd, hc => by
    simp only [CondDom, coreC, Bool.and_eq_true, Bool.not_eq_true'] at hc
    obtain ⟨⟨hfo, hsplit⟩, hall⟩ := hc
    rw [evalC, holdsC, elems_noFan hd hfo, ← List.any_flatMap]
    refine any_congr_mem fun x hx => ?_
    rw [evalFCs_agrees fcs x (cand_elems_nna hd.nna x hx) (List.all_eq_true.mp hall x hx) hsplit]
theorem evalCs_agrees : ∀ (cs : List Cond) (d : Doc) (path : String), PathDom d path → CondsDom d path cs →
    evalCs d path cs = holdsCs (.doc d) (splitPath path) cs
  | [], _, _, _, _ => by rw [evalCs, holdsCs]
  | c :: cs, d, path, hd, hc => by
    simp only [CondsDom, coreCs, Bool.and_eq_true] at hc
    rw [evalCs, holdsCs, evalC_agrees c d path hd hc.1, evalCs_agrees cs d path hd hc.2]
theorem evalFCs_agrees : ∀ (fcs : List FieldCond) (x : V), noNestedArrays x = true →
    coreFCs true x fcs = true → fcs.all (fun fc => itemSplitOK fc.key) = true →
    evalFCs [("item", x)] "item" fcs = holdsFCs x fcs
  | [], _, _, _, _ => by rw [evalFCs, holdsFCs]
  | .mk k cs :: r, x, hx, hc, hs => by
    simp only [coreFCs, coreFC, Bool.and_eq_true] at hc
    simp only [List.all_cons, FieldCond.key, Bool.and_eq_true] at hs
    obtain ⟨⟨hpath, hcs⟩, hcr⟩ := hc
    have hsplit : splitPath (joinKey "item" k) = "item" :: splitPath k := by
      have := hs.1
      simp only [itemSplitOK, Bool.and_eq_true, beq_iff_eq] at this
      exact this.2
    simp only [pathOK, Bool.and_eq_true] at hpath
    rw [evalFCs, holdsFCs, evalFC, holdsFC, evalFCs_agrees r x hx hcr hs.2,
      evalCs_item (evalCs_agrees cs) hsplit hx hpath.2 hcs]
end

theorem conds_agree (sch : SchemaEval) (ops : List (String × V)) (d : Doc) (path : String) (cs : List Cond)
    (hp : parseConds ops = some cs) (hd : PathDom d path) (hc : CondsDom d path cs) :
    mOps sch d path ops = toRes (holdsCs (.doc d) (splitPath path) cs) ∧
    mProcess sch d ops path false = toRes (holdsCs (.doc d) (splitPath path) cs) := by
  rw [← evalCs_agrees cs d path hd hc]; exact conds_eval sch ops cs hp d path

theorem fieldValue_agrees (sch : SchemaEval) (v : V) (d : Doc) (path : String) (cs : List Cond)
    (hp : parseFieldValue v = some cs) (hd : PathDom d path) (hc : CondsDom d path cs) :
    mField sch d path v = toRes (holdsCs (.doc d) (splitPath path) cs) := by
  rw [fieldValue_eval sch v cs hp d path, evalCs_agrees cs d path hd hc]

/-- a reference verdict as a matcher result -/
def resU : Res Bool → Res Unit
  | .ok true => .ok ()
  | .ok false => .error .notMatched
  | .error e => .error e

theorem resU_ok (b : Bool) : resU (.ok b) = toRes b := by cases b <;> rfl

theorem resU_schema (sch : SchemaEval) (s d : Doc) : resU (schemaHolds sch s d) = sch s d := by
  unfold schemaHolds
  cases h : sch s d with
  | ok u => cases u; rfl
  | error e => cases e <;> rfl

theorem schema_ne_nm (sch : SchemaEval) (s d : Doc) : schemaHolds sch s d ≠ .error .notMatched := by
  unfold schemaHolds
  cases h : sch s d with
  | ok u => exact nofun
  | error e => cases e <;> exact nofun

theorem negate_resU (r : Res Bool) (h : r ≠ .error .notMatched) : negate (resU r) = resU (r.map (!·)) := by
  cases r with
  | ok b => cases b <;> rfl
  | error e => cases e <;> first | rfl | exact absurd rfl h

/-- `$and`, `$or`, `$nor` at the root hand a non-empty array to their loops -/
theorem mExpr_and (sch : SchemaEval) (d : Doc) (pfx : String) (x : V) (xs : List V) :
    mExpr sch d pfx "$and" (.arr (x :: xs)) true = mAndLoop sch d (x :: xs) := by
  unfold mExpr; simp [isOpKey]
theorem mExpr_or (sch : SchemaEval) (d : Doc) (pfx : String) (x : V) (xs : List V) :
    mExpr sch d pfx "$or" (.arr (x :: xs)) true = mOrLoop sch d (x :: xs) := by
  unfold mExpr; simp [isOpKey]
theorem mExpr_nor (sch : SchemaEval) (d : Doc) (pfx : String) (x : V) (xs : List V) :
    mExpr sch d pfx "$nor" (.arr (x :: xs)) true = negate (mOrLoop sch d (x :: xs)) := by
  unfold mExpr; simp [isOpKey]
theorem mExpr_schema (sch : SchemaEval) (d : Doc) (pfx : String) (s : Doc) :
    mExpr sch d pfx "$jsonSchema" (.doc s) true = sch s d := by
  unfold mExpr; simp [isOpKey]

/-- what a well-formed entry `k: v` is: a logical operator over a non-empty array of filters, a
    schema, or a field with its conditions -/
theorem parseEntry_cases {k : String} {v : V} {e : Entry} (hp : parseEntry k v = some e) :
    (∃ x xs fs, v = .arr (x :: xs) ∧ parseFilters (x :: xs) = some fs ∧
      ((k = "$and" ∧ e = .and fs) ∨ (k = "$or" ∧ e = .or fs) ∨ (k = "$nor" ∧ e = .nor fs))) ∨
    (∃ s, k = "$jsonSchema" ∧ v = .doc s ∧ e = .schema s) ∨
    (∃ cs, isOpKey k = false ∧ parseFieldValue v = some cs ∧ e = .field (.mk k cs)) := by
  unfold parseEntry at hp
  split at hp
  · split at hp       -- an operator key: `$and`, `$or`, `$nor`, `$jsonSchema` in turn, each with its operand's form
    · rename_i h      -- `$and`
      split at hp
      · obtain ⟨fs, hfs, rfl⟩ := Option.map_eq_some_iff.mp hp
        exact .inl ⟨_, _, fs, rfl, hfs, .inl ⟨eq_of_beq h, rfl⟩⟩
      · cases hp
    · split at hp
      · rename_i h    -- `$or`
        split at hp
        · obtain ⟨fs, hfs, rfl⟩ := Option.map_eq_some_iff.mp hp
          exact .inl ⟨_, _, fs, rfl, hfs, .inr (.inl ⟨eq_of_beq h, rfl⟩)⟩
        · cases hp
      · split at hp
        · rename_i h  -- `$nor`
          split at hp
          · obtain ⟨fs, hfs, rfl⟩ := Option.map_eq_some_iff.mp hp
            exact .inl ⟨_, _, fs, rfl, hfs, .inr (.inr ⟨eq_of_beq h, rfl⟩)⟩
          · cases hp
        · split at hp
          · rename_i h  -- `$jsonSchema`
            split at hp
            · cases hp; exact .inr (.inl ⟨_, eq_of_beq h, rfl, rfl⟩)
            · cases hp
          · cases hp    -- any other operator key is not an entry
  · rename_i h          -- a field name
    obtain ⟨cs, hcs, rfl⟩ := Option.map_eq_some_iff.mp hp
    exact .inr (.inr ⟨cs, by simpa using h, hcs, rfl⟩)

/-- Entries, filter documents and filter lists are nested in one another through the values;
    a statement about all three follows from its three steps. -/
theorem top_induct {E : V → Prop} {Es : List (String × V) → Prop} {Fs : List V → Prop}
    (entry : ∀ v, (∀ xs, v = .arr xs → Fs xs) → E v)
    (entries : ∀ q, (∀ kv ∈ q, E kv.2) → Es q)
    (filters : ∀ items, (∀ x ∈ items, ∀ q, x = .doc q → Es q) → Fs items) :
    (∀ v, E v) ∧ (∀ q, Es q) ∧ ∀ items, Fs items := by
  have key : ∀ v : V, E v ∧ ∀ q, v = .doc q → Es q :=
    V.induct_mem
      (fun fs ih => ⟨entry _ nofun, fun q h => by cases h; exact entries fs fun kv hkv => (ih kv hkv).1⟩)
      (fun xs ih => ⟨entry _ (fun ys h => by cases h; exact filters xs fun x hx => (ih x hx).2), nofun⟩)
      (fun v hd ha => ⟨entry v (fun xs h => by subst h; cases ha), fun q h => by subst h; cases hd⟩)
  exact ⟨fun v => (key v).1, fun q => (key (.doc q)).2 q rfl, fun items =>
    filters items fun x _ q h => (key x).2 q h⟩

/-- one entry of a filter document, at the root -/
def EntryAgrees (sch : SchemaEval) (v : V) : Prop :=
  ∀ (k : String) (e : Entry), parseEntry k v = some e →
    ∀ d : Doc, noNestedArrays (.doc d) = true → coreE true d e = true →
    mExpr sch d "" k v true = resU (holdsE sch d e) ∧ holdsE sch d e ≠ .error .notMatched

/-- a filter document -/
def EntriesAgree (sch : SchemaEval) (q : List (String × V)) : Prop :=
  ∀ es : List Entry, parseEntries q = some es →
    ∀ d : Doc, noNestedArrays (.doc d) = true → coreEs true d es = true →
    mProcess sch d q "" true = resU (holdsEs sch d es) ∧ holdsEs sch d es ≠ .error .notMatched

/-- the members of `$and` / `$or` / `$nor` -/
def FiltersAgree (sch : SchemaEval) (items : List V) : Prop :=
  ∀ fs : List Filter, parseFilters items = some fs →
    ∀ d : Doc, noNestedArrays (.doc d) = true → coreFs true d fs = true →
    (mAndLoop sch d items = resU (allF sch d fs) ∧ allF sch d fs ≠ .error .notMatched) ∧
    (mOrLoop sch d items = resU (anyF sch d fs) ∧ anyF sch d fs ≠ .error .notMatched)

theorem parseEntries_cons {k : String} {v : V} {r : List (String × V)} {es : List Entry}
    (hp : parseEntries ((k, v) :: r) = some es) :
    ∃ e es', parseEntry k v = some e ∧ parseEntries r = some es' ∧ es = e :: es' := by
  rw [parseEntries] at hp
  cases hpe : parseEntry k v with
  | none => simp [hpe] at hp
  | some e =>
    cases hpr : parseEntries r with
    | none => simp [hpe, hpr] at hp
    | some es' => exact ⟨e, es', rfl, rfl, by simpa [hpe, hpr] using hp.symm⟩

theorem parseFilters_cons {x : V} {r : List V} {fs : List Filter} (hp : parseFilters (x :: r) = some fs) :
    ∃ q es fs', x = .doc q ∧ parseEntries q = some es ∧ parseFilters r = some fs' ∧ fs = .mk es :: fs' := by
  cases x with
  | doc q =>
    rw [parseFilters] at hp
    cases hpq : parseEntries q with
    | none => simp [hpq] at hp
    | some es =>
      cases hpr : parseFilters r with
      | none => simp [hpq, hpr] at hp
      | some fs' => exact ⟨q, es, fs', rfl, hpq, rfl, by simpa [hpq, hpr] using hp.symm⟩
  | _ => simp [parseFilters] at hp

theorem top_agree (sch : SchemaEval) :
    (∀ v, EntryAgrees sch v) ∧ (∀ q, EntriesAgree sch q) ∧ ∀ items, FiltersAgree sch items := by
  refine top_induct (fun v ih k e hp d hd hc => ?_) (fun q ih => ?_) (fun items ih => ?_)
  · rcases parseEntry_cases hp with ⟨x, xs, fs, rfl, hfs, h⟩ | ⟨s, rfl, rfl, rfl⟩ | ⟨cs, hop, hcs, rfl⟩
    · have ih := ih _ rfl fs hfs d hd
      rcases h with ⟨rfl, rfl⟩ | ⟨rfl, rfl⟩ | ⟨rfl, rfl⟩
      · rw [mExpr_and, holdsE]; exact (ih hc).1
      · rw [mExpr_or, holdsE]; exact (ih hc).2
      · obtain ⟨h1, h2⟩ := (ih hc).2
        rw [mExpr_nor, holdsE, h1, negate_resU _ h2]
        refine ⟨rfl, ?_⟩
        cases h : anyF sch d fs with
        | ok b => exact nofun
        | error er => rw [h] at h2; exact h2
    · rw [mExpr_schema, holdsE, resU_schema]
      exact ⟨rfl, schema_ne_nm sch s d⟩
    · simp only [coreE, coreFC, Bool.and_eq_true] at hc
      have hpd : PathDom d k := ⟨hd, by have := hc.1; simp only [pathOK, Bool.and_eq_true] at this; exact this.2⟩
      have hjoin : joinKey "" k = k := by simp [joinKey]
      rw [mExpr_field sch d "" k v true hop, hjoin, fieldValue_agrees sch v d k cs hcs hpd hc.2,
        holdsE, holdsFC, resU_ok]
      exact ⟨rfl, nofun⟩
  · induction q with
    | nil =>
      intro es hp d _ _
      rw [parseEntries] at hp
      cases hp
      rw [mProcess, holdsEs]
      exact ⟨rfl, nofun⟩
    | cons kv r ihr =>
      intro es hp d hd hc
      obtain ⟨e, es', hpe, hpr, rfl⟩ := parseEntries_cons hp
      simp only [coreEs, Bool.and_eq_true] at hc
      obtain ⟨h1, h1n⟩ := ih kv (List.mem_cons_self ..) kv.1 e hpe d hd hc.1
      obtain ⟨h2, h2n⟩ := ihr (fun x hx => ih x (List.mem_cons_of_mem _ hx)) es' hpr d hd hc.2
      rw [mProcess, h1, holdsEs]
      cases he : holdsE sch d e with
      | ok b => cases b <;> first | exact ⟨rfl, nofun⟩ | exact ⟨h2, h2n⟩
      | error er => exact ⟨rfl, fun h => h1n (he.trans h)⟩
  · induction items with
    | nil =>
      intro fs hp d _ _
      rw [parseFilters] at hp
      cases hp
      rw [mAndLoop, mOrLoop, allF, anyF]
      exact ⟨⟨rfl, nofun⟩, ⟨rfl, nofun⟩⟩
    | cons x r ihr =>
      intro fs hp d hd hc
      obtain ⟨q, es, fs', rfl, hpq, hpr, rfl⟩ := parseFilters_cons hp
      simp only [coreFs, coreF, Bool.and_eq_true] at hc
      obtain ⟨h1, h1n⟩ := ih _ (List.mem_cons_self ..) q rfl es hpq d hd hc.1
      obtain ⟨ha, ho⟩ := ihr (fun y hy => ih y (List.mem_cons_of_mem _ hy)) fs' hpr d hd hc.2
      rw [mAndLoop, mOrLoop, h1, allF, anyF, holdsF]
      cases he : holdsEs sch d es with
      | ok b => cases b <;> first | exact ⟨⟨rfl, nofun⟩, ho⟩ | exact ⟨ha, ⟨rfl, nofun⟩⟩
      | error er =>
        have hne : er ≠ .notMatched := fun h => h1n (h ▸ he)
        refine ⟨⟨rfl, fun h => h1n (he.trans h)⟩, ⟨?_, fun h => h1n (he.trans h)⟩⟩
        cases er <;> first | rfl | exact absurd rfl hne

theorem entry_agrees (sch : SchemaEval) (v : V) : EntryAgrees sch v := (top_agree sch).1 v
theorem entries_agree (sch : SchemaEval) (q : List (String × V)) : EntriesAgree sch q := (top_agree sch).2.1 q
theorem filters_agree (sch : SchemaEval) (items : List V) : FiltersAgree sch items := (top_agree sch).2.2 items

end Lungo
