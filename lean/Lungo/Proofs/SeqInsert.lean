/-
  Lungo.Proofs.SeqInsert — C01: the uniqueness check of the implementation (index entries, `hasKey`)
  against the Spec's declarative condition on documents (`admits`, `clashes`), and the refinement of
  insertOne / insertMany.
-/
import Lungo.Proofs.SeqReads
import Lungo.Proofs.IndexCat
namespace Lungo.SeqRef
open Lungo Lungo.Spec

variable {sch : SchemaEval}

theorem under_eq (i : Index) (d : Doc) : under sch i.config d = partialMatches sch i d := by
  unfold under partialMatches; rfl

theorem underB_iff (i : Index) (d : Doc) : underB sch i.config d = true ↔ belongs sch i d := by
  unfold underB belongs
  rw [under_eq]
  cases partialMatches sch i d with
  | error e => simp
  | ok b => cases b <;> simp

theorem keysOf_eq {S : SDoc → Prop} {i : Index} (hc : IndexCoherent sch S i) (d : Doc) :
    keysOf i.config d = tuples i.columns d := by
  unfold keysOf; rw [hc.cols]

/-- the implementation-side notion of collision (C07's `CollidesAt`, over stored documents with
    identities) is the Spec's condition on plain documents -/
theorem collidesAt_iff {docs : List SDoc} {i : Index} (hc : IndexCoherent sch (· ∈ docs) i) (d : Doc) :
    CollidesAt sch (· ∈ docs) i d ↔
      (i.config.unique = true ∧ belongs sch i d ∧ clashes sch i.config (docs.map (·.doc)) d = true) := by
  unfold CollidesAt clashes sharesKey
  simp only [keysOf_eq hc, List.any_map, List.any_eq_true, Bool.and_eq_true, Function.comp, underB_iff]

/-- `mongokit.Index.Add` on a coherent index, for a document with a fresh identity: the partial
    filter decides membership, and a unique index answers `false` exactly when the Spec's `clashes` holds -/
theorem add_eq {docs : List SDoc} {i : Index} {sd : SDoc} (hc : IndexCoherent sch (· ∈ docs) i)
    (hfresh : ∀ x ∈ docs, x.id ≠ sd.id) (hinj : IdInj (· ∈ docs)) (hok : DocsOk docs) (hsd : DocOk sd.doc) :
    i.add sch sd =
      match under sch i.config sd.doc with
      | .error e => .error e
      | .ok false => .ok (i, true)
      | .ok true => .ok ((i.baseAdd sd).1, !(i.config.unique && clashes sch i.config (docs.map (·.doc)) sd.doc)) := by
  rw [under_eq]
  rw [Index.add_eq]
  rcases hp : partialMatches sch i sd.doc with e | _ | _
  · rfl
  · rfl
  · have hb : belongs sch i sd.doc := hp
    have hadd : i.add sch sd = .ok (i.baseAdd sd) := by rw [Index.add_eq, hp]; rfl
    show Except.ok (i.baseAdd sd) = _
    rcases hba : i.baseAdd sd with ⟨i', _ | _⟩
    · have := (collidesAt_iff hc sd.doc).mp (baseAdd_false_collides hc hfresh hb hba)
      simp [this.1, this.2.2]
    · have hno := add_true_not_collides hc hinj hok hsd (hadd.trans (congrArg _ hba))
      rw [collidesAt_iff hc] at hno
      cases hu : i.config.unique with
      | false => simp
      | true =>
        cases hcl : clashes sch i.config (docs.map (·.doc)) sd.doc with
        | false => simp
        | true => exact absurd ⟨hu, hb, hcl⟩ hno

/-- **the uniqueness check refines the Spec's `admits`**: adding a fresh document to all indexes
    succeeds, or fails with the same error, exactly as `admits` says on the plain documents -/
theorem addToIndexes_admits {docs : List SDoc} {sd : SDoc}
    (hfresh : ∀ x ∈ docs, x.id ≠ sd.id) (hinj : IdInj (· ∈ docs)) (hok : DocsOk docs) (hsd : DocOk sd.doc) :
    ∀ (idx : List (String × Index)), AllCoherent sch (· ∈ docs) idx →
      (addToIndexes sch sd idx).map (fun _ => ()) = admits sch (docs.map (·.doc)) sd.doc (shape idx)
  | [], _ => rfl
  | (n, i) :: r, hc => by
    have ih := addToIndexes_admits hfresh hinj hok hsd r (fun n i hm => hc n i (List.mem_cons_of_mem _ hm))
    have ha := add_eq (hc n i (by simp)) hfresh hinj hok hsd
    simp only [shape, List.map_cons, admits, addToIndexes] at ih ⊢
    rw [ha, ← ih]
    cases under sch i.config sd.doc with
    | error e => rfl
    | ok b =>
      cases b with
      | false => cases addToIndexes sch sd r <;> rfl
      | true =>
        cases i.config.unique && clashes sch i.config (docs.map (·.doc)) sd.doc with
        | true => rfl
        | false => cases addToIndexes sch sd r <;> rfl

/-- what the admission of the documents `sd :: r` one after the other over `base` needs at its first
    step, and has again at the next -/
theorem admit_split {base r : List SDoc} {sd : SDoc} (hd : IdsDistinct (base ++ sd :: r))
    (hok : DocsOk (base ++ sd :: r)) :
    (∀ x ∈ base, x.id ≠ sd.id) ∧ IdInj (· ∈ base) ∧ DocsOk base ∧ DocOk sd.doc ∧
      IdsDistinct ((base ++ [sd]) ++ r) ∧ DocsOk ((base ++ [sd]) ++ r) := by
  refine ⟨fun x hx e => ?_, idInj_of_distinct (hd.sublist (List.sublist_append_left base (sd :: r))),
    fun x hx => hok x (List.mem_append_left _ hx), hok sd (by simp), by simpa using hd, by simpa using hok⟩
  unfold IdsDistinct at hd
  rw [List.map_append, List.map_cons] at hd
  exact (List.nodup_append.mp hd).2.2 x.id (List.mem_map_of_mem hx) sd.id (by simp) e

/-- adding fresh documents one after the other = admitting them one after the other -/
theorem foldIdx_add_admitAll : ∀ (news base : List SDoc) (idx : List (String × Index)),
    AllCoherent sch (· ∈ base) idx → IdsDistinct (base ++ news) → DocsOk (base ++ news) →
    (foldIdx (fun idx sd => addToIndexes sch sd idx) idx news).map (fun _ => ()) =
      admitAll sch (shape idx) (base.map (·.doc)) (news.map (·.doc))
  | [], _, _, _, _, _ => rfl
  | sd :: r, base, idx, hc, hd, hok => by
    obtain ⟨hfresh, hinj, hokb, hsd, hd', hok'⟩ := admit_split hd hok
    have ha := addToIndexes_admits (sch := sch) hfresh hinj hokb hsd idx hc
    rw [foldIdx, List.map_cons, admitAll, ← ha]
    cases hadd : addToIndexes sch sd idx with
    | error e => rfl
    | ok idx1 =>
      simp only [Except.map]
      have hc1 : AllCoherent sch (· ∈ base ++ [sd]) idx1 :=
        (hc.add hadd).congr (fun x => by simp)
      have := foldIdx_add_admitAll r (base ++ [sd]) idx1 hc1 hd' hok'
      rw [addToIndexes_shape hadd] at this
      simp only [List.map_append, List.map_cons, List.map_nil, Except.map] at this
      exact this

theorem ensureId_genId (d : Doc) (nu : Nu) :
    ensureId d nu = (genId d nu.oids).map (fun p => (p.1, { nu with oids := p.2 })) := by
  unfold ensureId genId Nu.oid
  split
  · cases nu.oids with
    | nil => rfl
    | cons o r =>
      simp only
      cases Put d ["_id"] o true with
      | error e => rfl
      | ok p => rfl
  · rfl

theorem put_id_ok {d d' : Doc} {o prev : V} (hd : DocOk d) (ho : o.i64Ok = true)
    (h : Put d ["_id"] o true = .ok (d', prev)) : DocOk d' :=
  put_i64Ok hd ho ((Put_ok_iff ..).mp h).2

theorem genId_ok {d d' : Doc} {oids r : List V} (hd : DocOk d) (ho : ∀ o ∈ oids, o.i64Ok = true)
    (h : genId d oids = .ok (d', r)) : DocOk d' ∧ ∀ o ∈ r, o.i64Ok = true := by
  unfold genId at h
  split at h
  · cases oids with
    | nil => cases h
    | cons o rest =>
      simp only at h
      split at h
      · cases h
      · rename_i hp
        cases h
        exact ⟨put_id_ok hd (ho o List.mem_cons_self) hp, fun o' ho' => ho o' (List.mem_cons_of_mem _ ho')⟩
  · cases h
    exact ⟨hd, ho⟩

/-- inserting into a coherent collection of well-formed documents is the Spec's insert -/
theorem insert_abs {c : Coll} {d : Doc} {nu : Nu} (hc : Coherent sch c) (hb : IdsBelow c.docs nu.nextId)
    (hok : DocsOk c.docs) (hd : DocOk d) (ho : ∀ o ∈ nu.oids, o.i64Ok = true) :
    (c.insert sch d nu).map (fun r => (absC r.1, r.2.1.doc, r.2.2.oids)) = (absC c).insert sch d nu.oids := by
  unfold SColl.insert
  cases hg : genId d nu.oids with
  | error e =>
    have he : ensureId d nu = .error e := by rw [ensureId_genId, hg]; rfl
    rw [Coll.insert_eq, he]; rfl
  | ok p =>
    obtain ⟨d', r⟩ := p
    have he : ensureId d nu = .ok (d', { nu with oids := r }) := by rw [ensureId_genId, hg]; rfl
    rw [insert_unfold he]
    have hd' := (genId_ok hd ho hg).1
    have := addToIndexes_admits (sch := sch) (sd := ⟨nu.nextId, d'⟩) (fun x hx => hb.fresh x hx)
      (idInj_of_distinct hc.1) hok hd' c.indexes hc.2
    simp only [absC] at this ⊢
    rw [← this]
    cases ha : addToIndexes sch ⟨nu.nextId, d'⟩ c.indexes with
    | error e => rfl
    | ok idx' => simp [Except.map, addToIndexes_shape ha]

abbrev DocsOkS (docs : List Doc) : Prop := ∀ d ∈ docs, DocOk d

theorem okDB_put {db : SeqDB} {h : Handle} {c : SColl} (ok : OkDB db) (hc : DocsOkS c.docs) :
    OkDB (db.put h c) := by
  intro h' c' hm
  unfold SeqDB.put at hm
  split at hm
  · obtain ⟨⟨a, b⟩, hab, e⟩ := List.mem_map.mp hm
    simp only at e
    split at e <;> cases e
    · exact hc
    · exact ok _ _ hab
  · rcases List.mem_append.mp hm with hm | hm
    · exact ok h' c' hm
    · cases List.mem_singleton.mp hm; exact hc

theorem okDB_log {db : SeqDB} (ok : OkDB db) : OkDB db.log := ok

theorem okDB_coll {db : SeqDB} (ok : OkDB db) (h : Handle) : DocsOkS (db.coll h).docs := by
  unfold SeqDB.coll SeqDB.get?
  cases hf : db.colls.find? (·.1 == h) with
  | none => exact fun d hd => nomatch hd
  | some p => exact ok p.1 p.2 (List.mem_of_find?_eq_some hf)

theorem SColl.insert_ok {c c' : SColl} {d d' : Doc} {oids r : List V} (hc : DocsOkS c.docs) (hd : DocOk d)
    (ho : ∀ o ∈ oids, o.i64Ok = true) (e : c.insert sch d oids = .ok (c', d', r)) :
    DocsOkS c'.docs ∧ DocOk d' ∧ ∀ o ∈ r, o.i64Ok = true := by
  unfold SColl.insert at e
  split at e
  · cases e
  · rename_i hg
    obtain ⟨hx, hr⟩ := genId_ok hd ho hg
    split at e
    · cases e
    · cases e
      exact ⟨List.forall_mem_append.mpr ⟨hc, by simpa using hx⟩, hx, hr⟩

theorem opInsert_ok {db db' : SeqDB} {h : Handle} {d d' : Doc} {oids r : List V} (ok : OkDB db)
    (hd : DocOk d) (ho : ∀ o ∈ oids, o.i64Ok = true) (e : opInsert sch db h d oids = .ok (db', d', r)) :
    OkDB db' ∧ DocOk d' ∧ ∀ o ∈ r, o.i64Ok = true := by
  unfold opInsert at e
  split at e
  · cases e
  · rename_i hi
    cases e
    obtain ⟨hc, hrest⟩ := SColl.insert_ok (okDB_coll ok h) hd ho hi
    exact ⟨okDB_log (okDB_put ok hc), hrest⟩

theorem insertOne_abs {cat : Catalog} {h : Handle} {d : Doc} {nu : Nu}
    (g : Inv sch cat nu.nextId) (hne : h ≠ oplogHandle) (ok : OkDB (abs cat)) (hd : DocOk d)
    (ho : ∀ o ∈ nu.oids, o.i64Ok = true) :
    (insertOne sch cat h d nu).map (fun r => (abs r.1, r.2.1, r.2.2.oids)) =
      opInsert sch (abs cat) h d nu.oids := by
  have k := (good_of_inv g).nsOk_ensure h
  have hi := insert_abs (sch := sch) (c := ensureNs cat h) (d := d) (nu := nu) k.coherent k.below
    (okDB_ensureNs ok hne) hd ho
  unfold insertOne opInsert
  rw [abs_coll cat hne, ← hi]
  cases hins : (ensureNs cat h).insert sch d nu with
  | error e => rfl
  | ok r =>
    obtain ⟨coll, sd, nu1⟩ := r
    simp only [Except.map, abs_set_append g.oplog hne]
    rfl

theorem insert_go_abs {h : Handle} (ordered : Bool) (hne : h ≠ oplogHandle) :
    ∀ (list : List Doc) (cat : Catalog) (nu : Nu) (acc : List Doc) (err : Option Err),
      Inv sch cat nu.nextId → OkDB (abs cat) → (∀ d ∈ list, DocOk d) → (∀ o ∈ nu.oids, o.i64Ok = true) →
      insertAll sch h ordered (abs cat) nu.oids acc err list =
        (abs (Txn.insert.go sch h ordered cat nu acc err list).1,
         (Txn.insert.go sch h ordered cat nu acc err list).2.1.oids,
         (Txn.insert.go sch h ordered cat nu acc err list).2.2.1,
         (Txn.insert.go sch h ordered cat nu acc err list).2.2.2)
  | [], cat, nu, acc, err, _, _, _, _ => by simp [Txn.insert.go, insertAll]
  | d :: r, cat, nu, acc, err, g, ok, hl, ho => by
    rw [List.forall_mem_cons] at hl
    have hio := insertOne_abs g hne ok hl.1 ho
    rw [Txn.insert.go, insertAll, ← hio]
    cases hi : insertOne sch cat h d nu with
    | error e =>
      simp only [Except.map]
      cases ordered with
      | true => simp
      | false =>
        simp only [Bool.false_eq_true, ↓reduceIte]
        exact insert_go_abs false hne r cat nu acc _ g ok hl.2 ho
    | ok res =>
      obtain ⟨cat', d', nu'⟩ := res
      simp only [Except.map]
      rw [hi] at hio
      simp only [Except.map] at hio
      obtain ⟨ok', _, ho'⟩ := opInsert_ok ok hl.1 ho hio.symm
      have g' := (Good.insertOne (good_of_inv g) hne hi).1.1
      exact insert_go_abs ordered hne r cat' nu' _ err g' ok' hl.2 ho'

/-- all documents of the call and all generated ids are Go values -/
def InsertOk (docs : List Doc) (oids : List V) : Prop := (∀ d ∈ docs, DocOk d) ∧ ∀ o ∈ oids, o.i64Ok = true

theorem base_abs (cat : Catalog) {h : Handle} (hne : h ≠ oplogHandle) :
    abs (if (cat.get? h).isSome then cat else cat.set h (newColl true)) =
      (if ((abs cat).get? h).isSome then abs cat else (abs cat).put h SColl.new) := by
  rw [abs_get? cat hne, Option.isSome_map]
  split
  · rfl
  · rw [abs_set cat _ hne, absC_new]

theorem okDB_base {db : SeqDB} (ok : OkDB db) (h : Handle) :
    OkDB (if (db.get? h).isSome then db else db.put h SColl.new) := by
  split
  · exact ok
  · exact okDB_put ok fun d hd => nomatch hd

theorem commit_insert (s : Sys) (cat' : Catalog) (nu' : Nu) (mods : List Doc) :
    abs (s.commit (if mods.isEmpty = true then { catalog := s.catalog } else { catalog := cat', dirty := true }) nu').catalog =
      keepIf (!mods.isEmpty) (abs cat') (abs s.catalog) := by
  cases mods <;> simp [Sys.commit, keepIf]

/-- `Transaction.Insert` = the Spec's `insertCall` -/
theorem txnInsert_abs (s : Sys) (h : Handle) (docs : List Doc) (ordered : Bool) (oids : List V)
    (hi : SysInv sch s) (ok : OkDB (abs s.catalog)) (hw : InsertOk docs oids) :
    insertCall sch (abs s.catalog) h docs ordered oids =
      (Txn.insert sch { catalog := s.catalog } h docs ordered (s.nu oids)).map
        (fun r => (abs (s.commit r.1 r.2.2).catalog, r.2.1.modified, r.2.1.error)) := by
  unfold insertCall Txn.insert
  cases hwr : writable h true with
  | error e => rfl
  | ok _ =>
    have hne := writable_ne_oplog hwr
    simp only
    have gb := ((good_of_inv hi).base hne).1
    have := insert_go_abs (sch := sch) ordered hne docs _ (s.nu oids) [] none gb
      (by rw [base_abs s.catalog hne]; exact okDB_base ok h) hw.1 hw.2
    rw [base_abs s.catalog hne] at this
    simp only [Sys.nu] at this ⊢
    rw [this]
    simp only [Except.map]
    congr 2
    exact (commit_insert s _ _ _).symm

theorem refines_insertMany (s : Sys) (h : Handle) (docs : List Doc) (ordered : Bool) (oids : List V)
    (hi : SysInv sch s) (ok : OkDB (abs s.catalog)) (hw : InsertOk docs oids) :
    Refines sch s (.insertMany h docs ordered) oids := by
  unfold Refines Sys.step
  simp only [Spec.step, runCall, txnInsert_abs s h docs ordered oids hi ok hw]
  cases Txn.insert sch { catalog := s.catalog } h docs ordered (s.nu oids) <;> rfl

theorem refines_insertOne (s : Sys) (h : Handle) (doc : Doc) (oids : List V)
    (hi : SysInv sch s) (ok : OkDB (abs s.catalog)) (hw : InsertOk [doc] oids) :
    Refines sch s (.insertOne h doc) oids := by
  unfold Refines Sys.step
  simp only [Spec.step, runCall, txnInsert_abs s h [doc] true oids hi ok hw]
  cases Txn.insert sch { catalog := s.catalog } h [doc] true (s.nu oids) with
  | error e => rfl
  | ok r =>
    obtain ⟨t, res, nu⟩ := r
    simp only [Except.map]
    cases res.error with
    | some e => rfl
    | none => cases res.modified <;> rfl

end Lungo.SeqRef
