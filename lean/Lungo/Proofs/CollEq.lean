/-
  Lungo.Proofs.CollEq — every write method of `Coll` as ONE chain of named stages (`X_eq`), and what a
  successful call returns read off that chain (`X_ok`, through `Res.bind_eq_ok`). The stages the
  model computes inline carry the names the reference semantics gives them (`replacementFor`,
  `upsertDoc`, Spec/SeqDB.lean); `update_eq` has no special case for an empty selection (the general
  chain covers it). The index invariants, the refinement, the oplog and the find laws start from
  these instead of unfolding a method (only the no-panic sweep of NoPanic2 still walks the
  definitions; `createIndex_eq` / `createNew_eq` are in IndexColl, next to `shape`).
-/
import Lungo.Spec.SeqDB
namespace Lungo
open Lungo.Spec

theorem Res.ok_bind {α β} (a : α) (f : α → Res β) : (Except.ok a >>= f) = f a := rfl

theorem Res.bind_eq_ok {α β} {x : Res α} {f : α → Res β} {b : β} :
    (x >>= f) = .ok b ↔ ∃ a, x = .ok a ∧ f a = .ok b := by
  cases x <;> simp [bind, Except.bind]

theorem Res.pure_eq_ok {α} {a b : α} : (pure a : Res α) = .ok b ↔ a = b := by
  simp [pure, Except.pure]

theorem Res.guard_eq_ok {α} {c : Bool} {e : Err} {x : Res α} {b : α} :
    (if c = true then .error e else x) = .ok b ↔ c = false ∧ x = .ok b := by
  cases c <;> simp

variable {sch : SchemaEval}

theorem ensureId_nextId {d d' : Doc} {nu nu' : Nu} (h : ensureId d nu = .ok (d', nu')) :
    nu'.nextId = nu.nextId := by
  unfold ensureId Nu.oid at h
  split at h
  · split at h
    · cases h
    · rename_i ho
      split at h
      · cases h
      · split at ho
        · cases h; cases ho; rfl
        · cases ho
  · cases h; rfl

/-- what `newIndex` accepts: a non-empty key whose columns carry no `$`-field, and a single field if the index
    has an expiry -/
theorem newIndex_ok {config : IndexConfig} {i : Index} (h : newIndex config = .ok i) :
    config.key ≠ [] ∧ ∃ cols, columns config.key = .ok cols ∧ (∀ c ∈ cols, isOpKey c.path = false) ∧
      (config.expiry > 0 → config.key.length ≤ 1) ∧ i = { config := config, columns := cols, entries := [] } := by
  unfold newIndex at h
  split at h
  · cases h
  · rename_i hne
    split at h
    · cases h
    · rename_i cols hc
      split at h
      · cases h
      · rename_i hany
        split at h
        · cases h
        · rename_i hlen
          simp only [Except.ok.injEq] at h
          refine ⟨by simpa using hne, cols, hc, by simpa using hany, fun he => ?_, h.symm⟩
          simpa [he] using hlen

theorem newIndex_config {config : IndexConfig} {i : Index} (h : newIndex config = .ok i) : i.config = config := by
  obtain ⟨_, _, _, _, _, rfl⟩ := newIndex_ok h
  rfl

theorem Coll.insert_eq (c : Coll) (d : Doc) (nu : Nu) :
    c.insert sch d nu =
      ensureId d nu >>= fun p =>
      addToIndexes sch ⟨nu.nextId, p.1⟩ c.indexes >>= fun idx =>
      pure (⟨c.docs ++ [⟨nu.nextId, p.1⟩], idx⟩, ⟨nu.nextId, p.1⟩, { p.2 with nextId := nu.nextId + 1 }) := by
  unfold Coll.insert
  cases he : ensureId d nu with
  | error e => rfl
  | ok p =>
    dsimp only [bind, Except.bind, Nu.fresh]
    rw [ensureId_nextId he]
    cases addToIndexes sch ⟨nu.nextId, p.1⟩ c.indexes <;> rfl

theorem Coll.insert_ok {c c' : Coll} {d : Doc} {nu nu' : Nu} {sd : SDoc}
    (h : c.insert sch d nu = .ok (c', sd, nu')) :
    ∃ d' nu1 idx', ensureId d nu = .ok (d', nu1) ∧ addToIndexes sch ⟨nu.nextId, d'⟩ c.indexes = .ok idx' ∧
      c' = ⟨c.docs ++ [⟨nu.nextId, d'⟩], idx'⟩ ∧ sd = ⟨nu.nextId, d'⟩ ∧ nu' = { nu1 with nextId := nu.nextId + 1 } := by
  simp only [Coll.insert_eq, Res.bind_eq_ok, Res.pure_eq_ok, Prod.exists, Prod.mk.injEq] at h
  obtain ⟨d', nu1, he, idx', ha, rfl, rfl, rfl⟩ := h
  exact ⟨d', nu1, idx', he, ha, rfl, rfl, rfl⟩

/-- `Coll.upsert` inserts the document the reference semantics calls `upsertDoc` -/
theorem Coll.upsert_eq (ac : ACtx) (c : Coll) (q : Doc) (repl update : Option Doc) (fs : List Doc) (nu : Nu) :
    c.upsert ac q repl update fs nu =
      match upsertDoc ac q repl update fs with
      | .error e => .error e
      | .ok doc => c.insert ac.sch doc nu := by
  unfold Coll.upsert upsertDoc
  cases Extract q with
  | error e => rfl
  | ok seed =>
    simp only
    cases repl with
    | none =>
      simp only
      cases update with
      | none => rfl
      | some u =>
        simp only
        cases Apply { ac with upsert := true } seed u fs with
        | error e => rfl
        | ok p => rfl
    | some r =>
      simp only
      by_cases h1 : (!(Get seed "_id").isMissing && !(Get r "_id").isMissing &&
          V.cmp (Get r "_id") (Get seed "_id") != .eq) = true
      · simp only [h1, ↓reduceIte]
      · simp only [h1]
        by_cases h2 : (!(Get r "_id").isMissing) = true
        · simp only [h2, ↓reduceIte]
          cases Put r ["_id"] (Get r "_id") true with
          | error e => rfl
          | ok p =>
            simp only
            cases update with
            | none => rfl
            | some u =>
              simp only
              cases Apply { ac with upsert := true } p.1 u fs with
              | error e => rfl
              | ok p' => rfl
        · simp only [h2]
          by_cases h3 : (!(Get seed "_id").isMissing) = true
          · simp only [h3, ↓reduceIte]
            cases Put r ["_id"] (Get seed "_id") true with
            | error e => rfl
            | ok p =>
              simp only
              cases update with
              | none => rfl
              | some u =>
                simp only
                cases Apply { ac with upsert := true } p.1 u fs with
                | error e => rfl
                | ok p' => rfl
          · simp only [h3]
            cases update with
            | none => rfl
            | some u =>
              simp only
              cases Apply { ac with upsert := true } r u fs with
              | error e => rfl
              | ok p' => rfl

theorem Coll.upsert_ok {ac : ACtx} {c c' : Coll} {q : Doc} {repl update : Option Doc} {filters : List Doc}
    {nu nu' : Nu} {sd : SDoc} (h : c.upsert ac q repl update filters nu = .ok (c', sd, nu')) :
    ∃ doc, upsertDoc ac q repl update filters = .ok doc ∧ c.insert ac.sch doc nu = .ok (c', sd, nu') := by
  rw [Coll.upsert_eq] at h
  split at h
  · cases h
  · exact ⟨_, ‹_›, h⟩

theorem Coll.delete_eq (c : Coll) (q : Doc) (sort : Option Doc) (skip limit : Int) :
    c.delete sch q sort skip limit =
      selectDocs sch c q sort skip limit >>= fun list =>
      foldIdx (fun idx sd => removeFromIndexes sch sd idx) c.indexes list >>= fun idx =>
      pure (⟨c.docs.filter (fun sd => !(list.any (·.id == sd.id))), idx⟩, list) := by
  unfold Coll.delete
  cases selectDocs sch c q sort skip limit with
  | error e => rfl
  | ok list =>
    dsimp only [bind, Except.bind]
    cases foldIdx (fun idx sd => removeFromIndexes sch sd idx) c.indexes list <;> rfl

theorem Coll.delete_ok {c c' : Coll} {q : Doc} {sort : Option Doc} {skip limit : Int} {list : List SDoc}
    (h : c.delete sch q sort skip limit = .ok (c', list)) :
    selectDocs sch c q sort skip limit = .ok list ∧
    ∃ idx', foldIdx (fun idx sd => removeFromIndexes sch sd idx) c.indexes list = .ok idx' ∧
      c' = ⟨c.docs.filter (fun sd => !(list.any (·.id == sd.id))), idx'⟩ := by
  simp only [Coll.delete_eq, Res.bind_eq_ok, Res.pure_eq_ok, Prod.mk.injEq] at h
  obtain ⟨l, hsel, idx', hf, rfl, rfl⟩ := h
  exact ⟨hsel, idx', hf, rfl⟩

/-- the stored replacement, as the reference semantics names it -/
theorem Coll.replace_eq (c : Coll) (q repl : Doc) (sort : Option Doc) (nu : Nu) :
    c.replace sch q repl sort nu =
      selectDocs sch c q sort 0 1 >>= fun l =>
      match l with
      | [] => pure ({ coll := c }, nu)
      | old :: _ =>
        replacementFor old.doc repl >>= fun d =>
        Coll.replace.upd sch old ⟨nu.nextId, d⟩ c.indexes >>= fun idx =>
        pure ({ coll := ⟨replaceDoc c.docs old.id ⟨nu.nextId, d⟩, idx⟩, matched := [old],
                modified := if sameDoc old.doc d then [] else [⟨nu.nextId, d⟩] },
              { nu with nextId := nu.nextId + 1 }) := by
  unfold Coll.replace
  cases selectDocs sch c q sort 0 1 with
  | error e => rfl
  | ok l =>
    cases l with
    | nil => rfl
    | cons old _ =>
      unfold replacementFor
      dsimp only [bind, Except.bind, Nu.fresh]
      cases (Get repl "_id").isMissing with
      | true =>
        simp only [↓reduceIte]
        cases Put repl ["_id"] (Get old.doc "_id") true with
        | error e => rfl
        | ok p => dsimp only; cases Coll.replace.upd sch old ⟨nu.nextId, p.1⟩ c.indexes <;> rfl
      | false =>
        cases (!sameId (Get repl "_id") (Get old.doc "_id")) with
        | true => rfl
        | false =>
          simp only [Bool.false_eq_true, ↓reduceIte]
          cases Coll.replace.upd sch old ⟨nu.nextId, repl⟩ c.indexes <;> rfl

theorem Coll.replace_ok {c : Coll} {q repl : Doc} {sort : Option Doc} {nu nu' : Nu} {res : CResult}
    (h : c.replace sch q repl sort nu = .ok (res, nu')) :
    (selectDocs sch c q sort 0 1 = .ok [] ∧ res = { coll := c } ∧ nu' = nu) ∨
    ∃ old rest d idx', selectDocs sch c q sort 0 1 = .ok (old :: rest) ∧ replacementFor old.doc repl = .ok d ∧
      Coll.replace.upd sch old ⟨nu.nextId, d⟩ c.indexes = .ok idx' ∧
      res = { coll := ⟨replaceDoc c.docs old.id ⟨nu.nextId, d⟩, idx'⟩, matched := [old],
              modified := if sameDoc old.doc d then [] else [⟨nu.nextId, d⟩] } ∧
      nu' = { nu with nextId := nu.nextId + 1 } := by
  rw [Coll.replace_eq, Res.bind_eq_ok] at h
  obtain ⟨_ | ⟨old, rest⟩, hsel, h⟩ := h
  · simp only [Res.pure_eq_ok, Prod.mk.injEq] at h
    exact .inl ⟨hsel, h.1.symm, h.2.symm⟩
  · simp only [Res.bind_eq_ok, Res.pure_eq_ok, Prod.mk.injEq] at h
    obtain ⟨d, hd, idx', hupd, rfl, rfl⟩ := h
    exact .inr ⟨old, rest, d, idx', hsel, hd, hupd, rfl, rfl⟩

/-- a pair (stored document, successor, _) counts as modified when the two differ as BSON values -/
def changed {α} (p : SDoc × SDoc × α) : Bool := !sameDoc p.1.doc p.2.1.doc

/-- `Coll.update` without its shortcut for an empty selection (the general case covers it) -/
theorem Coll.update_eq (ac : ACtx) (c : Coll) (q u : Doc) (sort : Option Doc) (skip limit : Int)
    (fs : List Doc) (nu : Nu) :
    c.update ac q u sort skip limit fs nu =
      selectDocs ac.sch c q sort skip limit >>= fun list =>
      Coll.update.applyAll ac u fs nu list >>= fun r =>
      if (list.zip r.1).any (fun p => !sameId (Get p.2.1.doc "_id") (Get p.1.doc "_id")) then .error .err else
      foldIdx (fun idx sd => removeFromIndexes ac.sch sd idx) c.indexes list >>= fun idx1 =>
      foldIdx (fun idx sd => addToIndexes ac.sch sd idx) idx1 (r.1.map (·.1)) >>= fun idx2 =>
      pure ({ coll := ⟨(list.zip r.1).foldl (fun ds p => replaceDoc ds p.1.id p.2.1) c.docs, idx2⟩,
              matched := list, modified := ((list.zip r.1).filter changed).map (·.2.1),
              changes := ((list.zip r.1).filter changed).map (·.2.2) }, r.2) := by
  unfold Coll.update
  dsimp only
  cases selectDocs ac.sch c q sort skip limit with
  | error e => rfl
  | ok list =>
    cases list with
    | nil => rfl
    | cons o l =>
      dsimp only [bind, Except.bind]
      cases Coll.update.applyAll ac u fs nu (o :: l) with
      | error e => rfl
      | ok r =>
        dsimp only
        split
        · rfl
        · cases foldIdx (fun idx sd => removeFromIndexes ac.sch sd idx) c.indexes (o :: l) with
          | error e => rfl
          | ok idx1 =>
            dsimp only
            cases foldIdx (fun idx sd => addToIndexes ac.sch sd idx) idx1 (r.1.map (·.1)) <;> rfl

theorem Coll.update_ok {ac : ACtx} {c : Coll} {q u : Doc} {sort : Option Doc} {skip limit : Int} {fs : List Doc}
    {nu nu' : Nu} {res : CResult} (h : c.update ac q u sort skip limit fs nu = .ok (res, nu')) :
    ∃ list news idx1 idx2, selectDocs ac.sch c q sort skip limit = .ok list ∧
      Coll.update.applyAll ac u fs nu list = .ok (news, nu') ∧
      (list.zip news).any (fun p => !sameId (Get p.2.1.doc "_id") (Get p.1.doc "_id")) = false ∧
      foldIdx (fun idx sd => removeFromIndexes ac.sch sd idx) c.indexes list = .ok idx1 ∧
      foldIdx (fun idx sd => addToIndexes ac.sch sd idx) idx1 (news.map (·.1)) = .ok idx2 ∧
      res = { coll := ⟨(list.zip news).foldl (fun ds p => replaceDoc ds p.1.id p.2.1) c.docs, idx2⟩,
              matched := list, modified := ((list.zip news).filter changed).map (·.2.1),
              changes := ((list.zip news).filter changed).map (·.2.2) } := by
  simp only [Coll.update_eq, Res.bind_eq_ok, Res.guard_eq_ok, Res.pure_eq_ok, Prod.exists, Prod.mk.injEq] at h
  obtain ⟨list, hsel, news, nu1, hap, hid, idx1, hrem, idx2, hadd, rfl, rfl⟩ := h
  exact ⟨list, news, idx1, idx2, hsel, hap, hid, hrem, hadd, rfl⟩

end Lungo
