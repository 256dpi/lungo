/-
  Lungo.Proofs.ConcUnshared — the configuration "no session is used by two actors" (actor `a`
  only ever names session `a`): invariant and consequences for lock ordering.
-/
import Lungo.Proofs.ConcAll
namespace Lungo.Conc

/-- No session is shared: actor `a` is the only user of session `a`, be it through the context it passes
    (`ctxSess`) or as the session whose methods it calls (`sid`; `init` sets `sid := a`). -/
def Uinv (s : State) : Prop :=
  ∀ a, (∀ sid, (s.loc a).ctxSess = some sid → sid = a) ∧ (s.loc a).sid = a

theorem uinv_init (n : Nat) : Uinv (init n) := by
  intro b
  simp only [init]
  by_cases hb : b = 0 <;> simp [hb]

macro "uinv_tac" h:ident fn:ident : tactic => `(tactic| (
  unfold $fn at $h:ident
  conc_split $h
  all_goals (
    simp only [State.put, State.putS, State.finish, State.write, upd_apply, Local.back, Local.invoke,
      if_true, ite_true]
    grind)))

theorem Uinv.of_upd {s s' : State} {a : ActorId} {l' : Local} (g : Uinv s) (hl : s'.loc = upd s.loc a l')
    (h : (∀ sid, l'.ctxSess = some sid → sid = a) ∧ l'.sid = a) : Uinv s' := by
  intro b
  rw [hl, upd_apply]
  split
  · subst b; exact h
  · exact g b

/-- inside a call the session registers stay, or the session in the context is forgotten; a new call names its own
    sessions, which are the actor's -/
theorem Flow.unshared {s : State} {a : ActorId} {c : Choice} {l' : Local} (f : Flow s a c l') (hu : c.unshared a)
    (g : (∀ sid, (s.loc a).ctxSess = some sid → sid = a) ∧ (s.loc a).sid = a) :
    (∀ sid, l'.ctxSess = some sid → sid = a) ∧ l'.sid = a := by
  cases f with
  | go _ _ r =>
    cases r with
    | next | load | fail | got | ret | resume | finish => exact g
    | @call k' => exact ⟨by cases k'.isStart <;> first | exact g.1 | exact nofun, g.2⟩
  | tick => exact ⟨nofun, g.2⟩
  | @invoke cl h _ _ _ he =>
    revert he
    fun_cases Call.enter ((s.loc a).invoke s) h cl <;> intro he <;> (first | cases he | (cases h <;> cases he)) <;> first
      | exact g
      | (simp only [Choice.unshared, Call.sessions, List.mem_singleton, forall_eq] at hu
         subst hu
         first | exact ⟨g.1, rfl⟩ | exact ⟨fun _ h => (Option.some.inj h).symm, g.2⟩)
      | exact ⟨nofun, g.2⟩

theorem uinv_step {s s' : State} {a : ActorId} {c : Choice} (g : Uinv s) (hu : c.unshared a)
    (hs : step s a c = some s') : Uinv s' :=
  let ⟨_, hl, _, f, _⟩ := step_sorted hs; g.of_upd hl (f.unshared hu (g a))

theorem uinv_reachable {n : Nat} {s : State} (h : ReachableU n s) : Uinv s := by
  induction h with
  | init => exact uinv_init n
  | step _ hu hs ih => exact uinv_step ih hu hs

/-- with unshared sessions, a session mutex can only be held by the session's own actor -/
theorem smutex_owner {n : Nat} {s : State} (h : ReachableU n s) {sid : SessId} {b : ActorId}
    (hm : (s.sess sid).mutex = some b) : b = sid := by
  have i := (inv_reachable h.reachable).1
  have u := uinv_reachable h b
  have := (i.smutex_iff b sid).1 hm
  simp only [SHold] at this
  grind

/-- with unshared sessions, an actor's own session mutex is free unless it holds it itself -/
theorem own_smutex_free {n : Nat} {s : State} {a : ActorId} (h : ReachableU n s)
    (hn : ¬ SHold (s.loc a) a) : (s.sess a).mutex = none := by
  cases hmx : (s.sess a).mutex with
  | none => rfl
  | some b =>
    have hb : b = a := smutex_owner h hmx
    subst hb
    exact absurd (((inv_reachable h.reachable).1.smutex_iff b b).1 hmx) hn

end Lungo.Conc
