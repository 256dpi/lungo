/-
  Lungo.Proofs.LeafLemma — the lemma behind C10's agreement part: on the core domain the values
  lungo's access functions (`get` / `All` / `matchUnwind`) offer to an operator are the leaves
  `Spec.leafs` of the reference semantics — exactly when the path does not fan out, and up to
  `missing` and the array-valued candidates themselves when it does.
-/
import Lungo.Spec.Query
import Lungo.Proofs.MatchLaws
import Lungo.Proofs.AccessLaws
namespace Lungo
open Lungo.Spec

/-- the reference semantics' `lookup` is the model's first field of the name -/
theorem find_eq_lookup (fs : List (String × V)) (k : String) : Doc.find? fs k = fs.lookup k := by
  induction fs with
  | nil => rfl
  | cons kv r ih =>
    obtain ⟨k', v⟩ := kv
    rw [Doc.find?, List.lookup, ih]
    by_cases h : k' = k
    · subst h; simp
    · have h1 : (k' == k) = false := by simpa using h
      have h2 : (k == k') = false := by simpa using fun e => h e.symm
      simp [h1, h2]

theorem get_doc (fs : List (String × V)) (k : String) (rest : Path) (c b : Bool) (hk : k ≠ "") :
    Lungo.get (.doc fs) (k :: rest) c b = match fs.lookup k with
      | some w => Lungo.get w rest c b
      | none => (.missing, false) := by
  rw [get_cons _ _ _ _ _ (by simp [hk]), slot?, find_eq_lookup]
  cases fs.lookup k <;> rfl

theorem get_arr (xs : List V) (k : String) (rest : Path) (b : Bool) (hk : k ≠ "")
    (hi : parseIndex k = numeral k) :
    Lungo.get (.arr xs) (k :: rest) true b = match elemAt xs k with
      | some x => Lungo.get x rest true b
      | none => (.arr (getCollect xs k rest true b), true) := by
  rw [get_cons _ _ _ _ _ (by simp [hk])]
  simp only [slot?, hi, elemAt, if_true]
  cases numeral k <;> rfl

theorem get_scalar (v : V) (k : String) (rest : Path) (c b : Bool)
    (hd : v.isDoc = false) (ha : v.isArr = false) :
    Lungo.get v (k :: rest) c b = (.missing, false) := by
  rw [Lungo.get]
  · split <;> rfl
  · intro fs e; rw [e] at hd; cases hd
  · intro xs e; rw [e] at ha; cases ha

theorem nna_lookup {fs : List (String × V)} {k : String} {w : V}
    (h : nnaFields fs = true) (hl : fs.lookup k = some w) : noNestedArrays w = true := by
  induction fs with
  | nil => simp [List.lookup] at hl
  | cons kv r ih =>
    obtain ⟨k', v⟩ := kv
    rw [nnaFields] at h
    simp only [Bool.and_eq_true] at h
    rw [List.lookup] at hl
    by_cases hk : (k == k') = true
    · simp [hk] at hl; subst hl; exact h.1
    · simp [hk] at hl; exact ih h.2 hl

theorem nna_elem {xs : List V} {x : V} (h : nnaElems xs = true) (hx : x ∈ xs) :
    x.isArr = false ∧ noNestedArrays x = true := by
  induction xs with
  | nil => simp at hx
  | cons y r ih =>
    rw [nnaElems] at h
    simp only [Bool.and_eq_true, Bool.not_eq_true'] at h
    rcases List.mem_cons.mp hx with rfl | hx'
    · exact ⟨h.1.1, h.1.2⟩
    · exact ih h.2 hx'

theorem nna_getElem {xs : List V} {i : Nat} {x : V} (h : nnaElems xs = true) (hx : xs[i]? = some x) :
    x.isArr = false ∧ noNestedArrays x = true :=
  nna_elem h (List.mem_of_getElem? hx)

theorem nna_not_missing {v : V} (h : noNestedArrays v = true) : v.isMissing = false := by
  cases v <;> simp_all [noNestedArrays, V.isMissing]

theorem elemAt_some {xs : List V} {k : String} {x : V} (h : elemAt xs k = some x) : x ∈ xs := by
  unfold elemAt at h
  cases hn : numeral k with
  | none => simp [hn] at h
  | some i => simp only [hn] at h; exact List.mem_of_getElem? h

/-- every candidate is again a value without nested arrays (in particular never `missing`) -/
theorem cand_nna (p : Path) : ∀ (v : V) (f : Bool), noNestedArrays v = true →
    ∀ c ∈ candF v p f, noNestedArrays c.1 = true := by
  induction p with
  | nil => intro v f hv c hc; simp [candF] at hc; subst hc; exact hv
  | cons k rest ih =>
    intro v f hv c hc
    cases v with
    | doc fs =>
      rw [noNestedArrays] at hv
      simp only [candF] at hc
      cases hl : fs.lookup k with
      | none => simp [hl] at hc
      | some w => simp only [hl] at hc; exact ih w f (nna_lookup hv hl) c hc
    | arr xs =>
      rw [noNestedArrays] at hv
      simp only [candF] at hc
      cases he : elemAt xs k with
      | some x => simp only [he] at hc; exact ih x f (nna_elem hv (elemAt_some he)).2 c hc
      | none =>
        simp only [he, List.mem_flatMap] at hc
        obtain ⟨x, hx, hc⟩ := hc
        cases x with
        | doc gs =>
          have hgs : nnaFields gs = true := by simpa [noNestedArrays] using (nna_elem hv hx).2
          simp only at hc
          cases hl : gs.lookup k with
          | none => simp [hl] at hc
          | some w => simp only [hl] at hc; exact ih w true (nna_lookup hgs hl) c hc
        | _ => simp at hc
    | _ => simp [candF] at hc

/-- the value `get` returns when the path does not fan out: the only candidate, or `missing` -/
def single (cs : List (V × Bool)) : V :=
  match cs with
  | [] => .missing
  | c :: _ => c.1

/-- segments non-empty, and lungo's index reading of a segment is the canonical-numeral reading -/
def segsOK (p : Path) : Bool := p.all segOK

theorem segOK_ne {k : String} (h : segOK k = true) : k ≠ "" := by
  unfold segOK at h; simp at h; exact h.1

theorem segOK_idx {k : String} (h : segOK k = true) : parseIndex k = numeral k := by
  unfold segOK at h; simp at h; exact h.2

theorem length_le_one {α} : ∀ {l : List α}, l.length ≤ 1 → l = [] ∨ ∃ a, l = [a]
  | [], _ => .inl rfl
  | [a], _ => .inr ⟨a, rfl⟩
  | _ :: _ :: _, h => absurd h (by simp)

/-- What `get … collect=true` returns for `v` and `p`, in terms of the candidates:
    * no fan-out: the single candidate (or `missing`), `nested = false`, and there is at most one
      candidate;
    * fan-out: with `compact=true` the list of ALL candidates in order (array-valued candidates
      still unflattened, elements lacking the field dropped), `nested = true`. -/
def GetCand (v : V) (p : Path) (f : Bool) : Prop :=
  (fans v p = false →
      (∀ b, Lungo.get v p true b = (single (candF v p f), false)) ∧ (candF v p f).length ≤ 1) ∧
  (fans v p = true → Lungo.get v p true true = (.arr ((candF v p f).map (·.1)), true))

theorem getCollect_cons (x : V) (r : List V) (k : String) (rest : Path) :
    getCollect (x :: r) k rest true true
      = collectItem true (Lungo.get x (k :: rest) true true) ++ getCollect r k rest true true := by
  rw [getCollect_eq, getCollect_eq, List.flatMap_cons]

theorem collectItem_single (v : V) (h : v.isMissing = false) : collectItem true (v, false) = [v] := by
  cases v <;> first | rfl | cases h

/-- an item whose value for the rest of the path is as `GetCand` says adds its candidates -/
theorem collectItem_get {w : V} {rest : Path} (nm : ∀ c ∈ candF w rest true, c.1.isMissing = false)
    (h : GetCand w rest true) :
    collectItem true (Lungo.get w rest true true) = (candF w rest true).map (·.1) := by
  cases hf : fans w rest with
  | true => rw [h.2 hf]; rfl
  | false =>
    obtain ⟨h1, hlen⟩ := h.1 hf
    rw [h1 true]
    rcases length_le_one hlen with e | ⟨c, e⟩
    · rw [e]; rfl
    · rw [e]; exact collectItem_single c.1 (nm c (by rw [e]; exact List.mem_singleton_self c))

/-- the candidates the document element `x` of an array contributes to a fan-out over `k` -/
def itemCand (k : String) (rest : Path) (x : V) : List (V × Bool) :=
  match x with
  | .doc fs => (match fs.lookup k with
                | some w => candF w rest true
                | none => [])
  | _ => []

/-- the collect loop = the candidates of the document elements, in order -/
theorem getCollect_cand {k : String} {rest : Path} (hk : k ≠ "")
    (ih : ∀ w, noNestedArrays w = true → GetCand w rest true) :
    ∀ xs : List V, nnaElems xs = true →
      getCollect xs k rest true true = (xs.flatMap (itemCand k rest)).map (·.1)
  | [], _ => by rw [getCollect]; rfl
  | x :: r, h => by
    rw [nnaElems, Bool.and_eq_true, Bool.and_eq_true, Bool.not_eq_true'] at h
    rw [getCollect_cons, getCollect_cand hk ih r h.2, List.flatMap_cons, List.map_append]
    congr 1
    cases x with
    | doc gs =>
      rw [get_doc _ _ _ _ _ hk, itemCand]
      cases hl : gs.lookup k with
      | none => rfl
      | some w =>
        have hw := nna_lookup (by simpa [noNestedArrays] using h.1.2) hl
        exact collectItem_get (fun c hc => nna_not_missing (cand_nna rest w true hw c hc)) (ih w hw)
    | arr ys => exact absurd h.1.1 (by simp [V.isArr])
    | _ => rw [get_scalar _ _ _ _ _ rfl rfl]; rfl

/-- `get` with collect, for a value without nested arrays and a path of
    good segments, is described by the candidates. -/
theorem get_cand (p : Path) : ∀ (v : V) (f : Bool), noNestedArrays v = true → segsOK p = true →
    GetCand v p f := by
  induction p with
  | nil =>
    intro v f _ _
    exact ⟨fun _ => ⟨fun b => get_nil v true b, Nat.le_refl 1⟩, fun h => nomatch h⟩
  | cons k rest ih =>
    intro v f hv hp
    rw [segsOK, List.all_cons, Bool.and_eq_true] at hp
    have hne := segOK_ne hp.1
    cases v with
    | doc fs =>
      rw [noNestedArrays] at hv
      rw [GetCand, fans, candF]
      simp only [get_doc _ _ _ _ _ hne]
      cases hl : fs.lookup k with
      | none => exact ⟨fun _ => ⟨fun _ => rfl, Nat.zero_le 1⟩, fun h => nomatch h⟩
      | some w => exact ih w f (nna_lookup hv hl) hp.2
    | arr xs =>
      rw [noNestedArrays] at hv
      rw [GetCand, fans, candF]
      simp only [get_arr _ _ _ _ hne (segOK_idx hp.1)]
      cases he : elemAt xs k with
      | some x => exact ih x f (nna_elem hv (elemAt_some he)).2 hp.2
      | none =>
        refine ⟨nofun, fun _ => ?_⟩
        rw [getCollect_cand hne (fun w hw => ih w true hw hp.2) xs hv]
        rfl
    | _ =>
      refine ⟨fun _ => ⟨fun b => get_scalar _ k rest true b rfl rfl, Nat.zero_le 1⟩, fun h => nomatch h⟩

/-- what `All … merge=true` makes of a candidate: an array-valued candidate is replaced by its elements -/
def flat (c : V) : List V :=
  match c with
  | .arr a => a
  | _ => [c]

theorem All_noFan (d : Doc) (p : Path) (c m : Bool) (hd : noNestedArrays (.doc d) = true)
    (hp : segsOK p = true) (hf : fans (.doc d) p = false) :
    All d p c m = (single (cand (.doc d) p), false) ∧ (cand (.doc d) p).length ≤ 1 := by
  obtain ⟨h1, h2⟩ := (get_cand p (.doc d) false hd hp).1 hf
  refine ⟨?_, h2⟩
  unfold All
  rw [h1 c]
  simp [cand]

theorem All_fan (d : Doc) (p : Path) (hd : noNestedArrays (.doc d) = true)
    (hp : segsOK p = true) (hf : fans (.doc d) p = true) :
    All d p true false = (.arr ((cand (.doc d) p).map (·.1)), true) ∧
    All d p true true = (.arr ((cand (.doc d) p).flatMap fun c => flat c.1), true) := by
  have h := (get_cand p (.doc d) false hd hp).2 hf
  unfold All
  rw [h]
  refine ⟨by simp [cand], ?_⟩
  simp only [Bool.not_true, Bool.or_self, Bool.false_eq_true, ↓reduceIte, cand]
  congr 2
  generalize candF (.doc d) p false = cs
  induction cs with
  | nil => rfl
  | cons c r ih =>
    rw [List.map_cons, List.foldr_cons, List.flatMap_cons, ih]
    cases c.1 <;> rfl

theorem All_nested_eq_fans (d : Doc) (p : Path) (hd : noNestedArrays (.doc d) = true)
    (hp : segsOK p = true) : (All d p true true).2 = fans (.doc d) p := by
  by_cases hf : fans (.doc d) p = true
  · rw [(All_fan d p hd hp hf).2, hf]
  · have hf' : fans (.doc d) p = false := by simpa using hf
    rw [(All_noFan d p true true hd hp hf').1, hf']

theorem any_expand (pr : V → Bool) (c : V) :
    (expand c).any pr = (pr c || (flat c).any pr && c.isArr) := by
  cases c <;> simp [expand, flat, V.isArr]

theorem arrAny_eq (pr : V → Bool) (c : V) :
    (match c with
     | .arr arr => arr.any pr
     | _ => false) = ((flat c).any pr && c.isArr) := by
  cases c <;> simp [flat, V.isArr]

/-- a test that is false on arrays sees an array-valued candidate through its elements only -/
theorem any_expand_flat {pr : V → Bool} (ha : ∀ xs, pr (.arr xs) = false) (c : V) :
    (expand c).any pr = (flat c).any pr := by
  cases c with
  | arr xs => simp [expand, flat, ha]
  | _ => rfl

/-- the hypotheses every operator lemma shares: the document part of the core domain and a path
    of good segments -/
structure PathDom (d : Doc) (path : String) : Prop where
  nna : noNestedArrays (.doc d) = true
  segs : segsOK (splitPath path) = true

/-- No fan-out: the values offered to an operator are exactly the leaves. -/
theorem leaf_noFan {d : Doc} {path : String} (hd : PathDom d path) (pr : V → Bool)
    (hf : fans (.doc d) (splitPath path) = false) :
    unwindAny d path true false pr = (leafs d (splitPath path)).any pr := by
  obtain ⟨h1, h2⟩ := All_noFan d (splitPath path) true true hd.nna hd.segs hf
  unfold unwindAny leafs leafsAt
  rw [h1]
  rcases length_le_one h2 with e | ⟨c, e⟩ <;> rw [e]
  · simp [single]
  · simp only [single, List.flatMap_cons, List.flatMap_nil, List.append_nil, any_expand,
      Bool.not_false, Bool.true_or, Bool.true_and, Bool.or_comm (pr c.1)]
    exact congrArg (· || pr c.1) (arrAny_eq pr c.1)

/-- Fan-out: lungo offers the non-array candidates and the elements of the
    array-valued ones, but neither those arrays themselves nor `missing` when nothing is reached;
    for a predicate that is false on `missing` and on arrays this is the same as the leaves. -/
theorem leaf_fan {d : Doc} {path : String} (hd : PathDom d path) (pr : V → Bool)
    (hf : fans (.doc d) (splitPath path) = true)
    (hm : pr .missing = false) (ha : ∀ xs, pr (.arr xs) = false) :
    unwindAny d path true false pr = (leafs d (splitPath path)).any pr := by
  have h1 := (All_fan d (splitPath path) hd.nna hd.segs hf).2
  unfold unwindAny leafs leafsAt
  rw [h1]
  simp only [Bool.not_true, Bool.or_self, Bool.false_and, Bool.or_false]
  cases hc : cand (.doc d) (splitPath path) with
  | nil => simp [hm]
  | cons c cs => simp only [List.any_flatMap, any_expand_flat ha]

/-- Both cases: the boolean test an operator performs over lungo's offered values is
    the test over the leaves, provided that on a fan-out path it ignores `missing` and arrays. -/
theorem leaf_any {d : Doc} {path : String} (hd : PathDom d path) (pr : V → Bool)
    (hpr : fans (.doc d) (splitPath path) = true → pr .missing = false ∧ ∀ xs, pr (.arr xs) = false) :
    unwindAny d path true false pr = (leafs d (splitPath path)).any pr := by
  by_cases hf : fans (.doc d) (splitPath path) = true
  · exact leaf_fan hd pr hf (hpr hf).1 (hpr hf).2
  · exact leaf_noFan hd pr (by simpa using hf)

end Lungo
