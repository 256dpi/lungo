/-
  Lungo.Proofs.OwnClosed — every statement keeps the heap closed (no dangling pointers), never shrinks it,
  and keeps `t.catalog` allocated.  Independent of the ownership check: it holds for every program.
-/
import Lungo.Proofs.OwnRun
namespace Lungo.Own

/-- a closed heap stays closed when an object whose pointers are allocated is added or written -/
theorem Closed.alloc {h : Heap} (c : Closed h) (x : Obj) (hx : ∀ p ∈ x.ptrs, p < h.size) : Closed (h.alloc x).1 := by
  intro o y hy p hp
  have ho := Heap.get_lt _ hy
  rw [Heap.size_alloc] at ho ⊢
  by_cases e : o < h.size
  · rw [h.get_alloc_lt x e] at hy
    exact Nat.lt_succ_of_lt (c o y hy p hp)
  · cases (show o = h.size by omega)
    rw [Heap.get_alloc_new] at hy; cases hy
    exact Nat.lt_succ_of_lt (hx p hp)

theorem Closed.write {h : Heap} (c : Closed h) (o : Nat) (x : Obj) (hx : ∀ p ∈ x.ptrs, p < h.size) :
    Closed (h.write o x) := by
  intro o' y hy p hp
  rw [Heap.size_write]
  by_cases e : o' = o
  · subst e
    rw [h.get_write_eq x (by simpa using Heap.get_lt _ hy)] at hy; cases hy
    exact hx p hp
  · exact c o' y (h.get_write_ne x e ▸ hy) p hp

theorem Closed.allocs {h : Heap} (c : Closed h) (xs : List Obj) (hx : ∀ x ∈ xs, ∀ p ∈ x.ptrs, p < h.size) :
    Closed (h.allocs xs).1 := by
  induction xs generalizing h with
  | nil => exact c
  | cons x xs ih =>
    show Closed ((h.alloc x).1.allocs xs).1
    refine ih (c.alloc x (hx x (List.mem_cons_self ..))) fun y hy p hp => ?_
    rw [Heap.size_alloc]
    exact Nat.lt_succ_of_lt (hx y (List.mem_cons_of_mem _ hy) p hp)

theorem Closed.writes {h : Heap} (c : Closed h) (ws : List (Nat × Obj)) (hx : ∀ w ∈ ws, ∀ p ∈ w.2.ptrs, p < h.size) :
    Closed (h.writes ws) := by
  induction ws generalizing h with
  | nil => exact c
  | cons w ws ih =>
    refine ih (c.write w.1 w.2 (hx w (List.mem_cons_self ..))) fun y hy p hp => ?_
    rw [Heap.size_write]
    exact hx y (List.mem_cons_of_mem _ hy) p hp

/-- a closed heap is closed by inspection of its objects (decidable on a concrete heap) -/
theorem Closed.of_all {h : Heap} (hh : (h.objs.all fun x => x.ptrs.all (· < h.size)) = true) : Closed h := by
  intro o x hx p hp
  have := List.all_eq_true.mp hh x (List.mem_of_getElem? hx)
  exact of_decide_eq_true (List.all_eq_true.mp this p hp)

/-- heap well-formedness carried along a history -/
structure WF (h : Heap) (t : TxnState) : Prop where
  closed : Closed h
  cat : t.catalog < h.size

theorem WF.grow {h h' : Heap} {t : TxnState} (w : WF h t) (c : Closed h') (le : h.size ≤ h'.size) : WF h' t :=
  ⟨c, Nat.lt_of_lt_of_le w.cat le⟩

theorem newCollH_closed {h : Heap} (c : Closed h) : Closed (newCollH h).1 ∧ (newCollH h).1.size = h.size + 3 ∧
    (newCollH h).2 = h.size + 2 := by
  simp only [newCollH]
  refine ⟨((c.alloc (.set []) nofun).alloc (.idx []) nofun).alloc _ ?_, by simp, by simp⟩
  intro p hp
  simp only [Obj.ptrs, List.map_cons, List.map_nil, List.mem_cons, List.not_mem_nil, or_false, Heap.alloc_id] at hp
  simp only [Heap.size_alloc] at hp ⊢
  rcases hp with rfl | rfl <;> omega

theorem cloneCollH_closed {h : Heap} (c : Closed h) (s : Nat) (idxs : List (String × Nat)) :
    Closed (cloneCollH h s idxs).1 ∧ h.size ≤ (cloneCollH h s idxs).1.size ∧
    (cloneCollH h s idxs).2 < (cloneCollH h s idxs).1.size := by
  simp only [cloneCollH]
  have c2 := (c.alloc (.set (setList h s)) (setList_lt c s)).allocs (idxs.map fun p => Obj.idx (idxEntries h p.2)) (by
    intro x hx p hp
    obtain ⟨q, _, rfl⟩ := List.mem_map.mp hx
    rw [Heap.size_alloc]; exact Nat.lt_succ_of_lt (idxEntries_lt c q.2 p hp))
  have ids := Heap.allocs_ids (h.alloc (.set (setList h s))).1 (idxs.map fun p => Obj.idx (idxEntries h p.2))
  refine ⟨c2.alloc _ ?_, by simp; omega, by simp⟩
  intro p hp
  simp only [Obj.ptrs, List.mem_cons, List.mem_map, Heap.alloc_id] at hp
  rcases hp with rfl | ⟨q, hq, rfl⟩
  · simp; omega
  · exact (ids q.2 (List.of_mem_zip hq).2).2

theorem applyMutPre_closed {h : Heap} (c : Closed h) (s : Nat) (idxs : List (String × Nat)) (args : List Nat) (mu : Mut) :
    Closed (applyMutPre h s idxs args mu) ∧
    (applyMutPre h s idxs args mu).size = (h.allocs (mu.newDocs.map Obj.doc)).1.size := by
  unfold applyMutPre
  extract_lets h1 h2 h3
  have c2 : Closed h2 := by
    refine (c.allocs _ fun x hx p hp => ?_).writes _ fun w hw p hp => ?_
    · obtain ⟨v, _, rfl⟩ := List.mem_map.mp hx; cases hp
    · obtain ⟨v, _, e⟩ := List.mem_map.mp (List.of_mem_zip hw).2; rw [← e] at hp; cases hp
  have e2 : h2.size = h1.size := Heap.size_writes _ _
  have c3 : Closed h3 ∧ h3.size = h1.size := by
    show Closed (match mu.list with
      | some l => h2.write s (.set (l.filter (· < h1.size)))
      | none => h2) ∧ (match mu.list with
      | some l => h2.write s (.set (l.filter (· < h1.size)))
      | none => h2).size = h1.size
    cases mu.list with
    | none => exact ⟨c2, e2⟩
    | some l => exact ⟨c2.write _ _ fun p hp => e2 ▸ of_decide_eq_true (List.mem_filter.mp hp).2, by simp [e2]⟩
  refine ⟨c3.1.writes _ fun w hw p hp => ?_, by rw [Heap.size_writes]; exact c3.2⟩
  simp only [idxWrites, List.mem_filterMap, Option.map_eq_some_iff] at hw
  obtain ⟨w0, _, q, _, rfl⟩ := hw
  exact c3.2 ▸ of_decide_eq_true (List.mem_filter.mp hp).2

theorem applyMut_closed {h : Heap} (c : Closed h) {o s : Nat} {idxs : List (String × Nat)}
    (hg : h.get o = some (.coll s idxs)) (args : List Nat) (mu : Mut) :
    Closed (applyMut h o s idxs args mu) ∧ h.size ≤ (applyMut h o s idxs args mu).size := by
  have hps := c o _ hg
  obtain ⟨c4, e4⟩ := applyMutPre_closed c s idxs args mu
  have le4 : h.size ≤ (h.allocs (mu.newDocs.map Obj.doc)).1.size := by simp
  simp only [applyMut]
  generalize applyMutPre h s idxs args mu = h4 at c4 e4 ⊢
  generalize (h.allocs (mu.newDocs.map Obj.doc)).1.size = bound at e4 le4 ⊢
  have c5 := c4.allocs (mu.add.map fun a => Obj.idx (a.2.filter (· < bound))) (by
    intro x hx p hp
    obtain ⟨a, _, rfl⟩ := List.mem_map.mp hx
    exact e4 ▸ of_decide_eq_true (List.mem_filter.mp hp).2)
  have s5 := Heap.allocs_size h4 (mu.add.map fun a => Obj.idx (a.2.filter (· < bound)))
  have ids := Heap.allocs_ids h4 (mu.add.map fun a => Obj.idx (a.2.filter (· < bound)))
  generalize h4.allocs (mu.add.map fun a => Obj.idx (a.2.filter (· < bound))) = r5 at c5 s5 ids ⊢
  split
  · exact ⟨c5, by omega⟩
  · refine ⟨c5.write _ _ fun p hp => ?_, by simp; omega⟩
    simp only [Obj.ptrs, List.mem_cons, List.mem_map] at hp
    rcases hp with rfl | ⟨q, hq, rfl⟩
    · have := hps p (List.mem_cons_self ..); omega
    · rcases List.mem_append.mp hq with hq | hq
      · have := hps q.2 (List.mem_cons_of_mem _ (List.mem_map_of_mem (List.mem_filter.mp hq).1)); omega
      · exact (ids q.2 (List.of_mem_zip hq).2).2

theorem mapPut_ptrs {ns : List (Nat × Nat)} {k x n : Nat} (hx : x < n) (hns : ∀ p ∈ (Obj.cat ns).ptrs, p < n) :
    ∀ p ∈ (Obj.cat (mapPut ns k x)).ptrs, p < n := by
  intro p hp
  simp only [Obj.ptrs, mapPut, List.map_cons, List.mem_cons, List.mem_map, List.mem_filter] at hp
  rcases hp with rfl | ⟨q, ⟨hq, _⟩, rfl⟩
  · exact hx
  · exact hns q.2 (List.mem_map_of_mem hq)

theorem mapDel_ptrs {ns : List (Nat × Nat)} {k n : Nat} (hns : ∀ p ∈ (Obj.cat ns).ptrs, p < n) :
    ∀ p ∈ (Obj.cat (mapDel ns k)).ptrs, p < n := by
  intro p hp
  simp only [Obj.ptrs, mapDel, List.mem_map, List.mem_filter] at hp
  obtain ⟨q, ⟨hq, _⟩, rfl⟩ := hp
  exact hns q.2 (List.mem_map_of_mem hq)

mutual
theorem wf_exec : ∀ (s : Stmt) (st : St), WF st.heap st.txn → WF (exec s st).1.heap (exec s st).1.txn
  | .validate | .alias .. | .retErr | .retOk | .fail | .brk | .cont | .unknown _ => fun _ w => w
  | .setDirty => fun _ w => ⟨w.closed, w.cat⟩
  | .cloneDocs d s => fun st w => by
    simp only [exec]
    refine w.grow (w.closed.allocs _ fun x hx p hp => ?_) (by simp [St.bindDocs])
    obtain ⟨v, _, rfl⟩ := List.mem_map.mp hx; cases hp
  | .cloneCatalog d s => fun st w => by
    simp only [exec]
    split
    · rename_i o ns ho
      exact w.grow (w.closed.alloc _ (w.closed o _ (St.obj_some ho).2)) (by simp [St.bind])
    · exact w
  | .newColl d => fun st w => by
    obtain ⟨c, sz, _⟩ := newCollH_closed w.closed
    exact w.grow c (Nat.le.intro sz.symm)
  | .cloneColl d e => fun st w => by
    simp only [exec]
    split
    · rename_i s idxs _
      obtain ⟨c, le, _⟩ := cloneCollH_closed w.closed s idxs
      exact w.grow c le
    · exact w
  | .shallowColl d e => fun st w => by
    simp only [exec]
    split
    · rename_i s idxs he
      cases ho : st.evalC e with
      | none => simp [ho] at he
      | some o =>
        simp only [ho, Option.bind_some] at he
        exact w.grow (w.closed.alloc _ (w.closed o _ he)) (by simp [St.bind])
    · exact w
  | .setNs c hx v => fun st w => by
    simp only [exec]
    split
    · rename_i o ns x ho _
      split
      · rename_i hlt
        exact w.grow (w.closed.write _ _ (mapPut_ptrs hlt (w.closed o _ (St.obj_some ho).2))) (by simp)
      · exact w
    · exact w
    · exact w
  | .setNsNew c hx => fun st w => by
    simp only [exec]
    split
    · rename_i o ns ho
      obtain ⟨c1, sz, id⟩ := newCollH_closed w.closed
      refine w.grow (c1.write _ _ (mapPut_ptrs (by omega) fun p hp => ?_)) (by simp; omega)
      have := w.closed o _ (St.obj_some ho).2 p hp; omega
    · exact w
  | .deleteNs c hx => fun st w => by
    simp only [exec]
    split
    · rename_i o ns ho
      exact w.grow (w.closed.write _ _ (mapDel_ptrs (w.closed o _ (St.obj_some ho).2))) (by simp)
    · exact w
  | .callColl r m x => fun st w => by
    simp only [exec]
    split
    · rename_i o s idxs ho
      obtain ⟨c, le⟩ := applyMut_closed w.closed (St.obj_some ho).2 (st.argDocs x) (st.popMut.1.restrict m.footprint)
      simp only [callCollSt]
      split <;> exact w.grow c le
    · exact w
  | .setCatalog v => fun st w => by
    simp only [exec]
    split
    · split
      · rename_i hlt; exact ⟨w.closed, hlt⟩
      · exact w
    · exact w
  | .ite c t e => fun st w => by
    simp only [exec]
    obtain ⟨e1, e2, _⟩ := Cond.eval_frame c st
    split
    · exact wf_execL t _ (by rw [e1, e2]; exact w)
    · exact wf_execL e _ (by rw [e1, e2]; exact w)
  | .loop o body => fun st w => by
    simp only [exec]
    refine iterate_induct _ (fun st => WF st.heap st.txn) (fun r => WF r.1.heap r.1.txn) (fun _ w => w)
      (fun st1 w1 => ?_) _ _ w
    have := wf_execL body (if o = true then st1.popHandle else st1) (by cases o <;> exact w1)
    simp only
    generalize execL body _ = r at this ⊢
    obtain ⟨st', sg⟩ := r
    cases sg <;> exact this
  | .helper n body => fun st w => by
    simp only [exec]
    have := wf_execL body st w
    generalize execL body st = r at this ⊢
    obtain ⟨st', sg⟩ := r
    cases sg <;> exact this
theorem wf_execL : ∀ (ss : List Stmt) (st : St), WF st.heap st.txn → WF (execL ss st).1.heap (execL ss st).1.txn
  | [] => fun _ w => w
  | s :: ss => fun st w => by
    simp only [execL]
    have := wf_exec s st w
    generalize exec s st = r at this ⊢
    obtain ⟨st1, sg1⟩ := r
    cases sg1 with
    | next => exact wf_execL ss st1 this
    | brk | cont | ret | panic => exact this
end

/-- one call keeps the heap closed and `t.catalog` allocated -/
theorem wf_run (p : Prog) (a : Args) (ch : Choices) (h : Heap) (t : TxnState) (w : WF h t) :
    WF (run p a ch (h, t)).1 (run p a ch (h, t)).2.1 :=
  wf_execL p (initSt a ch h t) w

end Lungo.Own
