/-
  Lungo.Proofs.ProjectPaths — the copy phase of mongokit.Project: what `Put` does to the result under
  construction, and from it the inclusion results.

  `put` on a document is `upsert` of what it writes below the key (`put_doc`, the document case of
  `put_cons` in AccessLaws); top-level inclusion in closed form and the two single-operator results
  follow.  For dotted paths the invariant of the copy phase is `SubV x y` ("x is a projection of y"):
  the result under construction only ever holds values that sit at the same path in the stored
  document.  `put_preserves_sub` is the Access lemma behind it: writing `get y q` at `q` into a
  projection of `y` gives a projection of `y`, for paths `q` without empty segments that cross no
  array in `y` (`noArrayBefore`, from SortLaws).
-/
import Lungo.Proofs.ProjectLaws
import Lungo.Proofs.SortLaws
import Lungo.Proofs.AccessLaws
namespace Lungo

/-! ## §1 `put` on documents -/

theorem upsert_keys (fs : Doc) (k : String) (v : V) :
    (upsert fs k v).map (·.1) = if (fs.map (·.1)).contains k then fs.map (·.1) else fs.map (·.1) ++ [k] := by
  induction fs with
  | nil => simp [upsert]
  | cons kv r ih =>
    obtain ⟨k', x⟩ := kv
    simp only [upsert]
    by_cases h : k' = k
    · subst h; simp
    · have hb : (k' == k) = false := by simpa using h
      have hb' : (k == k') = false := by simpa using (fun e => h e.symm : ¬ k = k')
      simp only [hb, Bool.false_eq_true, ↓reduceIte, List.map_cons, ih, List.contains_cons, hb', Bool.false_or]
      split <;> simp

theorem upsert_nodup (fs : Doc) (k : String) (v : V) (nd : (fs.map (·.1)).Nodup) :
    ((upsert fs k v).map (·.1)).Nodup := by
  rw [upsert_keys]
  split
  · exact nd
  · next h =>
    have : k ∉ fs.map (·.1) := by simpa using h
    rw [List.nodup_append]
    exact ⟨nd, by simp, fun a ha b hb => by simp at hb; subst hb; exact fun e => this (e ▸ ha)⟩

/-- writing a present value below `key` in a document: write it into the value of the first field
    `key` (into nothing if there is none) and `upsert` the result — the document case of `put_cons` -/
theorem put_doc (fs : Doc) (key : String) (rest : Path) (value : V) (hk : key ≠ "")
    (hv : value.isMissing = false) :
    put (.doc fs) (key :: rest) value false =
      match put ((Doc.find? fs key).getD .missing) rest value false with
      | .ok (nv, prev) => .ok (.doc (upsert fs key nv), prev)
      | .error e => .error e := by
  rw [put_cons, if_neg (by simp [admitsPut, hk, hv])]
  show (match put ((Doc.find? fs key).getD .missing) rest value false with | .ok (c, prev) => _ | .error e => _) = _
  cases hp : put ((Doc.find? fs key).getD .missing) rest value false with
  | error e => rfl
  | ok r => simp only [store, put_not_missing _ _ _ _ _ _ hp hv, Bool.false_eq_true, if_false, ite_self]

/-- into nothing, or into the empty document: the same (both have no child and store `{key: c}`) -/
theorem put_missing_eq (key : String) (rest : Path) (value : V) :
    put .missing (key :: rest) value false = put (.doc []) (key :: rest) value false := by
  rw [put_cons, put_cons]; rfl

theorem Put_top (res : Doc) (k : String) (v : V) (hk : k ≠ "") (hv : v.isMissing = false) :
    Put res [k] v false = .ok (upsert res k v, (Doc.find? res k).getD .missing) := by
  rw [Put, put_doc res k [] v hk hv]
  simp only [hv, Bool.false_eq_true, ↓reduceIte, put]

theorem putAll_top (copies : List (String × V))
    (h : ∀ pv ∈ copies, splitPath pv.1 = [pv.1] ∧ pv.1 ≠ "" ∧ pv.2.isMissing = false) : ∀ (res : Doc),
    putAll res copies = .ok (copies.foldl (fun acc pv => upsert acc pv.1 pv.2) res) := by
  induction copies with
  | nil => intro res; rfl
  | cons pv r ih =>
    obtain ⟨p, v⟩ := pv
    intro res
    obtain ⟨h1, h2, h3⟩ := h (p, v) (by simp)
    simp only [putAll, h1, Put_top res p v h2 h3, List.foldl_cons]
    exact ih (fun pv hpv => h pv (by simp [hpv])) _

/-! ## §2 top-level inclusion -/

/-- the keys appended by upserting `ps` one after the other into a document whose keys are `seen` -/
def newKeys : List String → List String → List String
  | _, [] => []
  | seen, p :: r => if seen.contains p then newKeys seen r else p :: newKeys (seen ++ [p]) r

theorem upsert_fun (g : String → V) (K : List String) (p : String) :
    upsert (K.map fun k => (k, g k)) p (g p) =
      if K.contains p then K.map (fun k => (k, g k)) else (K ++ [p]).map fun k => (k, g k) := by
  induction K with
  | nil => simp [upsert]
  | cons k r ih => grind [upsert]

theorem foldl_upsert_fun (g : String → V) (ps : List String) : ∀ (K : List String),
    (ps.map fun p => (p, g p)).foldl (fun acc pv => upsert acc pv.1 pv.2) (K.map fun k => (k, g k)) =
      (K ++ newKeys K ps).map fun k => (k, g k) := by
  induction ps with
  | nil => intro K; simp [newKeys]
  | cons p r ih =>
    intro K
    simp only [List.map_cons, List.foldl_cons, upsert_fun, newKeys]
    split
    · exact ih K
    · rw [ih (K ++ [p])]; simp

theorem newKeys_fresh (ps : List String) : ∀ (K : List String), ps.Nodup → (∀ p ∈ ps, p ∉ K) →
    newKeys K ps = ps := by
  induction ps with
  | nil => intro K _ _; rfl
  | cons p r ih =>
    intro K nd hK
    have := ih (K ++ [p])
    grind [newKeys]

/-- no key is produced twice, and none that was already there -/
theorem newKeys_spec (ps : List String) : ∀ (K : List String),
    (newKeys K ps).Nodup ∧ (∀ p ∈ newKeys K ps, p ∈ ps ∧ p ∉ K) ∧ (∀ p ∈ ps, p ∈ K ∨ p ∈ newKeys K ps) := by
  induction ps with
  | nil => intro K; simp [newKeys]
  | cons p r ih =>
    intro K
    simp only [newKeys]
    split
    · next hc =>
      obtain ⟨h1, h2, h3⟩ := ih K
      have hc : p ∈ K := by simpa using hc
      refine ⟨h1, fun q hq => ⟨by simp [(h2 q hq).1], (h2 q hq).2⟩, fun q hq => ?_⟩
      rcases List.mem_cons.mp hq with rfl | hq
      · exact Or.inl hc
      · exact h3 q hq
    · next hc =>
      obtain ⟨h1, h2, h3⟩ := ih (K ++ [p])
      have hc : p ∉ K := by simpa using hc
      refine ⟨List.nodup_cons.mpr ⟨fun hm => (h2 p hm).2 (by simp), h1⟩, fun q hq => ?_, fun q hq => ?_⟩
      · rcases List.mem_cons.mp hq with rfl | hq
        · exact ⟨by simp, hc⟩
        · exact ⟨by simp [(h2 q hq).1], fun hk => (h2 q hq).2 (by simp [hk])⟩
      · rcases List.mem_cons.mp hq with rfl | hq
        · exact Or.inr (by simp)
        · rcases h3 q hq with h | h
          · rcases List.mem_append.mp h with h | h
            · exact Or.inl h
            · exact Or.inr (by simp at h; simp [h])
          · exact Or.inr (by simp [h])

/-- top-level inclusion (flags only; `_id: 0` allowed): `_id` first, then the included fields that are
    present, in projection order, each with the value stored at it; repeated names and an explicit
    `_id: 1` change nothing; `_id: 0` drops `_id` at the end. -/
theorem inclusion_toplevel (sch : SchemaEval) (d proj : Doc)
    (hk : ∀ kv ∈ proj, isOpKey kv.1 = false ∧ (flagOf kv.2).isSome = true)
    (hex : ∀ kv ∈ proj, flagOf kv.2 = some false → kv.1 = "_id")
    (hinc : ((flagsOf proj).filter (·.2)).map (·.1) ≠ [])
    (hs : ∀ kv ∈ proj, splitPath kv.1 = [kv.1] ∧ kv.1 ≠ "")
    (hid : (Get d "_id").isMissing = false) :
    Project sch d proj = .ok
      (let incs := ((flagsOf proj).filter (·.2)).map (·.1)
       let present := incs.filter fun p => !(Get d p).isMissing
       let full := ("_id" :: newKeys ["_id"] present).map fun k => (k, Get d k)
       if (flagsOf proj).any (fun pb => !pb.2 && pb.1 == "_id") then full.tail else full) := by
  rw [inclusion_project sch d proj hk hex hinc, Put_top [] "_id" _ id_ne_empty hid]
  dsimp only
  rw [putAll_top]
  · have := foldl_upsert_fun (Get d) ((((flagsOf proj).filter (·.2)).map (·.1)).filter fun p => !(Get d p).isMissing) ["_id"]
    simp only [List.map_cons, List.map_nil] at this
    simp only [upsert, this, List.cons_append, List.nil_append, List.map_cons]
    split
    · rw [Unset_single _ _ id_ne_empty]; simp
    · rfl
  · intro pv hpv
    obtain ⟨p, hp, rfl⟩ := List.mem_map.mp hpv
    obtain ⟨hp1, hp2⟩ := List.mem_filter.mp hp
    obtain ⟨pb, hpb, rfl⟩ := List.mem_map.mp hp1
    obtain ⟨kv, hkv, rfl⟩ := List.mem_map.mp (List.mem_filter.mp hpb).1
    exact ⟨(hs kv hkv).1, (hs kv hkv).2, by simpa using hp2⟩

/-! ## §3 a single operator entry, end to end -/

/-- `{p: {$slice: k}}` on its own: the document with the array at top-level `p` replaced, in place,
    by its window; all other fields untouched. (`hop` is a fact about the string literal.) -/
theorem project_slice_count_toplevel (sch : SchemaEval) (d : Doc) (p : String) (v : V) (k : Int) (a : List V)
    (hop : isOpKey "$slice" = true) (hp : isOpKey p = false) (hs : splitPath p = [p]) (hne : p ≠ "")
    (hk : sliceInt v = some k) (ha : Get d p = .arr a) :
    Project sch d [(p, .doc [("$slice", v)])] =
      .ok (upsert d p (.arr (window a (countWindow a.length k)))) := by
  rw [Project_eq, projProcess_cons, projEntry_op sch {} d p _ v hp hop, projOp_slice,
    projectSlice_count {} d p v k a hk ha]
  simp only [projProcess_nil, projectFinish, PState.overlay, mergeSet, List.any_nil, Bool.false_eq_true,
    ↓reduceIte, List.nil_append, List.isEmpty_nil, Bool.not_true, Bool.false_and, List.foldl_nil]
  rw [putAll_top [(p, _)] (by simp [hs, hne, V.isMissing])]
  rfl

/-- `{p: {$elemMatch: q}}` on its own (inclusion style): `_id` plus, if some element of the array at
    top-level `p` matches, the field `p` holding exactly the first matching element. -/
theorem project_elemMatch_toplevel (sch : SchemaEval) (d : Doc) (p : String) (q : Doc) (a : List V)
    (hop : isOpKey "$elemMatch" = true) (hp : isOpKey p = false) (hs : splitPath p = [p]) (hne : p ≠ "")
    (hpid : p ≠ "_id") (hid : (Get d "_id").isMissing = false) (ha : Get d p = .arr a) :
    (∀ x, firstElemMatch sch q a = .ok (some x) →
      Project sch d [(p, .doc [("$elemMatch", .doc q)])] = .ok [("_id", Get d "_id"), (p, .arr [x])]) ∧
    (firstElemMatch sch q a = .ok none →
      Project sch d [(p, .doc [("$elemMatch", .doc q)])] = .ok [("_id", Get d "_id")]) ∧
    (∀ e, firstElemMatch sch q a = .error e →
      Project sch d [(p, .doc [("$elemMatch", .doc q)])] = .error e) := by
  have hpid' : ("_id" == p) = false := by simpa using (fun e => hpid e.symm : ¬ "_id" = p)
  have hput := Put_top [] "_id" (Get d "_id") id_ne_empty hid
  have hP : Project sch d [(p, .doc [("$elemMatch", .doc q)])] =
      match firstElemMatch sch q a with
      | .error e => .error e
      | .ok none => projectFinish d (({} : PState).elemMatchMark p)
      | .ok (some x) => projectFinish d ((({} : PState).elemMatchMark p).overlay p (.arr [x])) := by
    rw [Project_eq, projProcess_cons, projEntry_op sch {} d p _ _ hp hop, projOp_elemMatch,
      projectElemMatch_doc, ha]
    dsimp only
    cases firstElemMatch sch q a with
    | error e => rfl
    | ok o => cases o <;> rfl
  -- the copy phase: `_id` first; `p` is marked as not to be copied
  have hfin : ∀ m, projectFinish d { ({} : PState).elemMatchMark p with merge := m } =
      putAll [("_id", Get d "_id")] m := by
    intro m
    simp only [projectFinish, PState.elemMatchMark, List.nil_append, List.isEmpty_cons, List.isEmpty_nil,
      Bool.not_false, Bool.not_true, Bool.and_false, Bool.false_eq_true, ↓reduceIte, hput, upsert,
      List.filter_cons, List.contains_cons, beq_self_eq_true, Bool.true_or, List.filter_nil,
      List.filterMap_nil, putAll_nil]
    cases putAll [("_id", Get d "_id")] m <;> rfl
  refine ⟨fun x hx => ?_, fun hx => ?_, fun e hx => ?_⟩
  · rw [hP, hx]
    show projectFinish d { ({} : PState).elemMatchMark p with merge := [(p, .arr [x])] } = _
    rw [hfin, putAll_top [(p, _)] (by simp [hs, hne, V.isMissing])]
    simp [upsert, hpid']
  · rw [hP, hx]
    exact hfin []
  · rw [hP, hx]

/-! ## §4 dotted paths -/

/-- `x` is a projection of `y`: equal to it, or a document each of whose (visible, i.e.
    first-occurrence) fields is a projection of the field of the same name of `y`. -/
inductive SubV : V → V → Prop
  | refl (v : V) : SubV v v
  | doc (fs gs : List (String × V))
      (hdom : ∀ k v, Doc.find? fs k = some v → (Doc.find? gs k).isSome = true)
      (hsub : ∀ k v w, Doc.find? fs k = some v → Doc.find? gs k = some w → SubV v w) :
      SubV (.doc fs) (.doc gs)

theorem SubV.doc_inv {fs gs : List (String × V)} (h : SubV (.doc fs) (.doc gs)) :
    (∀ k v, Doc.find? fs k = some v → (Doc.find? gs k).isSome = true) ∧
    (∀ k v w, Doc.find? fs k = some v → Doc.find? gs k = some w → SubV v w) := by
  cases h with
  | refl => exact ⟨fun k v h => by simp [h], fun k v w h1 h2 => by rw [h1] at h2; cases h2; exact SubV.refl _⟩
  | doc _ _ hdom hsub => exact ⟨hdom, hsub⟩

theorem SubV.nil (gs : Doc) : SubV (.doc []) (.doc gs) :=
  SubV.doc _ _ (fun _ _ hf => nomatch hf) (fun _ _ _ hf => nomatch hf)

theorem SubV.eq_of_not_doc {x y : V} (h : SubV x y) (hx : x.isDoc = false) : x = y := by
  cases h with
  | refl => rfl
  | doc => simp [V.isDoc] at hx

/-- reading through a projection: every path of `x` that is present leads to a projection of what
    the same path leads to in `y` -/
theorem SubV.get (path : Path) : ∀ {x y : V}, SubV x y → "" ∉ path →
    (get x path false false).1 = .missing ∨ SubV (get x path false false).1 (get y path false false).1 := by
  induction path with
  | nil => intro x y h _; right; simpa [Lungo.get] using h
  | cons key rest ih =>
    intro x y h hne
    have hk : key ≠ "" := fun e => hne (by simp [e])
    have hne' : "" ∉ rest := fun e => hne (by simp [e])
    cases h with
    | refl => right; exact SubV.refl _
    | doc fs gs hdom hsub =>
      rw [get_doc_find fs key rest _ _ (by simp [hk]), get_doc_find gs key rest _ _ (by simp [hk])]
      cases hf : Doc.find? fs key with
      | none => left; rfl
      | some v =>
        have := hdom key v hf
        cases hg : Doc.find? gs key with
        | none => simp [hg] at this
        | some w => exact ih (hsub key v w hf hg) hne'

/-- writing the stored value of a path (crossing no array, no empty segment) into a projection of
    `y` — or into nothing — yields a projection of `y` -/
theorem put_preserves_sub (q : Path) : ∀ (x y x' prev : V), (x = .missing ∨ SubV x y) → "" ∉ q →
    noArrayBefore y q → ((get y q false false).1).isMissing = false →
    put x q (get y q false false).1 false = .ok (x', prev) → SubV x' y := by
  induction q with
  | nil =>
    intro x y x' prev _ _ _ _ h
    simp only [get, put, Except.ok.injEq, Prod.mk.injEq] at h
    rw [← h.1]; exact SubV.refl _
  | cons key rest ih =>
    intro x y x' prev hx hne hna hv h
    have hk : key ≠ "" := fun e => hne (by simp [e])
    have hk' : (key == "") = false := by simpa using hk
    have hne' : "" ∉ rest := fun e => hne (by simp [e])
    -- `y` is a document holding `key`
    have hyarr : y.isArr = false := by simpa [get] using hna [] (key :: rest) rfl (by simp)
    obtain ⟨gs, rfl⟩ : ∃ gs, y = .doc gs := by
      cases y <;> first | exact ⟨_, rfl⟩ | (simp [V.isArr] at hyarr; done) | (simp [get, hk', V.isMissing] at hv; done)
    rw [get_doc_find gs key rest _ _ (by simp [hk])] at hv h
    cases hg : Doc.find? gs key with
    | none => simp [hg, V.isMissing] at hv
    | some w =>
      simp only [hg] at hv h
      -- writing into nothing is writing into the empty document; so `x` is a document below `y`
      obtain ⟨fs, e, hfs⟩ : ∃ fs, put x (key :: rest) (get w rest false false).1 false =
          put (.doc fs) (key :: rest) (get w rest false false).1 false ∧ SubV (.doc fs) (.doc gs) := by
        rcases hx with rfl | hx
        · exact ⟨[], put_missing_eq key rest _, SubV.nil gs⟩
        · cases hx with
          | refl => exact ⟨gs, rfl, SubV.refl _⟩
          | doc fs _ hdom hsub => exact ⟨fs, rfl, SubV.doc fs gs hdom hsub⟩
      obtain ⟨hdom, hsub⟩ := hfs.doc_inv
      rw [e, put_doc fs key rest _ hk hv] at h
      cases hp : put ((Doc.find? fs key).getD .missing) rest (get w rest false false).1 false with
      | error e => simp only [hp, reduceCtorEq] at h
      | ok r =>
      obtain ⟨nv, prev0⟩ := r
      simp only [hp, Except.ok.injEq, Prod.mk.injEq] at h
      rw [← h.1]
      -- the value written below `key` is a projection of `w`, by induction
      have hnv : SubV nv w := by
        refine ih _ w nv prev0 ?_ hne' (noArrayBefore_tail (v := .doc gs) hk hg hna) hv hp
        cases hf : Doc.find? fs key with
        | none => left; rfl
        | some o => right; exact hsub key o w hf hg
      refine SubV.doc _ _ (fun k v hf => ?_) (fun k v u hf hgk => ?_)
      · rw [find_upsert] at hf
        split at hf
        · next e => rw [e, hg]; rfl
        · exact hdom k v hf
      · rw [find_upsert] at hf
        split at hf
        · next e => cases hf; rw [e, hg] at hgk; cases hgk; exact hnv
        · exact hsub k v u hf hgk

theorem Put_preserves_sub (d res res' : Doc) (q : Path) (prev : V) (hsub : SubV (.doc res) (.doc d))
    (hne : "" ∉ q) (hna : noArrayBefore (.doc d) q) (hv : (getP d q).isMissing = false)
    (h : Put res q (getP d q) false = .ok (res', prev)) : SubV (.doc res') (.doc d) :=
  put_preserves_sub q (.doc res) (.doc d) _ _ (Or.inr hsub) hne hna hv ((Put_ok_iff _ _ _ _ _ _).mp h).2

theorem Put_nodup (res res' : Doc) (key : String) (rest : Path) (v prev : V) (hk : key ≠ "")
    (hv : v.isMissing = false) (nd : (res.map (·.1)).Nodup)
    (h : Put res (key :: rest) v false = .ok (res', prev)) : (res'.map (·.1)).Nodup := by
  have hp := ((Put_ok_iff _ _ _ _ _ _).mp h).2
  rw [put_doc res key rest v hk hv] at hp
  split at hp <;> cases hp
  exact upsert_nodup res key _ nd

theorem putAll_invariant {I : Doc → Prop} (copies : List (String × V))
    (step : ∀ pv ∈ copies, ∀ res res' prev, I res → Put res (splitPath pv.1) pv.2 false = .ok (res', prev) → I res') :
    ∀ (res res' : Doc), I res → putAll res copies = .ok res' → I res' := by
  induction copies with
  | nil => intro res res' hi h; cases h; exact hi
  | cons pv r ih =>
    obtain ⟨p, v⟩ := pv
    intro res res' hi h
    simp only [putAll] at h
    split at h
    · cases h
    · next res1 prev hp =>
      exact ih (fun pv hpv => step pv (by simp [hpv])) res1 res' (step (p, v) (by simp) res res1 prev hi hp) h

theorem find_filter_ne (fs : Doc) (k0 k : String) :
    Doc.find? (fs.filter fun kv => kv.1 != k0) k = if k = k0 then none else Doc.find? fs k := by
  induction fs with
  | nil => simp [Doc.find?]
  | cons kv r ih => grind [Doc.find?]

theorem SubV.erase_key (full d : Doc) (k0 : String) (hk0 : k0 ≠ "") (nd : (full.map (·.1)).Nodup)
    (h : SubV (.doc full) (.doc d)) : SubV (.doc (Unset full [k0]).1) (.doc d) := by
  rw [Unset_single full k0 hk0, eraseP_key_eq_filter full k0 nd]
  obtain ⟨hdom, hsub⟩ := h.doc_inv
  refine SubV.doc _ _ (fun k v hf => ?_) (fun k v w hf hg => ?_)
  · rw [find_filter_ne] at hf
    split at hf
    · cases hf
    · exact hdom k v hf
  · rw [find_filter_ne] at hf
    split at hf
    · cases hf
    · exact hsub k v w hf hg

/-- Inclusion (flags only, `_id: 0` allowed) on arbitrary dotted paths that descend through embedded
    documents only: the result is a projection of the stored document. -/
theorem inclusion_sub (sch : SchemaEval) (d proj res : Doc)
    (hk : ∀ kv ∈ proj, isOpKey kv.1 = false ∧ (flagOf kv.2).isSome = true)
    (hex : ∀ kv ∈ proj, flagOf kv.2 = some false → kv.1 = "_id")
    (hinc : ((flagsOf proj).filter (·.2)).map (·.1) ≠ [])
    (hdom : ∀ kv ∈ proj, "" ∉ splitPath kv.1 ∧ splitPath kv.1 ≠ [] ∧ noArrayBefore (.doc d) (splitPath kv.1))
    (hidp : splitPath "_id" = ["_id"])
    (h : Project sch d proj = .ok res) :
    SubV (.doc res) (.doc d) := by
  rw [inclusion_project sch d proj hk hex hinc] at h
  split at h
  · cases h
  · next res0 prev hput =>
    split at h <;> cases h
    next full hall =>
    -- the invariant of the copy phase: a projection of `d` with distinct field names
    have hidm : (Get d "_id").isMissing = false := ((Put_ok_iff _ _ _ _ _ _).mp hput).1
    have hget : Get d "_id" = getP d ["_id"] := by simp [Get, getP, hidp]
    have h0 : SubV (.doc res0) (.doc d) ∧ (res0.map (·.1)).Nodup := by
      refine ⟨?_, Put_nodup [] res0 "_id" [] _ prev id_ne_empty hidm (by simp) hput⟩
      rw [hget] at hput hidm
      refine Put_preserves_sub d [] res0 ["_id"] prev (SubV.nil d) (by simp [id_ne_empty.symm]) ?_ hidm hput
      intro pre suf e hs
      cases pre with
      | nil => simp [get, V.isArr]
      | cons a pre' =>
        cases pre' with
        | nil => simp at e; exact absurd e.2 hs
        | cons b t => simp at e
    have hfull := putAll_invariant (I := fun r => SubV (.doc r) (.doc d) ∧ (r.map (·.1)).Nodup) _
      (fun pv hpv r r' prev' hi hp => by
        obtain ⟨p, hp', rfl⟩ := List.mem_map.mp hpv
        obtain ⟨hp1, hp2⟩ := List.mem_filter.mp hp'
        obtain ⟨pb, hpb, rfl⟩ := List.mem_map.mp hp1
        obtain ⟨kv, hkv, rfl⟩ := List.mem_map.mp (List.mem_filter.mp hpb).1
        obtain ⟨d1, d2, d3⟩ := hdom kv hkv
        have hm : (Get d kv.1).isMissing = false := by simpa using hp2
        refine ⟨Put_preserves_sub d r r' _ prev' hi.1 d1 d3 hm hp, ?_⟩
        cases hq : splitPath kv.1 with
        | nil => exact absurd hq d2
        | cons key rest =>
          rw [hq] at hp
          exact Put_nodup r r' key rest _ prev' (fun e => d1 (by rw [hq, e]; simp)) hm hi.2 hp)
      res0 full h0 hall
    split
    · exact SubV.erase_key full d "_id" id_ne_empty hfull.2 hfull.1
    · exact hfull.1

end Lungo
