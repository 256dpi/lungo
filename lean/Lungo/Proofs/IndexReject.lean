/-
  Lungo.Proofs.IndexReject — when exactly a write is rejected for uniqueness (C07):
  `.dup` from `addToIndexes` ⇔ the new document collides with a stored one under a unique index.
-/
import Lungo.Proofs.IndexColl
namespace Lungo

variable {sch : SchemaEval}

theorem CollidesAt.mono {S S' : SDoc → Prop} {i i' : Index} {d : Doc} (hs : ∀ x, S x → S' x)
    (hcfg : i'.config = i.config) (hcol : i'.columns = i.columns) (h : CollidesAt sch S i' d) :
    CollidesAt sch S' i d := by
  obtain ⟨hu, hb, x, hx, hbx, t, ht, k, hk, he⟩ := h
  rw [hcol] at ht hk
  rw [belongs_config hcfg] at hb hbx
  rw [hcfg] at hu
  exact ⟨hu, hb, x, hs x hx, hbx, t, ht, k, hk, he⟩

/-- `baseAdd` refused a fresh document: it collides under this (unique) index -/
theorem baseAdd_false_collides {S : SDoc → Prop} {i i' : Index} {sd : SDoc}
    (hc : IndexCoherent sch S i) (hfresh : ∀ x, S x → x.id ≠ sd.id) (hb : belongs sch i sd.doc)
    (h : i.baseAdd sd = (i', false)) : CollidesAt sch S i sd.doc := by
  obtain ⟨_, ⟨t0, _, he⟩ | ⟨hu, t, ht, hk⟩⟩ := baseAdd_false h
  · -- an entry with the identity of `sd` would belong to a stored document with that identity
    obtain ⟨k, hm, _⟩ := (hasEntry_iff i t0 sd.id).mp he
    obtain ⟨x, hx, hid, _⟩ := hc.sound k sd.id hm
    exact absurd hid (hfresh x hx)
  · obtain ⟨k, id, hm, he⟩ := (hasKey_iff i t).mp hk
    obtain ⟨x, hx, _, hbx, hkx⟩ := hc.sound k id hm
    exact ⟨hu, hb, x, hx, hbx, t, ht, k, hkx, he⟩

/-- a successful `Index.add` means there was no collision (uses transitivity of `tupleEq`) -/
theorem add_true_not_collides {S : SDoc → Prop} {i i' : Index} {sd : SDoc}
    (hc : IndexCoherent sch S i) (hinj : IdInj S) (hok : ∀ x, S x → DocOk x.doc) (hsd : DocOk sd.doc)
    (h : i.add sch sd = .ok (i', true)) : ¬ CollidesAt sch S i sd.doc := by
  rintro ⟨hu, hb, x, hx, hbx, t, ht, k, hk, he⟩
  rcases add_ok h with ⟨hnb, _⟩ | ⟨_, h⟩
  · rw [belongs, hnb] at hb; cases hb
  · have := no_collision_of_baseAdd hc hinj hsd hu h x hx (hok x hx) hbx k hk t ht
    rw [he] at this; cases this

theorem addOne_dup {i : Index} {sd : SDoc} (h : addOne sch sd i = .error .dup) :
    partialMatches sch i sd.doc = .error .dup ∨ ∃ i', i.add sch sd = .ok (i', false) := by
  unfold addOne at h
  split at h
  · rename_i he
    cases h
    rw [Index.add_eq] at he
    rcases hp : partialMatches sch i sd.doc with e | b <;> rw [hp] at he <;> cases he
    exact .inl rfl
  · rename_i i' hi; exact .inr ⟨i', hi⟩
  · cases h

theorem addOne_total {i : Index} {sd : SDoc} (h : ∃ b, partialMatches sch i sd.doc = .ok b) :
    (∃ i', addOne sch sd i = .ok i') ∨ addOne sch sd i = .error .dup := by
  obtain ⟨b, hb⟩ := h
  have ha : i.add sch sd = .ok (bif b then i.baseAdd sd else (i, true)) := by rw [Index.add_eq, hb]; rfl
  unfold addOne
  rw [ha]
  cases b with
  | false => exact .inl ⟨i, rfl⟩
  | true =>
    dsimp only [cond]
    rcases i.baseAdd sd with ⟨i', _ | _⟩
    · exact .inr rfl
    · exact .inl ⟨i', rfl⟩

/-- `.dup` from `addToIndexes` on a fresh document (no partial filter producing `.dup` itself):
    the document collides under one of the indexes -/
theorem addToIndexes_dup_collides {S : SDoc → Prop} {sd : SDoc} {idx : List (String × Index)}
    (hfresh : ∀ x, S x → x.id ≠ sd.id) (hc : AllCoherent sch S idx)
    (hne : ∀ n i, (n, i) ∈ idx → partialMatches sch i sd.doc ≠ .error .dup)
    (h : addToIndexes sch sd idx = .error .dup) : ∃ n i, (n, i) ∈ idx ∧ CollidesAt sch S i sd.doc := by
  rw [addToIndexes_eq] at h
  obtain ⟨n, i, hm, hf⟩ := mapIdx_error h
  rcases addOne_dup hf with hp | ⟨i', hi⟩
  · exact absurd hp (hne n i hm)
  · rcases add_ok hi with ⟨_, _, h⟩ | ⟨hb, hba⟩
    · cases h
    exact ⟨n, i, hm, baseAdd_false_collides (hc n i hm) hfresh hb hba⟩

theorem addToIndexes_total {sd : SDoc} {idx : List (String × Index)}
    (htot : ∀ n i, (n, i) ∈ idx → ∃ b, partialMatches sch i sd.doc = .ok b) :
    (∃ idx', addToIndexes sch sd idx = .ok idx') ∨ addToIndexes sch sd idx = .error .dup := by
  rw [addToIndexes_eq]
  cases h : mapIdx (addOne sch sd) idx with
  | ok idx' => exact .inl ⟨idx', rfl⟩
  | error e =>
    obtain ⟨n, i, hm, hf⟩ := mapIdx_error h
    rcases addOne_total (htot n i hm) with ⟨i', hi⟩ | hd
    · rw [hi] at hf; cases hf
    · rw [hd] at hf; cases hf; exact .inr rfl

theorem addToIndexes_ok_of_not_collides {S : SDoc → Prop} {sd : SDoc} {idx : List (String × Index)}
    (hc : AllCoherent sch S idx) (hfresh : ∀ x, S x → x.id ≠ sd.id)
    (htot : ∀ n i, (n, i) ∈ idx → ∃ b, partialMatches sch i sd.doc = .ok b)
    (hno : ∀ n i, (n, i) ∈ idx → ¬ CollidesAt sch S i sd.doc) :
    ∃ idx', addToIndexes sch sd idx = .ok idx' := by
  rcases addToIndexes_total htot with h | h
  · exact h
  · obtain ⟨n, i, hm, hcol⟩ := addToIndexes_dup_collides hfresh hc
      (fun n i hm e => by obtain ⟨b, hb⟩ := htot n i hm; rw [hb] at e; cases e) h
    exact absurd hcol (hno n i hm)

theorem addToIndexes_dup_of_collides {S : SDoc → Prop} {sd : SDoc} {idx : List (String × Index)}
    (hc : AllCoherent sch S idx) (hinj : IdInj S) (hok : ∀ x, S x → DocOk x.doc) (hsd : DocOk sd.doc)
    (htot : ∀ n i, (n, i) ∈ idx → ∃ b, partialMatches sch i sd.doc = .ok b)
    (hcol : ∃ n i, (n, i) ∈ idx ∧ CollidesAt sch S i sd.doc) :
    addToIndexes sch sd idx = .error .dup := by
  rcases addToIndexes_total htot with ⟨idx', h⟩ | h
  · obtain ⟨n, i, hm, hcol⟩ := hcol
    obtain ⟨i', hadd⟩ := mapIdx_ok_at (addToIndexes_eq sd idx ▸ h) n i hm
    exact absurd hcol (add_true_not_collides (hc n i hm) hinj hok hsd (addOne_ok.mp hadd))
  · exact h

/-! Multi-update: the new documents only have to be collision-free among themselves and with the
    untouched documents. -/

theorem shape_mem {idx idx' : List (String × Index)} (h : shape idx' = shape idx) :
    ∀ n i', (n, i') ∈ idx' → ∃ i, (n, i) ∈ idx ∧ i'.config = i.config := by
  intro n i' hm
  have : (n, i'.config) ∈ shape idx' := List.mem_map.mpr ⟨(n, i'), hm, rfl⟩
  rw [h] at this
  obtain ⟨⟨n', i⟩, hi, he⟩ := List.mem_map.mp this
  obtain ⟨rfl, hc⟩ := Prod.mk.inj he
  exact ⟨i, hi, hc.symm⟩

theorem columns_of_config {S S' : SDoc → Prop} {i i' : Index} (hc : IndexCoherent sch S i)
    (hc' : IndexCoherent sch S' i') (h : i'.config = i.config) : i'.columns = i.columns :=
  (Except.ok.inj ((h ▸ hc'.cols).symm.trans hc.cols))

theorem foldIdx_add_ok : ∀ {list : List SDoc} {S : SDoc → Prop} {idx : List (String × Index)},
    AllCoherent sch S idx → FreshFor S list →
    (∀ nd ∈ list, ∀ n i, (n, i) ∈ idx → ∃ b, partialMatches sch i nd.doc = .ok b) →
    (∀ nd ∈ list, ∀ n i, (n, i) ∈ idx →
      ¬ CollidesAt sch (fun x => S x ∨ (x ∈ list ∧ x ≠ nd)) i nd.doc) →
    ∃ idx', foldIdx (fun idx sd => addToIndexes sch sd idx) idx list = .ok idx'
  | [], _, idx, _, _, _, _ => ⟨idx, rfl⟩
  | sd :: r, S, idx, hc, hfr, htot, hno => by
    have hsd_ne : ∀ nd ∈ r, sd ≠ nd := fun nd hnd' e =>
      (List.nodup_cons.mp hfr.2).1 (List.mem_map.mpr ⟨nd, hnd', by rw [e]⟩)
    obtain ⟨idx1, h1⟩ := addToIndexes_ok_of_not_collides hc (hfr.1 sd (by simp)) (htot sd (by simp))
      (fun n i hm hcol => hno sd (by simp) n i hm (hcol.mono (fun x hx => .inl hx) rfl rfl))
    -- the indexes after `sd` went in have the definitions they had before
    obtain ⟨idx', h'⟩ := foldIdx_add_ok (list := r) (hc.add h1) hfr.tail
      (fun nd hnd' n i1 hm => by
        obtain ⟨i, hi, hadd⟩ := addToIndexes_mem h1 n i1 hm
        rw [partialMatches_config (add_shape hadd).1]
        exact htot nd (List.mem_cons_of_mem _ hnd') n i hi)
      (fun nd hnd' n i1 hm hcol => by
        obtain ⟨i, hi, hadd⟩ := addToIndexes_mem h1 n i1 hm
        obtain ⟨s1, s2⟩ := add_shape hadd
        refine hno nd (List.mem_cons_of_mem _ hnd') n i hi (hcol.mono ?_ s1 s2)
        rintro x ((hx | rfl) | ⟨hx1, hx2⟩)
        · exact .inl hx
        · exact .inr ⟨by simp, hsd_ne nd hnd'⟩
        · exact .inr ⟨List.mem_cons_of_mem _ hx1, hx2⟩)
    exact ⟨idx', foldIdx_cons.mpr ⟨idx1, h1, h'⟩⟩

theorem insert_unfold {c : Coll} {d d' : Doc} {nu nu1 : Nu} (he : ensureId d nu = .ok (d', nu1)) :
    c.insert sch d nu =
      match addToIndexes sch ⟨nu.nextId, d'⟩ c.indexes with
      | .error e => .error e
      | .ok idx => .ok ({ docs := c.docs ++ [⟨nu.nextId, d'⟩], indexes := idx }, ⟨nu.nextId, d'⟩,
          { nu1 with nextId := nu.nextId + 1 }) := by
  rw [Coll.insert_eq, he]
  dsimp only [bind, Except.bind]
  cases addToIndexes sch ⟨nu.nextId, d'⟩ c.indexes <;> rfl

end Lungo
