/-
  Lungo.Proofs.SeqIndex — C01: createIndex. The implementation builds the index entries document by
  document (`Index.build`); the Spec asks that the stored documents, one after the other, be
  admissible under the new definition (`admitAll` over plain documents).
-/
import Lungo.Proofs.SeqMgmt
namespace Lungo.SeqRef
open Lungo Lungo.Spec

variable {sch : SchemaEval}

theorem validDef_newIndex (cfg : IndexConfig) : (newIndex cfg).map (fun _ => ()) = validDef cfg := by
  unfold newIndex validDef
  by_cases hk : cfg.key.isEmpty = true
  · simp [hk, Except.map]
  · simp only [hk, Bool.false_eq_true, ↓reduceIte]
    cases columns cfg.key with
    | error e => rfl
    | ok cols =>
      simp only
      split
      · rfl
      · split <;> rfl

/-- `Collection.CreateIndex` = the Spec's createIndex -/
theorem createIndex_abs {c : Coll} (hc : Coherent sch c) (hok : DocsOk c.docs) (name : String) (cfg : IndexConfig) :
    (c.createIndex sch name cfg).map (fun r => (absC r.1, r.2)) = (absC c).createIndex sch name cfg := by
  unfold SColl.createIndex
  rw [createIndex_eq]
  cases (if name == "" then cfg.name else Except.ok name) with
  | error e => rfl
  | ok nm =>
    have hsame : ∀ d : SColl, d.hasSame nm cfg = (d.defs.lookup nm).any cfg.equal := fun d => by
      unfold SColl.hasSame; cases d.defs.lookup nm <;> rfl
    simp only [Res.ok_bind, absC, createNew_eq, hsame]
    -- the same three guards on both sides
    by_cases h1 : ((shape c.indexes).lookup nm).any cfg.equal = true
    · simp only [h1, ↓reduceIte]; rfl
    by_cases h2 : (shape c.indexes).any (fun p => V.cmp (.doc cfg.key) (.doc p.2.key) == .eq) = true
    · simp only [h1, h2, Bool.false_eq_true, ↓reduceIte]; rfl
    by_cases h3 : (shape c.indexes).any (·.1 == nm) = true
    · simp only [h1, h2, h3, Bool.false_eq_true, ↓reduceIte]; rfl
    · simp only [h1, h2, h3, Bool.false_eq_true, ↓reduceIte]
      rw [← validDef_newIndex]
      cases hni : newIndex cfg with
      | error e => rfl
      | ok index =>
        have h1 := newIndex_config hni
        have hb := foldIdx_add_admitAll (sch := sch) c.docs [] [(nm, index)]
          ((newIndex_coherent hni nm).congr (fun x => by simp)) (by simpa using hc.1) (by simpa using hok)
        simp only [shape, List.map_cons, List.map_nil, h1] at hb
        simp only [Except.map, Res.ok_bind, ← hb]
        cases hf : foldIdx (fun idx sd => addToIndexes sch sd idx) [(nm, index)] c.docs with
        | error e => rfl
        | ok l =>
          obtain ⟨index', rfl, hcfg⟩ := fold_add_singleton hf
          simp only [Res.ok_bind, pure, Except.pure, shape, List.map_append, List.map_cons, List.map_nil, hcfg, h1]

theorem refines_createIndex (s : Sys) (h : Handle) (name : String) (cfg : IndexConfig) (oids : List V)
    (hi : SysInv sch s) (ok : OkDB (abs s.catalog)) : Refines sch s (.createIndex h name cfg) oids := by
  unfold Refines Sys.step
  simp only [Spec.step, runCall, Txn.createIndex]
  cases hwr : writable h true with
  | error e => rfl
  | ok _ =>
    have hne := writable_ne_oplog hwr
    have k := (good_of_inv hi).nsOk_ensure h
    simp only
    rw [abs_coll s.catalog hne, ← createIndex_abs k.coherent (okDB_ensureNs ok hne) name cfg]
    cases (ensureNs s.catalog h).createIndex sch name cfg with
    | error e => rfl
    | ok r =>
      obtain ⟨coll, nm⟩ := r
      simp [Except.map, Sys.commit, abs_set s.catalog coll hne]

end Lungo.SeqRef
