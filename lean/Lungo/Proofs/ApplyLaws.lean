/-
  Lungo.Proofs.ApplyLaws — laws of the update operators (mongokit/apply.go), used by C11:
  idempotence of $set/$unset/$min/$max/$addToSet/$pull/$pullAll at a resolved path; how a successful
  operator ends (`applyOp_ends`) and what that gives for the change log; the up-front conflict test
  (`checkPaths`); the expansion of `$[identifier]`.
-/
import Lungo.Model.Apply
import Lungo.Proofs.AccessLaws
import Lungo.Proofs.CompareLaws
namespace Lungo

theorem record_fresh (d : Doc) (path : String) (val : V) :
    record { doc := d, changed := [] } path val = .ok { doc := d, changed := [(path, val)] } := by
  simp [record]

theorem record_doc {s s' : AState} {path : String} {val : V} (h : record s path val = .ok s') :
    s'.doc = s.doc := by
  unfold record at h
  simp only at h
  split at h
  · cases h
  · cases h; rfl

theorem putRec_ok {s s1 : AState} {path : String} {v : V} (h : putRec s path v = .ok s1) :
    ∃ prev, Put s.doc (splitPath path) v false = .ok (s1.doc, prev) := by
  unfold putRec at h
  split at h
  · cases h
  · rename_i d pv hput
    exact ⟨pv, by rw [hput, record_doc h]⟩

theorem Put_idempotent {d d1 : Doc} {p : Path} {x prev : V} {pre : Bool}
    (h : Put d p x pre = .ok (d1, prev)) : Put d1 p x pre = .ok (d1, x) := by
  rw [Put_ok_iff] at h ⊢
  exact ⟨h.1, put_idempotent _ _ _ _ _ _ h.2 h.1⟩

theorem putRec_again {s s1 : AState} {path : String} {v : V} (h : putRec s path v = .ok s1) :
    putRec { doc := s1.doc, changed := [] } path v = .ok { doc := s1.doc, changed := [(path, v)] } := by
  obtain ⟨prev, hput⟩ := putRec_ok h
  unfold putRec
  simp only [Put_idempotent hput, record_fresh]

theorem getP_Put {d d1 : Doc} {p : Path} {x prev : V} {pre : Bool}
    (h : Put d p x pre = .ok (d1, prev)) : getP d1 p = x := by
  rw [Put_ok_iff] at h
  unfold getP
  rw [get_put_same _ _ _ _ _ _ false h.2 h.1]

theorem getP_recorded {s s1 : AState} {path : String} {x y prev : V} {d : Doc}
    (hp : Put s.doc (splitPath path) x false = .ok (d, prev))
    (h : record { s with doc := d } path y = .ok s1) : getP s1.doc (splitPath path) = x := by
  rw [record_doc h]; exact getP_Put hp

/-- the idempotence statement: a second application on the result, with a fresh change log,
    succeeds and leaves the document as it is. -/
def IdemAt (c : ACtx) (op path : String) (v : V) (s1 : AState) : Prop :=
  ∃ s2, applyOp c { doc := s1.doc, changed := [] } op path v = .ok s2 ∧ s2.doc = s1.doc

theorem set_idem (c : ACtx) (s s1 : AState) (path : String) (v : V)
    (h : applyOp c s "$set" path v = .ok s1) : IdemAt c "$set" path v s1 := by
  unfold applyOp at h; simp only [] at h
  unfold IdemAt applyOp; simp only []
  exact ⟨_, putRec_again h, rfl⟩

/-- `$min` / `$max`: `v` is written where nothing is present or the present value passes the test `w`.
    Once `v` is there, writing it again changes nothing, whichever branch the second run takes. -/
theorem guarded_idem {c : ACtx} {op path : String} {v : V} {w : V → Bool}
    (hop : ∀ s, applyOp c s op path v =
      if (getP s.doc (splitPath path)).isMissing = true then putRec s path v
      else if w (getP s.doc (splitPath path)) = true then putRec s path v else .ok s)
    {s s1 : AState} (h : applyOp c s op path v = .ok s1) : IdemAt c op path v s1 := by
  unfold IdemAt
  rw [hop] at h ⊢
  have again : ∀ s0, putRec s0 path v = .ok s1 → ∃ s2, (if (getP s1.doc (splitPath path)).isMissing = true then
        putRec { doc := s1.doc, changed := [] } path v
      else if w (getP s1.doc (splitPath path)) = true then putRec { doc := s1.doc, changed := [] } path v
      else .ok { doc := s1.doc, changed := [] }) = .ok s2 ∧ s2.doc = s1.doc := by
    intro s0 h0
    split
    · exact ⟨_, putRec_again h0, rfl⟩
    · split
      · exact ⟨_, putRec_again h0, rfl⟩
      · exact ⟨_, rfl, rfl⟩
  split at h
  · exact again _ h
  · split at h
    · exact again _ h
    · rename_i h1 h2
      cases h
      exact ⟨⟨s.doc, []⟩, by rw [if_neg h1, if_neg h2], rfl⟩

theorem min_idem (c : ACtx) (s s1 : AState) (path : String) (v : V)
    (h : applyOp c s "$min" path v = .ok s1) : IdemAt c "$min" path v s1 :=
  guarded_idem (w := fun x => V.cmp x v == .gt) (fun s => by unfold applyOp; simp only []) h

theorem max_idem (c : ACtx) (s s1 : AState) (path : String) (v : V)
    (h : applyOp c s "$max" path v = .ok s1) : IdemAt c "$max" path v s1 :=
  guarded_idem (w := fun x => V.cmp x v == .lt) (fun s => by unfold applyOp; simp only []) h

theorem Unset_idempotent (d : Doc) (p : Path) (hp : p ≠ []) (hn : (V.doc d).nodupKeys = true) :
    (Unset (Unset d p).1 p).1 = (Unset d p).1 := by
  cases p with
  | nil => exact absurd rfl hp
  | cons key rest =>
    rw [Unset_eq d]
    cases h1 : put (.doc d) (key :: rest) .missing false with
    | error e => simp only; rw [Unset_eq, h1]
    | ok r =>
      obtain ⟨nv, prev⟩ := r
      obtain ⟨d1, e1⟩ := put_doc_isDoc _ _ _ _ _ _ _ h1
      subst e1
      simp only
      rw [Unset_eq]
      rcases put_missing_twice _ _ _ _ _ h1 hn with ⟨e, h2⟩ | ⟨pv, h2⟩
      · rw [h2]
      · rw [h2]

theorem unset_idem (c : ACtx) (s s1 : AState) (path : String) (v : V)
    (hn : (V.doc s.doc).nodupKeys = true)
    (h : applyOp c s "$unset" path v = .ok s1) : IdemAt c "$unset" path v s1 := by
  unfold applyOp at h; simp only [] at h
  unfold IdemAt applyOp; simp only []
  have hd : s1.doc = (Unset s.doc (splitPath path)).1 := by
    split at h
    · cases h; rfl
    · rw [record_doc h]
  have h2 := Unset_idempotent s.doc (splitPath path) (splitPath_ne_nil path) hn
  rw [← hd] at h2
  split
  · exact ⟨_, rfl, h2⟩
  · rw [record_fresh]; exact ⟨_, rfl, h2⟩

theorem pullAll_idem (c : ACtx) (s s1 : AState) (path : String) (v : V)
    (h : applyOp c s "$pullAll" path v = .ok s1) : IdemAt c "$pullAll" path v s1 := by
  unfold applyOp at h; simp only [] at h
  unfold IdemAt applyOp; simp only []
  split at h
  · rename_i targets
    split at h
    · rename_i hg; cases h; simp only [hg]; exact ⟨_, rfl, rfl⟩
    · rename_i arr hg
      split at h
      · rename_i hl; cases h; simp only [hg, hl, if_true]; exact ⟨_, rfl, rfl⟩
      · split at h
        · cases h
        · rename_i d pv hput
          simp only [getP_recorded hput h, List.filter_filter, Bool.and_self, beq_self_eq_true, if_true]
          exact ⟨_, rfl, rfl⟩
    · rename_i hne1 hne2
      cases h
  · cases h

theorem pullFilter_idem (sch : SchemaEval) (cond : V) (arr result : List V) (removed : Bool)
    (h : pullFilter sch cond arr = .ok (result, removed)) :
    pullFilter sch cond result = .ok (result, false) := by
  induction arr generalizing result removed with
  | nil => simp only [pullFilter] at h; cases h; rfl
  | cons item r ih =>
    simp only [pullFilter] at h
    split at h
    · cases h
    · rename_i m hm
      split at h
      · cases h
      · rename_i rest rem hr
        split at h
        · cases h; exact ih _ _ hr
        · cases h
          simp only [pullFilter, hm, ih _ _ hr]
          simp_all

theorem pull_idem (c : ACtx) (s s1 : AState) (path : String) (v : V)
    (h : applyOp c s "$pull" path v = .ok s1) : IdemAt c "$pull" path v s1 := by
  unfold applyOp at h; simp only [] at h
  unfold IdemAt applyOp; simp only []
  split at h
  · rename_i hg; cases h; simp only [hg]; exact ⟨_, rfl, rfl⟩
  · rename_i arr hg
    split at h
    · cases h
    · rename_i result removed hf
      split at h
      · rename_i hr; cases h; simp only [hg, hf, hr, if_true]; exact ⟨_, rfl, rfl⟩
      · split at h
        · cases h
        · rename_i d pv hput
          simp only [getP_recorded hput h, pullFilter_idem _ _ _ _ _ hf]
          exact ⟨_, rfl, rfl⟩
  · cases h

def present (acc : List V) (val : V) : Bool := acc.any (fun ex => V.cmp ex val == .eq)

/-- the accumulation step of `$addToSet` (the body of the fold in `applyOp`) -/
def addStep (acc : List V) (val : V) : List V :=
  if present acc val then acc else acc ++ [val]

theorem present_append (acc extra : List V) (val : V) (h : present acc val = true) :
    present (acc ++ extra) val = true := by
  unfold present at h ⊢
  rw [List.any_append, h, Bool.true_or]

theorem addFold_prefix (values acc : List V) : ∃ extra, values.foldl addStep acc = acc ++ extra := by
  induction values generalizing acc with
  | nil => exact ⟨[], by simp⟩
  | cons val r ih =>
    simp only [List.foldl_cons]
    obtain ⟨e, he⟩ := ih (addStep acc val)
    rw [he]
    unfold addStep
    split
    · exact ⟨e, rfl⟩
    · exact ⟨[val] ++ e, by simp⟩

theorem addStep_present (acc : List V) (val : V) : present (addStep acc val) val = true := by
  unfold addStep
  split
  · assumption
  · simp [present, V.cmp_refl]

theorem addFold_present (values acc : List V) :
    ∀ val ∈ values, present (values.foldl addStep acc) val = true := by
  induction values generalizing acc with
  | nil => intro val hv; cases hv
  | cons a r ih =>
    intro val hv
    simp only [List.foldl_cons]
    rcases List.mem_cons.mp hv with e | hm
    · subst e
      obtain ⟨ex, he⟩ := addFold_prefix r (addStep acc val)
      rw [he]
      exact present_append _ _ _ (addStep_present acc val)
    · exact ih _ _ hm

theorem addFold_fixed (values acc : List V) (h : ∀ val ∈ values, present acc val = true) :
    values.foldl addStep acc = acc := by
  induction values with
  | nil => rfl
  | cons a r ih =>
    simp only [List.foldl_cons]
    rw [show addStep acc a = acc from if_pos (h a List.mem_cons_self)]
    exact ih (fun val hv => h val (List.mem_cons_of_mem _ hv))

theorem addFold_idem (values arr : List V) :
    values.foldl addStep (values.foldl addStep arr) = values.foldl addStep arr :=
  addFold_fixed _ _ (addFold_present values arr)

theorem addToSet_idem (c : ACtx) (s s1 : AState) (path : String) (v : V)
    (h : applyOp c s "$addToSet" path v = .ok s1) : IdemAt c "$addToSet" path v s1 := by
  unfold applyOp at h; simp only [] at h
  unfold IdemAt applyOp; simp only []
  split at h
  · cases h
  · rename_i values hv
    split at h
    · cases h
    · rename_i arr harr
      change (if ((values.foldl addStep arr).length == arr.length) = true then _ else _) = _ at h
      split at h
      · rename_i hl
        cases h
        simp only [harr]
        change ∃ s2, (if ((values.foldl addStep arr).length == arr.length) = true then _ else _) = _ ∧ _
        simp only [hl, if_true]
        exact ⟨_, rfl, rfl⟩
      · rename_i hl
        split at h
        · cases h
        · rename_i d pv hput
          -- the array just written is read back: nothing to add any more
          simp only [getP_recorded hput h]
          change ∃ s2, (if ((values.foldl addStep (values.foldl addStep arr)).length ==
            (values.foldl addStep arr).length) = true then _ else _) = _ ∧ _
          simp only [addFold_idem, beq_self_eq_true, if_true]
          exact ⟨_, rfl, rfl⟩

/-- two recorded paths conflict when one is a prefix of the other (or they are equal). -/
def related (p q : Path) : Bool := isPrefixOf p q || isPrefixOf q p

/-- no two recorded paths are prefix-related. -/
def ConflictFree (ch : List (String × V)) : Prop :=
  ch.Pairwise fun a b => related (splitPath a.1) (splitPath b.1) = false

theorem record_changed {s s' : AState} {path : String} {val : V} (h : record s path val = .ok s') :
    s'.changed = s.changed ++ [(path, val)] ∧
      (∀ a ∈ s.changed, related (splitPath a.1) (splitPath path) = false) := by
  unfold record at h
  simp only at h
  split at h
  · cases h
  · rename_i hany
    cases h
    refine ⟨rfl, ?_⟩
    intro a ha
    simp only [List.any_eq_true, not_exists, not_and, Bool.not_eq_true] at hany
    exact hany a ha

theorem record_cf {s s' : AState} {path : String} {val : V} (h : record s path val = .ok s')
    (hc : ConflictFree s.changed) : ConflictFree s'.changed := by
  obtain ⟨e, hnew⟩ := record_changed h
  unfold ConflictFree at hc ⊢
  rw [e, List.pairwise_append]
  refine ⟨hc, List.pairwise_singleton _ _, ?_⟩
  intro a ha b hb
  simp only [List.mem_singleton] at hb
  subst hb
  exact hnew a ha

theorem putRec_cf {s s' : AState} {path : String} {v : V} (h : putRec s path v = .ok s')
    (hc : ConflictFree s.changed) : ConflictFree s'.changed := by
  unfold putRec at h
  split at h
  · cases h
  · exact record_cf h hc

/-- `s'` comes from `s` by recording changes: the document stays, the log grows through `record`. -/
inductive Logged : AState → AState → Prop
  | refl (s : AState) : Logged s s
  | step {s s1 s' : AState} {p : String} {x : V} : record s p x = .ok s1 → Logged s1 s' → Logged s s'

theorem Logged.cf {s s' : AState} (h : Logged s s') (hc : ConflictFree s.changed) : ConflictFree s'.changed := by
  induction h with
  | refl => exact hc
  | step h1 _ ih => exact ih (record_cf h1 hc)

theorem recs_logged {path : String} {s s' : AState} {i : Nat} {vals : List V}
    (h : applyOp.recs path s i vals = .ok s') : Logged s s' := by
  induction vals generalizing s i with
  | nil => cases h; exact .refl _
  | cons val r ih =>
    unfold applyOp.recs at h
    split at h
    · cases h
    · exact .step ‹_› (ih h)

theorem putRec_of_Put {s s' : AState} {path : String} {x prev : V} {d : Doc}
    (hp : Put s.doc (splitPath path) x false = .ok (d, prev))
    (h : record { s with doc := d } path x = .ok s') : putRec s path x = .ok s' := by
  unfold putRec; rw [hp]; exact h

/-- How a successful operator ends: it returns the state as it came, or it is one `putRec` (a `Put`
    recorded under the same path with the same value; `$pop` records what it reads back, which is what
    it wrote), or — `$unset`, `$rename`, `$push` only — it replaces the document and records. -/
theorem applyOp_ends (c : ACtx) (s s' : AState) (op path : String) (v : V)
    (h : applyOp c s op path v = .ok s') :
    s' = s ∨ (∃ x, putRec s path x = .ok s') ∨
      (op ∈ ["$unset", "$rename", "$push"] ∧ ∃ d, Logged { s with doc := d } s') := by
  revert h
  fun_cases applyOp c s op path v <;> intro h
  -- all but six branches end in an error, in the state itself, in `putRec`, or in `Put` and `record`
  all_goals first
    | cases h; done
    | exact .inl (Except.ok.inj h).symm
    | exact .inr (.inl ⟨_, h⟩)
    | exact .inr (.inl ⟨_, putRec_of_Put (by assumption) h⟩)
    | skip
  -- `$unset` of an absent field, `$unset`
  · cases h; exact .inr (.inr ⟨.head _, _, .refl _⟩)
  · exact .inr (.inr ⟨.head _, _, .step h (.refl _)⟩)
  -- `$rename`: two records in a row
  · exact .inr (.inr ⟨.tail _ (.head _), _, .step (by assumption) (.step h (.refl _))⟩)
  -- `$push` that records nothing, `$push` with per-element records
  · obtain rfl := Except.ok.inj h; exact .inr (.inr ⟨.tail _ (.tail _ (.head _)), _, .refl _⟩)
  · exact .inr (.inr ⟨.tail _ (.tail _ (.head _)), _, recs_logged h⟩)
  -- `$pop`
  · rw [getP_Put (by assumption)] at h
    exact .inr (.inl ⟨_, putRec_of_Put (by assumption) h⟩)

/-- every operator keeps the change log conflict free (all writes to it go through `record`). -/
theorem applyOp_cf (c : ACtx) (s s' : AState) (op path : String) (v : V)
    (h : applyOp c s op path v = .ok s') (hc : ConflictFree s.changed) : ConflictFree s'.changed := by
  rcases applyOp_ends c s s' op path v h with rfl | ⟨x, hx⟩ | ⟨_, d, hl⟩
  · exact hc
  · exact putRec_cf hx hc
  · exact hl.cf hc

theorem Apply_each_cf (c : ACtx) (op : String) (value : V) (s s' : AState) (ps : List String)
    (h : Apply.conds.each c op value s ps = .ok s') (hc : ConflictFree s.changed) :
    ConflictFree s'.changed := by
  induction ps generalizing s with
  | nil => unfold Apply.conds.each at h; cases h; exact hc
  | cons p r ih =>
    unfold Apply.conds.each at h
    split at h
    · cases h
    · rename_i s1 h1; exact ih _ h (applyOp_cf _ _ _ _ _ _ h1 hc)

theorem Apply_conds_cf (c : ACtx) (afs : List Doc) (s s' : AState) (op : String) (upd : List (String × V))
    (h : Apply.conds c afs s op upd = .ok s') (hc : ConflictFree s.changed) :
    ConflictFree s'.changed := by
  induction upd generalizing s with
  | nil => unfold Apply.conds at h; cases h; exact hc
  | cons kv r ih =>
    obtain ⟨key, value⟩ := kv
    unfold Apply.conds at h
    split at h
    · cases h
    · split at h
      · cases h
      · rename_i s1 h1; exact ih _ h (Apply_each_cf _ _ _ _ _ _ h1 hc)

theorem Apply_ops_cf (c : ACtx) (afs : List Doc) (s s' : AState) (upd : List (String × V))
    (h : Apply.ops c afs s upd = .ok s') (hc : ConflictFree s.changed) :
    ConflictFree s'.changed := by
  induction upd generalizing s with
  | nil => unfold Apply.ops at h; cases h; exact hc
  | cons kv r ih =>
    obtain ⟨key, value⟩ := kv
    unfold Apply.ops at h
    split at h
    · split at h
      · cases h
      · split at h
        · split at h
          · cases h
          · rename_i s1 h1; exact ih _ h (Apply_conds_cf _ _ _ _ _ _ h1 hc)
        · cases h
    · cases h

/-- the segments at the first index, within the common length, where the two paths differ. -/
def firstDiff (p q : Path) : Option (String × String) :=
  match p, q with
  | [], _ => none
  | _ :: _, [] => none
  | a :: p', b :: q' => if a = b then firstDiff p' q' else some (a, b)

theorem firstDiff_some_iff (p q : Path) (a b : String) :
    firstDiff p q = some (a, b) ↔
      ∃ k : Nat, p[k]? = some a ∧ q[k]? = some b ∧ a ≠ b ∧ ∀ m, m < k → p[m]? = q[m]? := by
  induction p generalizing q with
  | nil => simp [firstDiff]
  | cons x p' ih =>
    cases q with
    | nil => simp [firstDiff]
    | cons y q' =>
      rw [firstDiff]
      split
      · rename_i hxy
        subst hxy
        rw [ih]
        constructor
        · rintro ⟨k, h1, h2, h3, h4⟩
          refine ⟨k + 1, h1, h2, h3, fun m hm => ?_⟩
          cases m with
          | zero => rfl
          | succ m => exact h4 m (by omega)
        · rintro ⟨_ | k, h1, h2, h3, h4⟩
          · exact absurd (Option.some.inj (h1.symm.trans h2)) h3
          · exact ⟨k, h1, h2, h3, fun m hm => h4 (m + 1) (by omega)⟩
      · rename_i hxy
        constructor
        · rintro ⟨⟩
          exact ⟨0, rfl, rfl, hxy, fun m hm => absurd hm (Nat.not_lt_zero m)⟩
        · rintro ⟨_ | k, h1, h2, h3, h4⟩
          · cases h1; cases h2; rfl
          · exact absurd (Option.some.inj (h4 0 (by omega))) hxy

/-- declaratively: at the first differing segment exactly one of the two is positional. -/
def PositionalClash (p q : Path) : Prop :=
  ∃ a b : String, firstDiff p q = some (a, b) ∧ isPositional a ≠ isPositional b

theorem positionalClash_iff (p q : Path) : positionalClash p q = true ↔ PositionalClash p q := by
  induction p generalizing q with
  | nil =>
    unfold positionalClash PositionalClash firstDiff
    simp
  | cons x p' ih =>
    cases q with
    | nil => unfold positionalClash PositionalClash firstDiff; simp
    | cons y q' =>
      unfold positionalClash PositionalClash firstDiff
      by_cases hxy : x = y
      · subst hxy
        simp only [bne_self_eq_false, Bool.false_eq_true, if_false, if_true]
        exact ih q'
      · simp only [hxy, if_false, bne_iff_ne, ne_eq, not_false_eq_true, if_true]
        constructor
        · intro h; exact ⟨x, y, rfl, h⟩
        · rintro ⟨a, b, e, h⟩; cases e; exact h

theorem firstDiff_swap (p q : Path) : firstDiff q p = (firstDiff p q).map (fun ab => (ab.2, ab.1)) := by
  induction p generalizing q with
  | nil => cases q <;> simp [firstDiff]
  | cons x p' ih =>
    cases q with
    | nil => simp [firstDiff]
    | cons y q' =>
      unfold firstDiff
      by_cases hxy : x = y
      · subst hxy; simp only [if_true]; exact ih q'
      · have : ¬ y = x := fun e => hxy e.symm
        simp [hxy, this]

theorem PositionalClash_symm {p q : Path} (h : PositionalClash p q) : PositionalClash q p := by
  obtain ⟨a, b, e, hne⟩ := h
  exact ⟨b, a, by rw [firstDiff_swap, e]; rfl, fun h' => hne h'.symm⟩

theorem positionalClash_comm (p q : Path) : positionalClash p q = positionalClash q p := by
  cases h1 : positionalClash p q <;> cases h2 : positionalClash q p <;> try rfl
  · have := PositionalClash_symm ((positionalClash_iff _ _).mp h2)
    rw [← positionalClash_iff, h1] at this; cases this
  · have := PositionalClash_symm ((positionalClash_iff _ _).mp h1)
    rw [← positionalClash_iff, h2] at this; cases this

/-- two paths of one update conflict: prefix-related, or a positional clash. -/
def conflicting (p q : Path) : Bool := related p q || positionalClash p q

/-- the executable test (with the paths `seen` already inserted) finds nothing iff no inserted path
    conflicts with a listed one and the listed ones are pairwise conflict free. -/
theorem pathsConflict_false_iff (seen : List Path) (ps : List String) :
    pathsConflict seen ps = false ↔
      (∀ rp ∈ seen, ∀ q ∈ ps, conflicting rp (splitPath q) = false) ∧
        ps.Pairwise (fun a b => conflicting (splitPath a) (splitPath b) = false) := by
  induction ps generalizing seen with
  | nil => simp [pathsConflict]
  | cons path r ih =>
    unfold pathsConflict
    simp only []
    split
    · rename_i hany
      simp only [List.any_eq_true] at hany
      obtain ⟨rp, hrp, hrel⟩ := hany
      constructor
      · intro h; cases h
      · intro h
        have := h.1 rp hrp path List.mem_cons_self
        simp only [conflicting, related, Bool.or_eq_false_iff] at this
        rw [this.1.1, this.1.2] at hrel; cases hrel
    · rename_i hany
      simp only [List.any_eq_true, not_exists, not_and, Bool.not_eq_true] at hany
      split
      · rename_i hany2
        simp only [List.any_eq_true] at hany2
        obtain ⟨rp, hrp, hrel⟩ := hany2
        constructor
        · intro h; cases h
        · intro h
          have := h.1 rp hrp path List.mem_cons_self
          simp only [conflicting, Bool.or_eq_false_iff] at this
          rw [positionalClash_comm, this.2] at hrel; cases hrel
      · rename_i hany2
        simp only [List.any_eq_true, not_exists, not_and, Bool.not_eq_true] at hany2
        have hnew : ∀ rp ∈ seen, conflicting rp (splitPath path) = false := by
          intro rp hrp
          have h1 := hany rp hrp
          have h2 := hany2 rp hrp
          rw [positionalClash_comm] at h2
          simp only [conflicting, related, h2, Bool.or_false]
          exact h1
        rw [ih, List.pairwise_cons]
        constructor
        · rintro ⟨h1, h2⟩
          refine ⟨?_, ?_, h2⟩
          · intro rp hrp q hq
            rcases List.mem_cons.mp hq with e | hq
            · subst e; exact hnew rp hrp
            · exact h1 rp (List.mem_append_left _ hrp) q hq
          · intro q hq
            exact h1 _ (List.mem_append_right _ (List.mem_singleton.mpr rfl)) q hq
        · rintro ⟨h1, h2, h3⟩
          refine ⟨?_, h3⟩
          intro rp hrp q hq
          rcases List.mem_append.mp hrp with hrp | hrp
          · exact h1 rp hrp q (List.mem_cons_of_mem _ hq)
          · rw [List.mem_singleton.mp hrp]; exact h2 q hq

/-- the declarative conflict statement: two paths of the list, at positions `i < j`, are
    segment-wise prefix-related (one is a prefix of the other; equal paths included) — or (second
    disjunct) at their first differing segment exactly one of the two is positional. -/
def PrefixRelatedPair (ps : List String) : Prop :=
  ∃ (i j : Nat) (p q : String), i < j ∧ ps[i]? = some p ∧ ps[j]? = some q ∧
    (isPrefixOf (splitPath p) (splitPath q) = true ∨ isPrefixOf (splitPath q) (splitPath p) = true ∨
      PositionalClash (splitPath p) (splitPath q))

theorem conflicting_true_iff (p q : Path) :
    conflicting p q = true ↔
      (isPrefixOf p q = true ∨ isPrefixOf q p = true ∨ PositionalClash p q) := by
  simp only [conflicting, related, Bool.or_eq_true, positionalClash_iff, or_assoc]

theorem pathsConflict_iff (ps : List String) : pathsConflict [] ps = true ↔ PrefixRelatedPair ps := by
  constructor
  · intro h
    have hnp : ¬ ps.Pairwise (fun a b => conflicting (splitPath a) (splitPath b) = false) := by
      intro hp
      have := (pathsConflict_false_iff [] ps).mpr ⟨fun rp hrp => (nomatch hrp), hp⟩
      rw [this] at h; cases h
    rw [List.pairwise_iff_getElem] at hnp
    simp only [Classical.not_forall] at hnp
    obtain ⟨i, j, hi, hj, hij, hr⟩ := hnp
    refine ⟨i, j, ps[i], ps[j], hij, List.getElem?_eq_getElem hi, List.getElem?_eq_getElem hj, ?_⟩
    simp only [Bool.not_eq_false] at hr
    exact (conflicting_true_iff _ _).mp hr
  · rintro ⟨i, j, p, q, hij, hp, hq, hr⟩
    cases hc : pathsConflict [] ps with
    | true => rfl
    | false =>
      have := ((pathsConflict_false_iff [] ps).mp hc).2
      rw [List.pairwise_iff_getElem] at this
      obtain ⟨hi, ei⟩ := List.getElem?_eq_some_iff.mp hp
      obtain ⟨hj, ej⟩ := List.getElem?_eq_some_iff.mp hq
      have h := this i j hi hj hij
      rw [ei, ej, (conflicting_true_iff _ _).mpr hr] at h
      cases h

/-- `Apply` rejects (plain error) when the test fires — whatever the document, the context and
    the array filters, and before any operator runs. -/
theorem Apply_conflict (c : ACtx) (d u : Doc) (afs : List Doc)
    (h : pathsConflict [] (updatePaths u) = true) : Apply c d u afs = .error .err := by
  unfold Apply
  split <;> rfl

theorem Apply_ok_noconflict (c : ACtx) (d u : Doc) (afs : List Doc) (r : Doc × List (String × V))
    (h : Apply c d u afs = .ok r) : pathsConflict [] (updatePaths u) = false := by
  cases hc : pathsConflict [] (updatePaths u) with
  | false => rfl
  | true => rw [Apply_conflict c d u afs hc] at h; cases h

/-- past the two up-front checks `Apply` is the operator loop on the fresh state. -/
theorem Apply_eq_ops (c : ACtx) (d u : Doc) (afs : List Doc) (he : u.isEmpty = false)
    (hc : pathsConflict [] (updatePaths u) = false) :
    Apply c d u afs =
      match Apply.ops c afs { doc := d, changed := [] } u with
      | .error e => .error e
      | .ok s => .ok (s.doc, s.changed) := by
  unfold Apply
  simp only [he, hc, Bool.false_eq_true, if_false]
  rfl

theorem Apply_ok_ops (c : ACtx) (d u : Doc) (afs : List Doc) (d' : Doc) (ch : List (String × V))
    (h : Apply c d u afs = .ok (d', ch)) :
    ∃ s, Apply.ops c afs { doc := d, changed := [] } u = .ok s ∧ s.doc = d' ∧ s.changed = ch := by
  have hc := Apply_ok_noconflict c d u afs _ h
  have he : u.isEmpty = false := by
    cases he : u.isEmpty with
    | false => rfl
    | true => unfold Apply at h; rw [if_pos he] at h; cases h
  rw [Apply_eq_ops c d u afs he hc] at h
  split at h
  · cases h
  · rename_i s hs
    cases h
    exact ⟨s, hs, rfl, rfl⟩

theorem fieldPaths_key_mem (op : String) (fields : List (String × V)) (key : String) (v : V)
    (hf : (key, v) ∈ fields) : key ∈ fieldPaths op fields := by
  induction fields with
  | nil => cases hf
  | cons kv r ih =>
    obtain ⟨k, x⟩ := kv
    unfold fieldPaths
    rcases List.mem_cons.mp hf with e | hm
    · cases e
      apply List.mem_append_left
      split
      · split <;> exact List.mem_cons_self
      · exact List.mem_cons_self
    · exact List.mem_append_right _ (ih hm)

theorem fieldPaths_target_mem (fields : List (String × V)) (key target : String)
    (hf : (key, V.str target) ∈ fields) : target ∈ fieldPaths "$rename" fields := by
  induction fields with
  | nil => cases hf
  | cons kv r ih =>
    obtain ⟨k, x⟩ := kv
    unfold fieldPaths
    rcases List.mem_cons.mp hf with e | hm
    · cases e
      apply List.mem_append_left
      simp
    · exact List.mem_append_right _ (ih hm)

theorem updatePaths_fields_sub (u : Doc) (op : String) (fields : List (String × V))
    (ho : (op, V.doc fields) ∈ u) : ∀ p ∈ fieldPaths op fields, p ∈ updatePaths u := by
  induction u with
  | nil => cases ho
  | cons kv r ih =>
    obtain ⟨k, x⟩ := kv
    intro p hp
    unfold updatePaths
    rcases List.mem_cons.mp ho with e | hm
    · cases e
      exact List.mem_append_left _ hp
    · exact List.mem_append_right _ (ih hm p hp)

theorem putRec_holds {s s1 : AState} {path : String} {x : V} (h : putRec s path x = .ok s1) :
    s1.changed = s.changed ++ [(path, x)] ∧ x.isMissing = false ∧
      Get s1.doc path = x := by
  obtain ⟨prev, hput⟩ := putRec_ok h
  unfold putRec at h
  split at h
  · cases h
  · refine ⟨(record_changed h).1, ?_, ?_⟩
    · obtain ⟨key, rest, e⟩ : ∃ key rest, splitPath path = key :: rest := by
        cases hsp : splitPath path with
        | nil => exact absurd hsp (splitPath_ne_nil path)
        | cons a b => exact ⟨a, b, rfl⟩
      rw [e, Put_ok_iff] at hput
      exact hput.1
    · exact getP_Put hput

/-- the operators that perform at most one `Put` + `record` of the same present value. -/
def scalarOps : List String :=
  ["$set", "$setOnInsert", "$inc", "$mul", "$min", "$max", "$currentDate", "$bit",
   "$pull", "$pullAll", "$addToSet"]

theorem applyOp_scalar_shape (c : ACtx) (s s1 : AState) (op path : String) (v : V)
    (hop : op ∈ scalarOps) (h : applyOp c s op path v = .ok s1) :
    s1 = s ∨ ∃ x, putRec s path x = .ok s1 := by
  rcases applyOp_ends c s s1 op path v h with e | hx | ⟨h3, _⟩
  · exact .inl e
  · exact .inr hx
  · simp only [List.mem_cons, List.not_mem_nil, or_false] at h3
    rcases h3 with rfl | rfl | rfl <;> simp [scalarOps] at hop

theorem Unset_ok_of_prev {d d' : Doc} {p : Path} {res : V} (hp : p ≠ []) (h : Unset d p = (d', res))
    (hr : res.isMissing = false) : put (.doc d) p .missing false = .ok (.doc d', res) := by
  cases p with
  | nil => exact absurd rfl hp
  | cons key rest =>
    rw [Unset_eq] at h
    split at h
    · rename_i nv prev hput
      split at h
      · cases h; exact hput
      · cases h; cases hr
    · cases h; cases hr

theorem unset_holds (c : ACtx) (s s1 : AState) (path : String) (v : V)
    (hn : (V.doc s.doc).nodupKeys = true) (h : applyOp c s "$unset" path v = .ok s1) :
    s1.changed = s.changed ∨
      (s1.changed = s.changed ++ [(path, .missing)] ∧
        (Get s1.doc path = .missing ∨ Get s1.doc path = .null)) := by
  unfold applyOp at h; simp only [] at h
  generalize hU : Unset s.doc (splitPath path) = U at h
  obtain ⟨d', res⟩ := U
  simp only at h
  split at h
  · cases h; left; rfl
  · rename_i hres
    right
    refine ⟨(record_changed h).1, ?_⟩
    rw [record_doc h]
    simp only
    have hput := Unset_ok_of_prev (splitPath_ne_nil path) hU (by simpa using hres)
    rcases get_after_unset _ _ _ _ _ false hput hn with h' | h'
    · left; unfold Get; rw [h']
    · right; unfold Get; rw [h']

/-- the key contains no `$` (no positional operator). -/
def noDollar (key : String) : Bool := key.toList.all (· != '$')

theorem resolve_plain (sch : SchemaEval) (n : Nat) (key : String) (doc : Doc) (afs : List Doc)
    (h : noDollar key = true) : resolve sch (n + 1) key doc afs = .ok [key] := by
  have hs : splitDynamicPath key = (some key, none, none) := by
    unfold splitDynamicPath
    have : key.toList.findIdx? (· == '$') = none := by
      rw [List.findIdx?_eq_none_iff]
      intro x hx
      unfold noDollar at h
      rw [List.all_eq_true] at h
      simpa using h x hx
    simp only [this]
  unfold resolve
  rw [hs]
  rfl

/-- one operator on one path passes `checkPaths` (`$rename` would list its target as a second path). -/
theorem single_noconflict (op key : String) (v : V) (h : op ≠ "$rename") :
    pathsConflict [] (updatePaths [(op, .doc [(key, v)])]) = false := by
  have hb : (op == "$rename") = false := by simpa using h
  have : updatePaths [(op, .doc [(key, v)])] = [key] := by
    simp only [updatePaths, fieldPaths, hb, Bool.false_eq_true, if_false, List.append_nil]
    split <;> rfl
  rw [this]
  simp [pathsConflict]

theorem Apply_single (c : ACtx) (d : Doc) (op key : String) (v : V) (afs : List Doc)
    (h1 : isOpKey op = true) (h2 : knownUpdateOp op = true) (h3 : noDollar key = true)
    (hc : pathsConflict [] (updatePaths [(op, .doc [(key, v)])]) = false) :
    Apply c d [(op, .doc [(key, v)])] afs =
      match applyOp c { doc := d, changed := [] } op key v with
      | .error e => .error e
      | .ok s => .ok (s.doc, s.changed) := by
  rw [Apply_eq_ops c d _ afs rfl hc]
  unfold Apply.ops
  simp only [h1, h2, if_true, Bool.not_true, Bool.false_eq_true, if_false]
  unfold Apply.conds
  simp only [resolve_plain _ _ _ _ _ h3]
  unfold Apply.conds.each
  cases applyOp c { doc := d, changed := [] } op key v with
  | error e => rfl
  | ok s1 =>
    simp only
    unfold Apply.conds.each Apply.conds Apply.ops
    rfl

/-- the operators the property names as idempotent. -/
def idemOps : List String := ["$set", "$unset", "$min", "$max", "$addToSet", "$pull", "$pullAll"]

theorem idemOps_known {op : String} (h : op ∈ idemOps) : isOpKey op = true ∧ knownUpdateOp op = true := by
  simp only [idemOps, List.mem_cons, List.not_mem_nil, or_false] at h
  rcases h with e | e | e | e | e | e | e <;> subst e <;> simp [isOpKey, knownUpdateOp]

theorem idem_of_mem (c : ACtx) (s s1 : AState) (op path : String) (v : V) (hop : op ∈ idemOps)
    (hn : op = "$unset" → (V.doc s.doc).nodupKeys = true)
    (h : applyOp c s op path v = .ok s1) : IdemAt c op path v s1 := by
  simp only [idemOps, List.mem_cons, List.not_mem_nil, or_false] at hop
  rcases hop with e | e | e | e | e | e | e <;> subst e
  · exact set_idem _ _ _ _ _ h
  · exact unset_idem _ _ _ _ _ (hn rfl) h
  · exact min_idem _ _ _ _ _ h
  · exact max_idem _ _ _ _ _ h
  · exact addToSet_idem _ _ _ _ _ h
  · exact pull_idem _ _ _ _ _ h
  · exact pullAll_idem _ _ _ _ _ h

/-- `apply_idempotent` for an update consisting of one idempotent operator on one literal path. -/
theorem Apply_idem_single (c : ACtx) (d : Doc) (op key : String) (v : V) (afs : List Doc)
    (d1 : Doc) (ch1 : List (String × V)) (hop : op ∈ idemOps) (hk : noDollar key = true)
    (hn : op = "$unset" → (V.doc d).nodupKeys = true)
    (h : Apply c d [(op, .doc [(key, v)])] afs = .ok (d1, ch1)) :
    ∃ ch2, Apply c d1 [(op, .doc [(key, v)])] afs = .ok (d1, ch2) := by
  obtain ⟨k1, k2⟩ := idemOps_known hop
  have hnr : op ≠ "$rename" := by
    intro e; subst e
    simp [idemOps] at hop
  have hc := single_noconflict op key v hnr
  rw [Apply_single _ _ _ _ _ _ k1 k2 hk hc] at h ⊢
  split at h
  · cases h
  · rename_i s1 hs1
    cases h
    obtain ⟨s2, h2, hd⟩ := idem_of_mem c _ s1 op key v hop hn hs1
    rw [h2]
    exact ⟨s2.changed, by simp only [hd]⟩

/-- the identifier of an operator segment `$[identifier]` (resolve.go: `operator[2 : len(operator)-1]`). -/
def identifierOf (operator : String) : String := String.ofList ((operator.toList.drop 2).dropLast)

/-- `f` matches the wrapper document `{id: item}` (query matcher `Match`). -/
def filterHolds (sch : SchemaEval) (id : String) (item : V) (f : Doc) : Bool :=
  match Match sch [(id, item)] f with
  | .ok true => true
  | _ => false

/-- the element satisfies some filter that binds `id`. -/
def selectedBy (sch : SchemaEval) (id : String) (afs : List Doc) (item : V) : Bool :=
  (afs.filter (bindsId id)).any (filterHolds sch id item)

theorem anyFilter_ok (sch : SchemaEval) (id : String) (item : V) (fs : List Doc) (b : Bool)
    (h : anyFilter sch id item fs = .ok b) : b = fs.any (filterHolds sch id item) := by
  induction fs with
  | nil => unfold anyFilter at h; cases h; rfl
  | cons f r ih =>
    unfold anyFilter at h
    split at h
    · cases h
    · rename_i hm; cases h; simp [filterHolds, hm]
    · rename_i hm
      rw [ih h]
      simp [filterHolds, hm]

/-- the generic loop: what it returns when every step is either "skip" (element not selected) or the
    sub-expansion of the index. -/
theorem loopIdx_ok_eq (f : Nat → V → Res (Option (List String))) (sel : V → Bool) (sub : Nat → List String)
    (hn : ∀ k x, f k x = .ok none → sel x = false)
    (hs : ∀ k x qs, f k x = .ok (some qs) → sel x = true ∧ qs = sub k)
    (i : Nat) (xs : List V) (ps : List String) (h : loopIdx f i xs = .ok ps) :
    ps = (((xs.zipIdx i).filter (fun a => sel a.1)).map (fun a => sub a.2)).flatten := by
  induction xs generalizing i ps with
  | nil => unfold loopIdx at h; cases h; rfl
  | cons x r ih =>
    unfold loopIdx at h
    rw [List.zipIdx_cons]
    split at h
    · cases h
    · rename_i hf
      rw [List.filter_cons_of_neg (by simp [hn _ _ hf])]
      exact ih _ _ h
    · rename_i qs hf
      split at h
      · cases h
      · rename_i rs hr
        cases h
        obtain ⟨h1, h2⟩ := hs _ _ _ hf
        rw [List.filter_cons_of_pos (by simpa using h1), List.map_cons, List.flatten_cons, ← ih _ _ hr, h2]

/-- `path` is `head.$[id].tail` (the decomposition of `splitDynamicPath`) with a named identifier,
    and `head` holds `array` in `doc`: where `resolve` consults the array filters. -/
structure Identified (path head operator : String) (tail : Option String) (doc : Doc) (array : List V) :
    Prop where
  split : splitDynamicPath path = (some head, some operator, tail)
  holds : Get doc head = .arr array
  notDollar : (operator == "$") = false
  opens : operator.startsWith "$[" = true
  closes : operator.endsWith "]" = true
  named : (identifierOf operator == "") = false

section
variable {sch : SchemaEval} {path head operator : String} {tail : Option String} {doc : Doc} {array : List V}

/-- one level of `resolve` at an identified positional operator, unfolded. -/
theorem Identified.resolve (H : Identified path head operator tail doc array) (fuel : Nat) (afs : List Doc) :
    resolve sch (fuel + 1) path doc afs =
      if (afs.filter (bindsId (identifierOf operator))).isEmpty then .error .err else
      loopIdx (fun i item =>
        match anyFilter sch (identifierOf operator) item (afs.filter (bindsId (identifierOf operator))) with
        | .error e => .error e
        | .ok false => .ok none
        | .ok true =>
          match Lungo.resolve sch fuel (buildPath head i tail) doc afs with
          | .error e => .error e
          | .ok ps => .ok (some ps)) 0 array := by
  obtain ⟨hsp, ha, h1, h2, h3, hid⟩ := H
  unfold identifierOf at *
  rw [Lungo.resolve]
  simp only [hsp, ha, h1, h2, h3, hid, Bool.false_eq_true, if_false, Bool.not_true, Bool.or_self]
  rfl

theorem selectedBy_iff (sch : SchemaEval) (id : String) (afs : List Doc) (item : V) :
    selectedBy sch id afs item = true ↔
      ∃ f ∈ afs, bindsId id f = true ∧ Match sch [(id, item)] f = .ok true := by
  unfold selectedBy
  simp only [List.any_eq_true, List.mem_filter]
  constructor
  · rintro ⟨f, ⟨hf, hb⟩, hm⟩
    refine ⟨f, hf, hb, ?_⟩
    unfold filterHolds at hm
    split at hm
    · assumption
    · cases hm
  · rintro ⟨f, hf, hb, hm⟩
    exact ⟨f, ⟨hf, hb⟩, by simp [filterHolds, hm]⟩

/-- the sub-expansion of one index (empty if that recursive call fails — it does not when the whole
    expansion succeeds). -/
def subPaths (sch : SchemaEval) (fuel : Nat) (doc : Doc) (afs : List Doc) (p : String) : List String :=
  match Lungo.resolve sch fuel p doc afs with
  | .ok qs => qs
  | .error _ => []

/-- the indices of the array whose element is selected, ascending. -/
def selectedIdx (sch : SchemaEval) (id : String) (afs : List Doc) (array : List V) : List Nat :=
  ((array.zipIdx).filter (fun a => selectedBy sch id afs a.1)).map (·.2)

/-- general (recursive) form: a successful expansion of `head.$[id].tail` is the concatenation, over
    exactly the selected indices in ascending order, of the expansions of `head.k.tail`. -/
theorem Identified.resolve_ok (H : Identified path head operator tail doc array) {fuel : Nat} {afs : List Doc}
    {ps : List String} (h : Lungo.resolve sch (fuel + 1) path doc afs = .ok ps) :
    ps = ((selectedIdx sch (identifierOf operator) afs array).map
        (fun k => subPaths sch fuel doc afs (buildPath head k tail))).flatten := by
  rw [H.resolve] at h
  split at h
  · cases h
  · have := loopIdx_ok_eq _ (selectedBy sch (identifierOf operator) afs)
      (fun k => subPaths sch fuel doc afs (buildPath head k tail)) ?_ ?_ 0 array ps h
    · rw [this]; unfold selectedIdx; rw [List.map_map]; rfl
    · intro k x hf
      split at hf
      · cases hf
      · rename_i ha; exact (anyFilter_ok _ _ _ _ _ ha).symm
      · split at hf <;> cases hf
    · intro k x qs hf
      split at hf
      · cases hf
      · cases hf
      · rename_i ha
        split at hf
        · cases hf
        · rename_i rs hr
          cases hf
          exact ⟨(anyFilter_ok _ _ _ _ _ ha).symm, by simp [subPaths, hr]⟩

theorem noDollar_append (a b : String) : noDollar (a ++ b) = (noDollar a && noDollar b) := by
  simp [noDollar, String.toList_append]

theorem noDollar_natToString (k : Nat) : noDollar (toString k) = true := by
  unfold noDollar
  rw [List.all_eq_true]
  intro c hc
  rw [Nat.toString_eq_repr, Nat.toList_repr] at hc
  have := Nat.isDigit_of_mem_toDigits (by decide) (by decide) hc
  have hne : c ≠ '$' := by
    intro e; subst e; revert this; decide
  simpa using hne

theorem noDollar_buildPath (head : String) (k : Nat) (tail : Option String) (hh : noDollar head = true)
    (ht : ∀ t, tail = some t → noDollar t = true) : noDollar (buildPath head k tail) = true := by
  have hdot : noDollar "." = true := by decide
  have hemp : noDollar "" = true := by decide
  unfold buildPath
  have hb : noDollar ((if (head == "") = true then "" else head ++ ".") ++ toString k) = true := by
    rw [noDollar_append, noDollar_natToString]
    split
    · simp [hemp]
    · simp [noDollar_append, hh, hdot]
  cases tail with
  | none => exact hb
  | some t =>
    simp only [noDollar_append, hb, hdot, ht t rfl, Bool.and_self]

theorem resolve_buildPath (sch : SchemaEval) (n k : Nat) (afs : List Doc) (hh : noDollar head = true)
    (ht : ∀ t, tail = some t → noDollar t = true) :
    Lungo.resolve sch (n + 1) (buildPath head k tail) doc afs = .ok [buildPath head k tail] :=
  resolve_plain _ _ _ _ _ (noDollar_buildPath head k tail hh ht)

/-- `array_filter_own`, single `$[id]`: the expansion is exactly the selected indices. -/
theorem Identified.resolve_single (H : Identified path head operator tail doc array) {fuel : Nat}
    {afs : List Doc} {ps : List String} (hh : noDollar head = true) (ht : ∀ t, tail = some t → noDollar t = true)
    (h : Lungo.resolve sch (fuel + 2) path doc afs = .ok ps) :
    ps = (selectedIdx sch (identifierOf operator) afs array).map (fun k => buildPath head k tail) := by
  rw [H.resolve_ok h]
  simp only [subPaths, resolve_buildPath sch fuel _ afs hh ht]
  generalize selectedIdx sch (identifierOf operator) afs array = l
  induction l with
  | nil => rfl
  | cons a r ih => simp only [List.map_cons, List.flatten_cons, ih, List.singleton_append]

/-- one level: the expansion depends on the filter list only through the filters binding the
    identifier (and through the recursive expansions). -/
theorem Identified.resolve_congr (H : Identified path head operator tail doc array) {fuel : Nat}
    {afs afs' : List Doc}
    (hf : afs.filter (bindsId (identifierOf operator)) = afs'.filter (bindsId (identifierOf operator)))
    (hrec : ∀ k, Lungo.resolve sch fuel (buildPath head k tail) doc afs =
      Lungo.resolve sch fuel (buildPath head k tail) doc afs') :
    Lungo.resolve sch (fuel + 1) path doc afs = Lungo.resolve sch (fuel + 1) path doc afs' := by
  rw [H.resolve, H.resolve, hf]
  simp only [hrec]

theorem Identified.resolve_congr_single (H : Identified path head operator tail doc array) {fuel : Nat}
    {afs afs' : List Doc} (hh : noDollar head = true) (ht : ∀ t, tail = some t → noDollar t = true)
    (hf : afs.filter (bindsId (identifierOf operator)) = afs'.filter (bindsId (identifierOf operator))) :
    Lungo.resolve sch (fuel + 2) path doc afs = Lungo.resolve sch (fuel + 2) path doc afs' :=
  H.resolve_congr hf fun k => by rw [resolve_buildPath sch fuel k afs hh ht, resolve_buildPath sch fuel k afs' hh ht]

end

theorem filter_bindsId_insert (id : String) (afs₁ afs₂ : List Doc) (g : Doc) (hg : bindsId id g = false) :
    (afs₁ ++ g :: afs₂).filter (bindsId id) = (afs₁ ++ afs₂).filter (bindsId id) := by
  simp [List.filter_append, hg]

end Lungo
