/-
  Lungo.Proofs.SeqHandles — the namespaces of the catalog have pairwise distinct handles, in every
  reachable state (the Go map `Catalog.Namespaces` is a map). Not part of `Inv` (C15 does not need
  it); C01 needs it for `expire`, which walks the namespaces while `Catalog.set` replaces every entry
  of a handle. Every transition builds its catalog with `Catalog.set`, `appendOplog` and filtering
  (`CatStep`, Proofs/CatStep.lean).
-/
import Lungo.Proofs.IndexCat
namespace Lungo.SeqRef
open Lungo

variable {sch : SchemaEval}

/-- the handles of the catalog are pairwise distinct -/
def HD (cat : Catalog) : Prop := (cat.namespaces.map (·.1)).Nodup

theorem HD.set {cat : Catalog} (hd : HD cat) (h : Handle) (c : Coll) : HD (cat.set h c) := by
  unfold Catalog.set HD
  split
  · rw [List.map_map, List.map_congr_left (g := (·.1)) fun x _ => by simp only [Function.comp]; split <;> rfl]
    exact hd
  · rename_i hany
    rw [List.map_append, List.nodup_append]
    refine ⟨hd, by simp, ?_⟩
    intro a ha b hb e
    obtain ⟨x, hx, rfl⟩ := List.mem_map.mp ha
    simp only [List.map_cons, List.map_nil, List.mem_singleton] at hb
    exact hany (List.any_eq_true.mpr ⟨x, hx, by simp [e, hb]⟩)

theorem HD.clock {cat : Catalog} (hd : HD cat) (k : Nat) : HD { cat with clock := k } := hd

/-- with distinct handles, `get?` finds every entry of the catalog -/
theorem HD.get?_of_mem {cat : Catalog} (hd : HD cat) {h : Handle} {c : Coll} (hm : (h, c) ∈ cat.namespaces) :
    cat.get? h = some c := Catalog.get?_of_mem (List.pairwise_map.mp hd) hm

theorem HD.appendOplog {cat : Catalog} (hd : HD cat) (nu : Nu) (h : Handle) (op : String) (doc : Option Doc)
    (ch : Option (List (String × V))) : HD (appendOplog cat nu h op doc ch).1 :=
  (hd.set _ _).clock _

theorem HD.filter {cat : Catalog} (hd : HD cat) (p : Handle × Coll → Bool) :
    HD { cat with namespaces := cat.namespaces.filter p } := by
  unfold HD at hd ⊢
  exact hd.sublist (List.filter_sublist.map _)

theorem HD.steps {ac : ACtx} {strict : Prop} {a b : Catalog × Nu} (s : CatStep ac strict a b) :
    HD a.1 → HD b.1 := by
  induction s with
  | refl | discard => exact id
  | trans _ _ ih1 ih2 => exact ih2 ∘ ih1
  | write => exact (·.set _ _)
  | filter p => exact (·.filter p)
  | oplog => exact (·.appendOplog ..)

theorem HD.insertOne {cat cat' : Catalog} {h : Handle} {d d' : Doc} {nu nu' : Nu} (hd : HD cat)
    (e : insertOne sch cat h d nu = .ok (cat', d', nu')) : HD cat' :=
  HD.steps (insertOne_steps (ac := acOf sch) (strict := False) (fun f => f.elim) e) hd

theorem HD.runCall {t t' : Txn} {nu nu' : Nu} {c : Call} {r : Reply} (hd : HD t.catalog)
    (e : runCall sch t nu c = .ok (t', nu', r)) : HD t'.catalog :=
  HD.steps (runCall_steps e) hd

theorem HD.step {s s' : Sys} {c : Call} {oids : List V} {r : Reply} (hd : HD s.catalog)
    (e : Sys.step sch s c oids = .ok (s', r)) : HD s'.catalog := by
  obtain ⟨t, nu, hr, rfl⟩ := Sys.step_ok e
  unfold Sys.commit
  split
  · exact HD.runCall (t := { catalog := s.catalog }) hd hr
  · exact hd

theorem HD.init : HD Sys.init.catalog := by
  simp [HD, Sys.init, newCatalog]

/-- in every reachable state the handles of the catalog are pairwise distinct -/
theorem HD.run {s : Sys} (hd : HD s.catalog) (calls : List (Call × List V)) :
    HD (Sys.run sch s calls).catalog := by
  unfold Sys.run
  refine foldl_inv (fun s : Sys => HD s.catalog) _ ?_ calls s hd
  intro b a hb
  split
  · rename_i s' r e
    exact hb.step e
  · exact hb

end Lungo.SeqRef
