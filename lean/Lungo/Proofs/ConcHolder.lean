/-
  Lungo.Proofs.ConcHolder — which actors can take a non-fault step: `Pc.guard` is the table of what each program
  counter waits for, `Ready s a` says that actor `a` has it, `ready_progress` that nothing else is needed.  In particular an actor holding `e.mutex` is
  always ready (every reachable state, sessions may be shared between actors): since the fix "read the session
  before taking the engine lock in Begin" no `e.mutex` critical section contains a blocking operation.
-/
import Lungo.Proofs.ConcAll
namespace Lungo.Conc

/-- labels that are not faults, not timeouts, not new calls and not ticker events -/
def Progress (c : Choice) : Prop :=
  c = .go ∨ c = .tok ∨ c = .dying ∨ c = .storeOk ∨ c = .cbNoop

/-- the session an actor at a session-lock wait wants -/
def wantS (l : Local) : SessId :=
  if l.pc = .uSessLock ∨ l.pc = .bSessLock then l.ctxSess.getD 0 else l.sid

theorem wantS_ctx {l : Local} {sid : SessId} (hp : l.pc = .uSessLock ∨ l.pc = .bSessLock)
    (hs : l.ctxSess = some sid) : wantS l = sid := by
  rw [wantS, if_pos hp, hs]; rfl

theorem wantS_sid {l : Local} (hp : ¬ (l.pc = .uSessLock ∨ l.pc = .bSessLock)) : wantS l = l.sid :=
  if_neg hp

/-- What the actor's next non-fault step waits for, by program counter: a free `e.mutex` or `s.mutex`, the token (or
    the tomb dying), the tomb dying at the expiry select, the expiry goroutine's exit in `Close`'s `tomb.Wait`. An idle
    client and the exited goroutine have no such step; everywhere else the code runs on without waiting. -/
def Pc.guard (s : State) (l : Local) : Pc → Prop
  | .idle | .xExited => False
  | .xWait => s.eng.alive = false
  | .bAcquire => s.eng.token = 1 ∨ s.eng.alive = false
  | .bLock | .bRelock | .cLock | .aLock | .clLock | .kLock => s.eng.mutex = none
  | .uSessLock | .bSessLock | .ssLock | .ssRelock | .scLock | .saLock => (s.sess (wantS l)).mutex = none
  | .clWait => (s.loc 0).pc = .xExited
  | _ => True

/-- what actor `a` waits for at its program counter is available: it is not blocked on a mutex, the token, the tomb
    or the expiry goroutine's exit -/
def Ready (s : State) (a : ActorId) : Prop := (s.loc a).pc.guard s (s.loc a)

/-- `step` for an actor in range -/
theorem step_at {s : State} {a : ActorId} (c : Choice) (hle : a ≤ s.n) :
    step s a c = match (s.loc a).pc with
      | .idle => stepIdle s a (s.loc a) c
      | .bLock | .bCheck | .bSessLock | .bSessRead | .bAcquire | .bRelock | .bPost => stepBegin s a (s.loc a) c
      | .cLock | .cCheck | .cStore => stepCommit s a (s.loc a) c
      | .aLock | .aBody => stepAbort s a (s.loc a) c
      | .after => stepAfter s a (s.loc a) c
      | .uSessLock | .uSessRead | .uCb | .uCbSess | .uCbRead => stepUse s a (s.loc a) c
      | .ssLock | .ssReserve | .ssRelock | .ssFinal | .scLock | .scBody | .saLock | .saBody => stepSess s a (s.loc a) c
      | .clLock | .clKill | .clStreams | .clWait | .kLock | .kBody => stepClose s a (s.loc a) c
      | .xWait | .xExpire | .xExited => stepExp s a (s.loc a) c :=
  if_neg (Nat.not_lt.mpr hle)

/-- the label of the step a program counter's code takes by itself -/
def Pc.takes : Pc → Choice → Prop
  | .xWait, c => c = .dying
  | .bAcquire, c => c = .tok ∨ c = .dying
  | .cStore, c => c = .storeOk
  | .uCb, c | .uCbSess, c | .uCbRead, c | .xExpire, c => c = .cbNoop
  | _, c => c = .go

theorem Pc.takes_progress {p : Pc} {c : Choice} (h : p.takes c) : Progress c := by
  cases p <;> grind [Pc.takes, Progress]

/-- The guard is sufficient: the registers hold what the branch reads (`LWf`), so the step is there. -/
theorem ready_progress {n : Nat} {s : State} {a : ActorId} (h : Reachable n s) (hle : a ≤ s.n)
    (hr : Ready s a) : ∃ c, (s.loc a).pc.takes c ∧ (step s a c).isSome = true := by
  obtain ⟨-, hctx, ht, -⟩ := (inv_reachable h).2.lwf a
  have go : ∀ {p : Pc}, p.takes .go → (step s a .go).isSome = true → ∃ c, p.takes c ∧ (step s a c).isSome = true :=
    fun h h' => ⟨.go, h, h'⟩
  have noop : ∀ {p : Pc}, p.takes .cbNoop → (step s a .cbNoop).isSome = true →
      ∃ c, p.takes c ∧ (step s a c).isSome = true := fun h h' => ⟨.cbNoop, h, h'⟩
  unfold Ready at hr
  cases hpc : (s.loc a).pc <;> rw [hpc] at hr
  case idle | xExited => exact hr.elim
  case xWait =>
    have hd : s.eng.alive = false := hr
    refine ⟨.dying, rfl, ?_⟩
    simp only [step_at _ hle, hpc, stepExp, hd]; rfl
  case bAcquire =>
    rcases hr with ht | hd
    · refine ⟨.tok, .inl rfl, ?_⟩
      simp only [step_at _ hle, hpc, stepBegin, if_pos ht]; rfl
    · refine ⟨.dying, .inr rfl, ?_⟩
      simp only [step_at _ hle, hpc, stepBegin, hd]; rfl
  case bLock | bRelock | cLock | aLock | clLock | kLock =>
    have hm : s.eng.mutex = none := hr
    refine go rfl ?_
    simp only [step_at _ hle, hpc, stepBegin, stepCommit, stepAbort, stepClose, if_pos hm]; rfl
  case clWait =>
    have hx : (s.loc 0).pc = .xExited := hr
    refine go rfl ?_
    simp only [step_at _ hle, hpc, stepClose, if_pos hx]; rfl
  case uSessLock | bSessLock =>
    obtain ⟨sid, hsid⟩ := Option.isSome_iff_exists.mp (hctx (by rw [hpc]; decide))
    have hm : (s.sess sid).mutex = none := wantS_ctx (by rw [hpc]; decide) hsid ▸ hr
    refine go rfl ?_
    simp only [step_at _ hle, hpc, stepUse, stepBegin, hsid, if_pos hm]; rfl
  case ssLock | ssRelock | scLock | saLock =>
    have hw : wantS (s.loc a) = (s.loc a).sid := wantS_sid (by rw [hpc]; decide)
    have hm : (s.sess (s.loc a).sid).mutex = none := hw ▸ hr
    refine go rfl ?_
    simp only [step_at _ hle, hpc, stepSess, if_pos hm]; rfl
  -- the remaining control points never wait: every leaf of their code is a step
  case bSessRead | uSessRead =>
    obtain ⟨sid, hsid⟩ := Option.isSome_iff_exists.mp (hctx (by rw [hpc]; decide))
    refine go rfl ?_
    cases htx : (s.sess sid).txn <;>
      simp only [step_at _ hle, hpc, stepBegin, stepUse, hsid, htx, apply_ite Option.isSome, Option.isSome_some,
        Option.isSome_none, ite_self, Bool.false_eq_true, if_false]
  case cStore =>
    obtain ⟨t, ht⟩ := Option.isSome_iff_exists.mp (ht (by rw [hpc]; decide))
    refine ⟨.storeOk, rfl, ?_⟩
    simp only [step_at _ hle, hpc, stepCommit, ht]; rfl
  case uCb | uCbSess | uCbRead | xExpire =>
    obtain ⟨t, ht⟩ := Option.isSome_iff_exists.mp (ht (by rw [hpc]; decide))
    refine noop rfl ?_
    simp only [step_at _ hle, hpc, stepUse, stepExp, ht]; rfl
  case bCheck | bPost | aBody | ssReserve | ssFinal | clKill | clStreams =>
    refine go rfl ?_
    simp only [step_at _ hle, hpc, stepBegin, stepAbort, stepSess, stepClose, apply_ite Option.isSome,
      Option.isSome_some, ite_self]
  case cCheck =>
    refine go rfl ?_
    cases htx : s.eng.txn <;>
      simp only [step_at _ hle, hpc, stepCommit, htx, apply_ite Option.isSome, Option.isSome_some, ite_self]
  case scBody | saBody =>
    refine go rfl ?_
    cases htx : (s.sess (s.loc a).sid).txn <;>
      simp only [step_at _ hle, hpc, stepSess, htx, apply_ite Option.isSome, Option.isSome_some, ite_self]
  case kBody =>
    refine go rfl ?_
    cases hk : (s.loc a).crit <;>
      simp only [step_at _ hle, hpc, stepClose, hk, apply_ite Option.isSome, Option.isSome_some, ite_self]
  case after =>
    refine go rfl ?_
    simp only [step_at _ hle, hpc, stepAfter]
    split <;> simp only [apply_ite Option.isSome, Option.isSome_some, ite_self]

theorem Ready.ne_idle {s : State} {a : ActorId} (hr : Ready s a) : (s.loc a).pc ≠ .idle := by
  intro hp; unfold Ready at hr; rw [hp] at hr; exact hr

theorem ready_of_ehold {s : State} {a : ActorId} (he : EHold (s.loc a).pc) : Ready s a := by
  unfold Ready
  rcases he with hp | hp | hp | hp | hp | hp | hp <;> rw [hp] <;> trivial

theorem holder_progress {n : Nat} {s : State} {a : ActorId} (h : Reachable n s)
    (hm : s.eng.mutex = some a) : ∃ c, (c = .go ∨ c = .storeOk) ∧ (step s a c).isSome = true := by
  obtain ⟨i, j⟩ := inv_reachable h
  have he := (i.mutex_iff a).1 hm
  have hr := ready_of_ehold he
  obtain ⟨c, hc, hs⟩ := ready_progress h (Nat.le_of_not_gt fun hgt => hr.ne_idle (j.rng a hgt)) hr
  refine ⟨c, ?_, hs⟩
  rcases he with hp | hp | hp | hp | hp | hp | hp <;> rw [hp] at hc <;> first | exact .inl hc | exact .inr hc

theorem mutex_holder_enabled_aux {n : Nat} {s : State} {a : ActorId} (h : Reachable n s)
    (hm : s.eng.mutex = some a) : ∃ c s', step s a c = some s' := by
  obtain ⟨c, _, hc⟩ := holder_progress h hm
  exact ⟨c, Option.isSome_iff_exists.mp hc⟩

end Lungo.Conc
