/-
  Lungo.Proofs.ConcInv — the one walk over the branches of `step` that says where control goes and what happens to the
  locks (`step_sorted`: every branch as an edge of `Flow` and through `LockStep`), what a step leaves unchanged, and the
  lock / token invariant `Inv1` in every reachable state (any number of actors).

  The three `_iff` clauses of `Inv1` say that a lock names the actor whose registers claim it; each is carried over a
  step by `Held.lift` from what `LockStep` says about that lock. The token (`conserv`, `noPanic`) is followed through
  the five things that can happen to it (`TokStep.inv`), and `beginWf` is a fact about the stepping actor's registers
  alone (`Flow.wf`).
-/
import Lungo.Proofs.ConcFlow
namespace Lungo.Conc

macro "frame_tac" hs:ident fn:ident : tactic => `(tactic| (
  unfold $fn at $hs:ident
  conc_split $hs
  all_goals simp_all [State.put, State.putS, State.finish, State.write, upd_apply]))

/-- What a branch does to the locks, read off the state term: each component of `LockStep` is closed by the constructor
    that names what the branch does to that lock, its arguments being the branch's guards and evaluations at the
    program counters before and after. Most branches keep everything. The continuation matters in two branches only:
    when Begin has read the session in the context and unlocks its mutex, it holds no session mutex afterwards because
    Begin is not called under one. -/
macro "lock_step" s:ident a:ident : tactic => `(tactic| (
  first
  | refine .of_pc ‹(State.loc $s $a).pc = _› ‹(State.loc $s $a).k = _› ⟨?_, ?_, fun w => ?_, ?_, ?_⟩
  | refine .of_pc ‹(State.loc $s $a).pc = _› rfl ⟨?_, ?_, fun w => ?_, ?_, ?_⟩
  · first
    | exact .keep rfl Iff.rfl
    | exact .take ‹_› rfl rfl
    | exact .drop rfl rfl nofun
  · first
    | exact .keep ⟨rfl, rfl, rfl, rfl⟩ Iff.rfl
    | exact .release _ rfl rfl rfl (.inl ⟨by first | rfl | exact Bool.not_inj (Bool.eq_false_iff.2 ‹_›), rfl⟩) nofun
    | exact .release _ rfl rfl rfl
        (.inr ⟨nofun, by first | exact congrArg Option.isSome ‹(State.eng $s).txn = _› | exact (‹_ ∧ _›).1, rfl⟩) nofun
    | exact .acquire ‹_› ⟨rfl, rfl, rfl, rfl⟩ rfl
    | exact .install _ (Bool.not_inj (Bool.eq_false_iff.2 ‹_›)) ⟨rfl, rfl, rfl, rfl⟩ nofun
    | exact .uninstall (by exact congrArg Option.isSome ‹(State.eng $s).txn = _›) ⟨rfl, rfl, rfl, rfl⟩ rfl
    -- Begin after a failed `Acquire`: `okF` is false
    | exact .keep ⟨rfl, rfl, rfl, rfl⟩
        (iff_of_false nofun (Bool.eq_false_iff.1 (Bool.not_inj ‹(!(State.loc $s $a).okF) = true›)))
  · first
    | exact .same rfl rfl rfl
    | (refine .at _ _ rfl ?_ ?_
       · first
         | exact .take ‹_› rfl rfl (by first | rfl | assumption)
         | exact .drop (by first | rfl | assumption) rfl rfl
         | exact .keep rfl rfl
         | exact .drop ‹_› rfl (congrArg (cond · _ none) (K.underSess_of_begin w))
       · first
         | exact .keep rfl rfl (.inl rfl) rfl
         | exact .keep rfl rfl (.inr rfl) rfl
         | exact .clear rfl rfl rfl rfl
         | exact .set (Bool.eq_false_iff.2 fun h => ‹¬(_ ∨ _)› (Or.inr h)) rfl rfl
             (Decidable.not_not.1 fun h => ‹¬(_ ∨ _)› (Or.inl h)) rfl rfl)
  · first
    | exact id
    | exact fun h => (Eng.release_alive _).trans h
    | exact fun _ => rfl
  · first
    | exact fun h => Bool.noConfusion h
    | exact fun _ => .inl rfl
    | exact fun _ => .inr rfl))

/-- Every branch of `step`, seen through its control edge (`Flow`) and through what it does to the locks (`LockStep`).
    Sub-machine by sub-machine the shape of the new registers names the kind of edge, and the table lookup is an
    evaluation at the program counter (at `after`, also the continuation) the branch's guard gives. -/
theorem step_sorted {s s' : State} {a : ActorId} {c : Choice} (hs : step s a c = some s') :
    ∃ l', s'.loc = upd s.loc a l' ∧ s'.n = s.n ∧ Flow s a c l' ∧
      LockStep a (s.loc a).pc (s.loc a).k (s.loc a) s.eng s.sess l' s'.eng s'.sess := by
  rcases step_cases hs with ⟨hp, hb⟩ | hb | hb | hb | ⟨hp, hb⟩ | hb | hb | hb | hb
  all_goals clear hs
  · branches_of stepIdle hb s a c <;> refine ⟨_, rfl, rfl, ?_, by lock_step s a⟩
    all_goals first
      | exact .invoke hp rfl rfl
      | exact .invoke hp ‹_› rfl
  · branches_of stepBegin hb s a c <;> refine ⟨_, rfl, rfl, ?_, by lock_step s a⟩ <;> have hp := ‹(s.loc a).pc = _›
    all_goals first
      | exact .go hp rfl (Regs.next trivial) rfl
      | exact .go hp rfl (Regs.next (Bool.not_inj (Bool.eq_false_iff.2 ‹_›))) rfl
      | exact .go hp rfl Regs.fail rfl
      | exact .go hp rfl Regs.got rfl
  · branches_of stepCommit hb s a c <;> refine ⟨_, rfl, rfl, ?_, by lock_step s a⟩ <;> have hp := ‹(s.loc a).pc = _›
    all_goals first
      | exact .go hp rfl (Regs.next trivial) rfl
      | exact .go hp rfl Regs.ret rfl
      | exact .go hp rfl (Regs.next (show (s.loc a).t.isSome = true from congrArg _ (Decidable.not_not.1 ‹¬ _ ≠ _›))) rfl
  · branches_of stepAbort hb s a c <;> refine ⟨_, rfl, rfl, ?_, by lock_step s a⟩ <;> have hp := ‹(s.loc a).pc = _›
    all_goals first
      | exact .go hp rfl (Regs.next trivial) rfl
      | exact .go hp rfl Regs.ret rfl
  · branches_of stepAfter hb s a c <;> refine ⟨_, rfl, rfl, ?_, by lock_step s a⟩ <;> have hk := ‹(s.loc a).k = _›
    all_goals first
      | exact .go hp hk Regs.finish rfl
      | exact .go hp hk (Regs.resume (.inl rfl)) rfl
      | exact .go hp hk (Regs.resume (.inr (Decidable.not_not.1 ‹_›))) rfl
      | exact .go hp hk (Regs.resume (.inr ‹_›)) rfl
      | exact .go hp hk (Regs.call nofun) rfl
  · branches_of stepUse hb s a c <;> refine ⟨_, rfl, rfl, ?_, by lock_step s a⟩ <;> have hp := ‹(s.loc a).pc = _›
    all_goals first
      | exact .go hp rfl (Regs.next trivial) rfl
      | exact .go hp rfl Regs.load rfl
      | exact .go hp rfl Regs.finish rfl
      | exact .go hp rfl (Regs.call fun _ => ‹_›) rfl
      | exact .go hp rfl (Regs.call nofun) rfl
  · branches_of stepSess hb s a c <;> refine ⟨_, rfl, rfl, ?_, by lock_step s a⟩ <;> have hp := ‹(s.loc a).pc = _›
    all_goals first
      | exact .go hp rfl (Regs.next trivial) rfl
      | exact .go hp rfl Regs.finish rfl
      | exact .go hp rfl (Regs.call nofun) rfl
  · branches_of stepClose hb s a c <;> refine ⟨_, rfl, rfl, ?_, by lock_step s a⟩ <;> have hp := ‹(s.loc a).pc = _›
    all_goals first
      | exact .go hp rfl (Regs.next trivial) rfl
      | exact .go hp rfl Regs.finish rfl
  · branches_of stepExp hb s a c <;> refine ⟨_, rfl, rfl, ?_, by lock_step s a⟩ <;> have hp := ‹(s.loc a).pc = _›
    all_goals first
      | exact .go hp rfl (Regs.next trivial) rfl
      | exact .tick hp
      | exact .go hp rfl (Regs.call nofun) rfl

theorem step_n {s s' : State} {a : ActorId} {c : Choice} (hs : step s a c = some s') : s'.n = s.n :=
  let ⟨_, _, h, _⟩ := step_sorted hs; h

theorem step_loc_other {s s' : State} {a b : ActorId} {c : Choice} (hs : step s a c = some s')
    (hb : b ≠ a) : s'.loc b = s.loc b := by
  obtain ⟨l', hl, _⟩ := step_sorted hs
  rw [hl, upd_other _ _ _ _ hb]

/-- `alive` is written by `Close`'s kill step only -/
theorem alive_mono {s s' : State} {a : ActorId} {c : Choice} (hd : s.eng.alive = false)
    (hs : step s a c = some s') : s'.eng.alive = false :=
  let ⟨_, _, _, _, d⟩ := step_sorted hs; d.alive hd

theorem inv1_init (n : Nat) : Inv1 (init n) := by
  refine ⟨fun b => ?_, fun b => ?_, ?_, ?_, fun b sid => ?_, fun b => ?_⟩
  · simp only [init, EHold]; by_cases hb : b = 0 <;> simp [hb]
  · simp only [init, THold]; by_cases hb : b = 0 <;> simp [hb]
  · simp [init]
  · simp [init]
  · simp only [init, SHold]; by_cases hb : b = 0 <;> simp [hb]
  · simp only [init, BeginWf]; by_cases hb : b = 0 <;> simp [hb]

theorem Eng.release_of_token {e : Eng} (h : e.token = 0) : e.release = { e with token := 1, holder := none } := by
  simp [Eng.release, h]

/-- The token clauses of `Inv1` over one step: `holder` follows the stepping actor's claim, the token stays conserved
    and `Release` finds the semaphore empty. -/
theorem TokStep.inv {a : ActorId} {h h' : Prop} {e e' : Eng} (d : TokStep a h h' e e') (hh : e.holder = some a ↔ h)
    (c : e.token + (if e.holder.isSome then 1 else 0) + (if e.txn.isSome then 1 else 0) = 1)
    (np : e.relPanic = false) :
    Held a h h' e.holder e'.holder ∧
      e'.token + (if e'.holder.isSome then 1 else 0) + (if e'.txn.isSome then 1 else 0) = 1 ∧
      e'.relPanic = false := by
  rcases d with ⟨⟨ht, hho, hx, hp⟩, hi⟩ | ⟨h1, ⟨ht, hho, hx, hp⟩, hn⟩ | ⟨t, ho, ⟨ht, hho, hx, hp⟩, hn⟩ |
    ⟨h1, ⟨ht, hho, hx, hp⟩, hn⟩ | ⟨e₁, rfl, h1, h2, h3, hn⟩
  · exact ⟨.keep hho hi, by rw [ht, hho, hx]; exact c, hp.trans np⟩
  · dsimp only at ht hho hx hp
    exact ⟨.take (by cases hk : e.holder <;> grind) hho hn, by grind, hp.trans np⟩
  · dsimp only at ht hho hx hp
    have := hh.2 ho
    exact ⟨.drop ho hho hn, by grind, hp.trans np⟩
  · dsimp only at ht hho hx hp
    exact ⟨.take (by cases hk : e.holder <;> grind) hho hn, by grind, hp.trans np⟩
  · -- the semaphore is empty: the token is in `a`'s hands or behind the installed transaction
    have h0 : e₁.token = 0 := by
      rcases h3 with ⟨ho, _⟩ | ⟨_, hs, _⟩
      · have := hh.2 ho; grind
      · grind
    obtain ⟨ht, hho, hx, hp⟩ : Eng.SameToken { e₁ with token := 1, holder := none } e₁.release.unlock := by
      rw [Eng.release_of_token h0]; exact ⟨rfl, rfl, rfl, rfl⟩
    dsimp only at ht hho hx hp
    rcases h3 with ⟨ho, hs⟩ | ⟨ho, hs, hs'⟩
    · have := hh.2 ho
      exact ⟨.drop ho hho hn, by grind, hp.trans (h2.trans np)⟩
    · have : e.holder = none := by cases hk : e.holder <;> grind
      exact ⟨.keep (hho.trans this.symm) (iff_of_false hn ho), by grind, hp.trans (h2.trans np)⟩

theorem LockStep.inv1 {s s' : State} {a : ActorId} {c : Choice} {l' : Local} (h : Inv1 s)
    (hl : s'.loc = upd s.loc a l') (f : Flow s a c l')
    (d : LockStep a (s.loc a).pc (s.loc a).k (s.loc a) s.eng s.sess l' s'.eng s'.sess) : Inv1 s' := by
  have wf : ∀ b, kOkAt (s.loc b).pc (s.loc b).k = true := fun b => (BeginWf_iff _).1 (h.beginWf b)
  have wf' : ∀ b, kOkAt (s'.loc b).pc (s'.loc b).k = true := fun b => by
    rw [hl, upd_apply]
    split
    · exact f.wf (wf a)
    · exact wf b
  obtain ⟨tok, conserv, noPanic⟩ := d.token.inv ((h.holder_iff a).trans (THold_iff _)) h.conserv h.noPanic
  refine ⟨fun b => ?_, fun b => ?_, conserv, noPanic, fun b sid => ?_, fun b => (BeginWf_iff _).2 (wf' b)⟩
  · rw [EHold_iff, hl]
    exact Held.lift (P := fun l => l.pc.eHold = true) (fun b => (h.mutex_iff b).trans (EHold_iff _)) d.mutex b
  · rw [THold_iff, hl]
    exact Held.lift (P := fun l => tHoldAt l.pc l.okF = true) (fun b => (h.holder_iff b).trans (THold_iff _)) tok b
  · have inv : ∀ b j, (s.sess j).mutex = some b ↔ sHeldAt (s.loc b).pc (s.loc b).k (s.loc b).ctxSess (s.loc b).sid =
        some j := fun b j => (h.smutex_iff b j).trans (SHold_iff (wf b) j)
    rw [SHold_iff (wf' b), hl]
    rcases d.sess (wf a) with ⟨hs, hv, _⟩ | ⟨i, x', hs, hm, _⟩
    · rw [hs]
      exact Held.lift (P := fun l => sHeldAt l.pc l.k l.ctxSess l.sid = some sid) (inv · sid) (.keep rfl (by rw [hv])) b
    · rw [hs]
      exact HeldAt.lift (V := fun l => sHeldAt l.pc l.k l.ctxSess l.sid) (f := Sess.mutex) inv hm b sid

theorem inv1_step {s s' : State} {a : ActorId} {c : Choice} (h : Inv1 s)
    (hs : step s a c = some s') : Inv1 s' :=
  let ⟨_, hl, _, f, d⟩ := step_sorted hs; d.inv1 h hl f

theorem inv1_reachable {n : Nat} {s : State} (h : Reachable n s) : Inv1 s := by
  induction h with
  | init => exact inv1_init n
  | step _ hs ih => exact inv1_step ih hs

end Lungo.Conc
