/-
  Lungo.Proofs.ConcLog — log invariants for C04: the snapshot of the installed write transaction is
  the current catalog, the catalog is the concatenation of the committed transactions' operations
  in commit order, and every committed transaction ran on exactly the log produced by its
  predecessors.

  None of the log invariants (`Linv` here, `Rinv`, `Pinv`, `Hinv`, `Ninv` in the next modules) reads the sessions or
  more of the engine than `txn`, `catalog` and `nextTid`, and seen through those components a step is one of very
  few things.  `LogStep` names them, `step_logStep` sorts the branches of `step` once, and every invariant is proved
  against `LogStep`.
-/
import Lungo.Proofs.ConcOwnDefs
namespace Lungo.Conc

/-- the log produced by a list of committed transactions -/
def logOf (cl : List CRec) : List OpId := (cl.map (·.ops)).flatten

/-- each record's base is the log produced by the records before it (starting from `acc`) -/
def SerialFrom (acc : List OpId) : List CRec → Prop
  | [] => True
  | r :: rs => r.base = acc ∧ SerialFrom (acc ++ r.ops) rs

@[simp] theorem logOf_nil : logOf [] = [] := rfl
theorem logOf_cons (r : CRec) (cl : List CRec) : logOf (r :: cl) = r.ops ++ logOf cl := by
  simp [logOf]
theorem logOf_append (cl : List CRec) (r : CRec) : logOf (cl ++ [r]) = logOf cl ++ r.ops := by
  simp [logOf]

theorem logOf_take_drop (cl : List CRec) (j : Nat) : logOf (cl.take j) ++ logOf (cl.drop j) = logOf cl := by
  simp only [logOf, ← List.flatten_append, ← List.map_append, List.take_append_drop]

theorem logOf_take_lt {cl : List CRec} {i j : Nat} {r : CRec} (hi : cl[i]? = some r) (hij : i < j) :
    ∃ rest, logOf (cl.take j) = logOf (cl.take i) ++ r.ops ++ rest := by
  induction cl generalizing i j with
  | nil => simp at hi
  | cons x xs ih =>
    cases j with
    | zero => omega
    | succ j =>
      cases i with
      | zero =>
        simp at hi; subst hi
        exact ⟨logOf (xs.take j), by simp [logOf_cons]⟩
      | succ i =>
        simp at hi
        obtain ⟨rest, h⟩ := ih (j := j) hi (by omega)
        exact ⟨rest, by simp [logOf_cons, h, List.append_assoc]⟩

theorem serialFrom_append (acc : List OpId) (cl : List CRec) (r : CRec) :
    SerialFrom acc (cl ++ [r]) ↔ SerialFrom acc cl ∧ r.base = acc ++ logOf cl := by
  induction cl generalizing acc with
  | nil => simp [SerialFrom]
  | cons x xs ih =>
    simp only [List.cons_append, SerialFrom, ih, logOf_cons, List.append_assoc]
    constructor
    · rintro ⟨h1, h2, h3⟩; exact ⟨⟨h1, h2⟩, h3⟩
    · rintro ⟨⟨h1, h2⟩, h3⟩; exact ⟨h1, h2, h3⟩

theorem serialFrom_get {acc : List OpId} {cl : List CRec} (h : SerialFrom acc cl) {i : Nat} {r : CRec}
    (hi : cl[i]? = some r) : r.base = acc ++ logOf (cl.take i) := by
  induction cl generalizing acc i with
  | nil => simp at hi
  | cons x xs ih =>
    cases i with
    | zero =>
      simp at hi; subst hi
      simp [h.1]
    | succ i =>
      simp at hi
      have := ih h.2 hi
      simp [logOf_cons, this, List.append_assoc]

theorem forall_mem_append_toList {α : Type} {P : α → Prop} {l : List α} {o : Option α} (h : ∀ x ∈ l, P x)
    (ho : ∀ y, o = some y → P y) : ∀ x ∈ l ++ o.toList, P x := by
  intro x hx
  rcases List.mem_append.1 hx with hx | hx
  · exact h x hx
  · exact ho x (Option.mem_toList.1 hx)

/-- a returning call hands its commit, if it made one, to `done` -/
theorem State.finish_done (s : State) (a : ActorId) (l : Local) (e : Eng) (r : Res) (pc : Pc) :
    (s.finish a l e r pc).done = s.done ++ l.cmt.toList := by
  unfold State.finish; cases l.cmt <;> simp

/-- a returning call records what it observed, if it observed something -/
theorem State.finish_reads (s : State) (a : ActorId) (l : Local) (e : Eng) (r : Res) (pc : Pc) :
    (s.finish a l e r pc).reads =
      s.reads ++ (l.obs.map fun o => (⟨a, o, l.invLen, e.catalog.length⟩ : RRec)).toList := by
  unfold State.finish; cases l.obs <;> simp

/-! ## what a step does to the log -/

/-- the engine fields the log invariants read stay, except that `txn` may be cleared -/
def Eng.Keeps (e e' : Eng) : Prop :=
  e'.catalog = e.catalog ∧ e'.nextTid = e.nextTid ∧ (e'.txn = e.txn ∨ e'.txn = none)

/-- the ghost registers of the call in progress stay -/
def Local.SameCall (l l' : Local) : Prop :=
  l'.invLen = l.invLen ∧ l'.invDone = l.invDone ∧ l'.cmt = l.cmt ∧ l'.obs = l.obs

/-- local states of a read-only call that has taken its snapshot -/
def ReadFlow (l : Local) : Prop :=
  l.pc = .uCbRead ∨ (l.pc = .after ∧ l.k = .use ∧ l.lockF = false ∧ l.res = .ok)

/-- where Commit succeeds for transaction `t`: at `cCheck` when `t` is installed and has nothing to store, or at
    `cStore`; `e'` is the engine afterwards -/
def CommitAt (s : State) (a : ActorId) (t : Tid) (e' : Eng) : Prop :=
  (s.loc a).pc = .cCheck ∧ s.eng.txn = some t ∧ e'.txn = none ∨ (s.loc a).pc = .cStore ∧ e'.txn = s.eng.txn

/-- A step of actor `a`, as far as the log invariants can see it. The successor is given as a term over `s`, so that a
    consumer reads the new components off it; a callback's write before the step and a session record written with it
    are wrappers (`write`, `sess`) around another `LogStep`, which is why the consumers go by induction and those of
    `OwnStep` (equations between components of `s` and `s'`) by cases. -/
inductive LogStep (a : ActorId) : State → State → Prop
  /-- inside a call: the ghost registers stay; `cStore` is entered only by the actor that just uninstalled its
      transaction, the read flow only continues -/
  | move {s : State} (l' : Local) (e' : Eng) : s.eng.Keeps e' → (s.loc a).SameCall l' → (s.loc a).pc ≠ .idle →
      (l'.pc = .cStore → l'.t = (s.loc a).t ∧ ((s.loc a).pc = .cStore ∨ s.eng.txn = (s.loc a).t)) →
      (ReadFlow l' → ReadFlow (s.loc a) ∧ l'.t = (s.loc a).t) →
      LogStep a s (s.put a l' e')
  /-- a call is invoked -/
  | invoke {s : State} (l' : Local) : l'.invLen = s.eng.catalog.length → l'.invDone = s.done → l'.cmt = none →
      l'.obs = none → l'.pc ≠ .cStore → ¬ ReadFlow l' →
      LogStep a s (s.put a l' s.eng)
  /-- a call returns -/
  | finish {s : State} (l₁ : Local) (e' : Eng) (r : Res) (pc : Pc) : s.eng.Keeps e' → (s.loc a).SameCall l₁ →
      (s.loc a).pc ≠ .idle → (pc = .idle ∨ pc = .xWait) →
      LogStep a s (s.finish a l₁ e' r pc)
  /-- a read-only call returns what its snapshot transaction started from -/
  | read {s : State} (t : Tid) (r : Res) : (s.loc a).pc = .uCbRead → (s.loc a).t = some t →
      LogStep a s (s.finish a { s.loc a with obs := some (s.txns t).base } s.eng r)
  /-- Begin returns a fresh transaction object, installed (`locked`) or not -/
  | begin {s : State} (l' : Local) (e' : Eng) (locked : Bool) : e'.catalog = s.eng.catalog →
      e'.nextTid = s.eng.nextTid + 1 → (e'.txn = s.eng.txn ∨ e'.txn = some s.eng.nextTid) →
      (s.loc a).SameCall l' → (s.loc a).pc ≠ .idle → l'.pc = .after → l'.t = some s.eng.nextTid →
      LogStep a s { s.put a l' e' with txns := upd s.txns s.eng.nextTid (newTxn s (s.loc a) locked) }
  /-- Commit succeeds for transaction `t` -/
  | commit {s : State} (t : Tid) (l' : Local) (e' : Eng) (ops : List OpId) (ht : (s.loc a).t = some t)
      (src : CommitAt s a t e') (hops : ops = (s.txns t).ops)
      (hcat : e'.catalog = (s.txns t).base ++ ops ∨ ops = [] ∧ e'.catalog = s.eng.catalog)
      (hn : e'.nextTid = s.eng.nextTid)
      (hpc : l'.pc = .after) (ht' : l'.t = some t) (hi : l'.invLen = (s.loc a).invLen)
      (hd : l'.invDone = (s.loc a).invDone)
      (hcm : l'.cmt = some (t, e'.catalog.length)) (ho : l'.obs = (s.loc a).obs) :
      LogStep a s { s.put a l' e' with
        commitLog := s.commitLog ++ [⟨t, (s.txns t).base, ops, (s.txns t).invLen, (s.txns t).before⟩] }
  /-- a callback writes one operation first -/
  | write {s s' : State} (t : Tid) : (s.loc a).t = some t → LogStep a (s.write t) s' → LogStep a s s'
  /-- a session record changes as well -/
  | sess {s s' : State} (sid : SessId) (x : Sess) : LogStep a s s' → LogStep a s (s'.putS sid x)

/-- a move to a program counter that is neither `cStore` nor part of the read flow -/
theorem LogStep.advance {a : ActorId} {s : State} (l' : Local) (e' : Eng) (he : s.eng.Keeps e')
    (hs : (s.loc a).SameCall l') (hb : (s.loc a).pc ≠ .idle)
    (hq : l'.pc ≠ .cStore ∧ l'.pc ≠ .uCbRead ∧ l'.pc ≠ .after) : LogStep a s (s.put a l' e') :=
  .move l' e' he hs hb (fun h => absurd h hq.1) fun h => h.elim (absurd · hq.2.1) (absurd ·.1 hq.2.2)

/-- Begin, Commit or Abort returns `r`, with neither a new transaction nor a commit -/
theorem LogStep.ret {a : ActorId} {s : State} (r : Res) (e' : Eng) (he : s.eng.Keeps e')
    (hb : (s.loc a).pc ≠ .idle) (hr : r ≠ .ok ∨ (s.loc a).k ≠ .use) :
    LogStep a s (s.put a ((s.loc a).back r) e') :=
  .move _ e' he ⟨rfl, rfl, rfl, rfl⟩ hb nofun
    fun h => h.elim nofun fun h => hr.elim (absurd h.2.2.2 ·) (absurd h.2.1 ·)

theorem ne_of_eq_of_ne {α : Type} {a b c : α} (h : a = b) (h' : b ≠ c) : a ≠ c := h ▸ h'

/-- `s.eng.Keeps e'` where `e'` is `s.eng` after unlocking, releasing and writing other fields -/
macro "keeps" : tactic => `(tactic|
  simp only [Eng.Keeps, Eng.unlock, Eng.release_catalog, Eng.release_nextTid, Eng.release_txn, and_self, or_true,
    true_or])

/-- `(s.loc a).pc ≠ .idle`, from the program counter the branch is at -/
macro "busy" : tactic => `(tactic| exact ne_of_eq_of_ne (by assumption) (by nofun))

/-- a branch that puts new registers: a return from Begin/Commit/Abort with an error, or an advance -/
macro "log_move" : tactic => `(tactic| first
  | (refine .ret _ _ ?_ ?_ (.inl ?_); keeps; busy; nofun)
  | (refine .advance _ _ ?_ ⟨rfl, rfl, rfl, rfl⟩ ?_ ?_; keeps; busy; (simp; done)))

/-- a branch in which the call returns -/
macro "log_finish" : tactic => `(tactic|
  (refine .finish _ _ _ _ ?_ ⟨rfl, rfl, rfl, rfl⟩ ?_ ?_; keeps; busy; (simp; done)))

/-- Sub-machine by sub-machine; in each, the shape of the successor state names the constructor.  The branches that
    need more than an evaluation are: Begin returning a transaction, Commit succeeding or going on to `cStore`, Abort
    returning (its continuation is not `use`), `after` going on to the read callback. -/
theorem step_logStep {s s' : State} {a : ActorId} {c : Choice} (h1 : Inv1 s) (hs : step s a c = some s') :
    LogStep a s s' := by
  have w := h1.beginWf a
  rcases step_cases hs with ⟨hp, hb⟩ | hb | hb | hb | ⟨hp, hb⟩ | hb | hb | hb | hb
  all_goals clear hs h1
  · branches_of stepIdle hb s a c
    all_goals exact .invoke _ rfl rfl rfl rfl (by nofun) (by simp [ReadFlow])
  · branches_of stepBegin hb s a c
    all_goals (try refine .sess _ _ ?_)
    all_goals first
      | log_move
      | exact .begin _ _ _ (by rfl) (by rfl) (by simp [Eng.unlock]) (by exact ⟨rfl, rfl, rfl, rfl⟩) (by busy)
          (by rfl) (by rfl)
  · branches_of stepCommit hb s a c
    all_goals first
      | log_move
      | exact .move _ _ (by keeps) ⟨rfl, rfl, rfl, rfl⟩ (by busy) (by grind) (by simp [ReadFlow]; done)
      | (refine .commit _ _ _ _ ?_ ?_ ?_ ?_ ?_ (by rfl) ?_ (by rfl) (by rfl) ?_ (by rfl)
         all_goals first | (simp [CommitAt, Eng.unlock, Local.back, *]; done) | grind [Local.back])
  · branches_of stepAbort hb s a c
    all_goals first
      | exact .ret _ _ (by keeps) (by busy) (.inr (by grind [BeginWf]))
      | log_move
  · branches_of stepAfter hb s a c
    all_goals (try refine .sess _ _ ?_)
    all_goals first
      | log_finish
      | log_move
      | exact .move _ _ (by keeps) ⟨rfl, rfl, rfl, rfl⟩ (by busy) (by nofun) (by grind [ReadFlow])
  · branches_of stepUse hb s a c
    all_goals (try refine .sess _ _ ?_)
    all_goals first
      | log_move
      | log_finish
      | exact .read _ _ (by assumption) (by assumption)
      | (refine .write _ ‹_› ?_; log_move)
      | (refine .write _ ‹_› ?_; log_finish)
  · branches_of stepSess hb s a c
    all_goals (try refine .sess _ _ ?_)
    all_goals first
      | log_move
      | log_finish
  · branches_of stepClose hb s a c
    all_goals first
      | log_move
      | log_finish
  · branches_of stepExp hb s a c
    all_goals first
      | log_move
      | exact .invoke _ rfl rfl rfl rfl (by nofun) (by simp [ReadFlow])
      | (refine .write _ ‹_› ?_; log_move)

/-- a write touches nothing of a transaction object but `ops` -/
theorem State.write_txns (s : State) (t t' : Tid) : ((s.write t).txns t').base = (s.txns t').base ∧
    ((s.write t).txns t').invLen = (s.txns t').invLen ∧ ((s.write t).txns t').before = (s.txns t').before := by
  unfold State.write; dsimp only; rw [upd_apply]; split
  · subst t'; exact ⟨rfl, rfl, rfl⟩
  · exact ⟨rfl, rfl, rfl⟩

/-! ## the installed transaction and the commit log -/

/-- Committed writes are serial: a write transaction that is installed in `e.txn`, or in Commit's hands after
    `e.txn = nil`, was cloned from the catalog as it stands, and the catalog is what the commit log replays to. -/
def Linv (s : State) : Prop :=
  (∀ t, s.eng.txn = some t → (s.txns t).base = s.eng.catalog) ∧
  (∀ a t, (s.loc a).pc = .cStore → (s.loc a).t = some t → (s.txns t).base = s.eng.catalog) ∧
  s.eng.catalog = logOf s.commitLog ∧
  SerialFrom [] s.commitLog

theorem linv_init (n : Nat) : Linv (init n) := by
  refine ⟨?_, fun b => ?_, ?_, ?_⟩
  all_goals (simp only [init]; try (by_cases hb : b = 0 <;> simp [hb]))
  all_goals simp [SerialFrom]

/-- `Linv` of a state whose registers are those of `s` except for actor `a` -/
theorem Linv.of_upd {s s' : State} {a : ActorId} {l' : Local} (hl : s'.loc = upd s.loc a l')
    (c1 : ∀ t, s'.eng.txn = some t → (s'.txns t).base = s'.eng.catalog)
    (c2 : ∀ t, l'.pc = .cStore → l'.t = some t → (s'.txns t).base = s'.eng.catalog)
    (c2' : ∀ b t, b ≠ a → (s.loc b).pc = .cStore → (s.loc b).t = some t → (s'.txns t).base = s'.eng.catalog)
    (c3 : s'.eng.catalog = logOf s'.commitLog) (c4 : SerialFrom [] s'.commitLog) : Linv s' := by
  refine ⟨c1, fun b t => ?_, c3, c4⟩
  rw [hl, upd_apply]
  split
  · exact c2 t
  · exact c2' b t ‹_›

/-- the transaction a successful Commit is about started from the present catalog, which grows by its operations -/
theorem Linv.commit {s : State} {a : ActorId} {t : Tid} {e' : Eng} {ops : List OpId} (g : Linv s)
    (ht : (s.loc a).t = some t) (src : CommitAt s a t e')
    (hcat : e'.catalog = (s.txns t).base ++ ops ∨ ops = [] ∧ e'.catalog = s.eng.catalog) :
    (s.txns t).base = s.eng.catalog ∧ e'.catalog = s.eng.catalog ++ ops := by
  have hb : (s.txns t).base = s.eng.catalog := by
    rcases src with h | h
    · exact g.1 t h.2.1
    · exact g.2.1 a t h.1 ht
  refine ⟨hb, ?_⟩
  rcases hcat with h | ⟨rfl, h⟩
  · rw [h, hb]
  · rw [h, List.append_nil]

theorem Linv.keeps {s : State} {e' : Eng} (g : Linv s) (he : s.eng.Keeps e') (t : Tid) (ht : e'.txn = some t) :
    (s.txns t).base = e'.catalog := by
  rcases he.2.2 with h | h
  · exact (g.1 t (h ▸ ht)).trans he.1.symm
  · exact absurd (h ▸ ht) nofun

theorem Linv.write {s : State} (g : Linv s) (t : Tid) : Linv (s.write t) :=
  ⟨fun t' h => (s.write_txns t t').1.trans (g.1 t' h),
    fun b t' hp ht => (s.write_txns t t').1.trans (g.2.1 b t' hp ht), g.2.2.1, g.2.2.2⟩

theorem linv_step {s s' : State} {a : ActorId} (h1 : Inv1 s) (bnd : Bnd s) (g : Linv s)
    (d : LogStep a s s') : Linv s' := by
  induction d with
  | @move s l' e' he _ _ hst _ =>
    refine .of_upd rfl (g.keeps he) (fun t hp ht => ?_) (fun b t _ hp ht => (g.2.1 b t hp ht).trans he.1.symm)
      (he.1.trans g.2.2.1) g.2.2.2
    obtain ⟨ht', h⟩ := hst hp
    refine (Eq.trans ?_ he.1.symm)
    rcases h with h | h
    · exact g.2.1 a t h (ht' ▸ ht)
    · exact g.1 t (h.trans (ht' ▸ ht))
  | invoke l' _ _ _ _ hpc _ =>
    exact .of_upd rfl g.1 (fun t hp => absurd hp hpc) (fun b t _ => g.2.1 b t) g.2.2.1 g.2.2.2
  | finish l₁ e' r pc he _ _ hpc =>
    refine .of_upd rfl (g.keeps he) (fun t hp => ?_) (fun b t _ hp ht => (g.2.1 b t hp ht).trans he.1.symm)
      (he.1.trans g.2.2.1) g.2.2.2
    rcases hpc with rfl | rfl <;> cases hp
  | read t r =>
    exact .of_upd rfl g.1 nofun (fun b t _ => g.2.1 b t) g.2.2.1 g.2.2.2
  | @begin s l' e' locked hc _ ht _ _ hpc _ =>
    -- nothing refers to the transaction object at `nextTid` yet
    refine .of_upd rfl (fun t h => ?_) (fun t hp => ?_) (fun b t _ hp h => ?_) (hc.trans g.2.2.1) g.2.2.2
    · show (upd s.txns s.eng.nextTid (newTxn s (s.loc a) locked) t).base = e'.catalog
      rcases ht with ht | ht
      · rw [upd_other _ _ _ _ (Nat.ne_of_lt (bnd.1 t (ht ▸ h))), hc]; exact g.1 t (ht ▸ h)
      · obtain rfl : s.eng.nextTid = t := Option.some.inj (ht.symm.trans h)
        rw [upd_same, hc]; rfl
    · rw [hpc] at hp; cases hp
    · show (upd s.txns s.eng.nextTid (newTxn s (s.loc a) locked) t).base = e'.catalog
      rw [upd_other _ _ _ _ (Nat.ne_of_lt (bnd.2.1 b t h)), hc]; exact g.2.1 b t hp h
  | @commit s t l' e' ops ht src _ hcat _ hpc _ _ _ _ _ =>
    obtain ⟨hb, hc⟩ := g.commit ht src hcat
    have hm : EHold (s.loc a).pc := by
      rcases src with h | h <;> (rw [h.1]; simp [EHold])
    have hx : e'.txn = none := by
      rcases src with h | h
      · exact h.2.2
      · exact h.2.trans (h1.txn_none_of_cStore h.1)
    refine .of_upd rfl (fun t' h => absurd (hx ▸ h) nofun) (fun t' hp => ?_) (fun b t' hba hp _ => ?_) ?_ ?_
    · rw [hpc] at hp; cases hp
    · exact absurd (h1.ehold_unique hm (by rw [hp]; simp [EHold])) hba
    · show e'.catalog = logOf (s.commitLog ++ [_])
      rw [logOf_append, hc, g.2.2.1]
    · show SerialFrom [] (s.commitLog ++ [_])
      rw [serialFrom_append]
      exact ⟨g.2.2.2, hb.trans g.2.2.1⟩
  | write t _ _ ih => exact ih (h1.write t) bnd (g.write t)
  | sess sid x _ ih => exact ih h1 bnd g

end Lungo.Conc
