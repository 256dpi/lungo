/-
  Lungo.Proofs.ConcOwn — register well-formedness (`Lwf`), idleness of unused actor ids (`Rng`), the `starting`
  protocol (`Sinv`) and the bound on transaction ids (`Bnd`) are preserved by every step; and what a step does to the
  ownership of transactions.  `Lwf` is about the new registers only and goes by the kinds of edge of the control-flow
  graph (`Flow.lwf`), `Rng` needs only `step_loc_other`, `Sinv` is read off `LockStep`, and `Bnd`, at the end of the
  file, is the first invariant proved from `OwnStep`.

  The ownership invariants (`Bnd` here, `Oinv` in `ConcAll`, `Zown` and `Zfrz` in `ConcFreeze`) read little of the
  state: of the engine `txn`, `own`, `nextTid` and `alive`, of a session its `txn`, the transaction cells, the commit
  log, and of an actor the registers `t`, `handle` and whether its position makes it the finisher of `t`.  Seen
  through those, a step is one of seven things.  `OwnStep` names them, `step_ownStep` sorts the branches of `step`
  once, and every invariant is proved against `OwnStep`.
-/
import Lungo.Proofs.ConcOwnDefs
import Lungo.Proofs.ConcInv
namespace Lungo.Conc

theorem Lwf.lift {s s' : State} {a : ActorId} {l' : Local} (h : Lwf s) (hl : s'.loc = upd s.loc a l')
    (d : LWf l') : Lwf s' := by
  intro b
  rw [hl, upd_apply]
  split
  · exact d
  · exact h b

/-- The guards find their registers set after every kind of edge: straight-line code reads what the code before it
    read or what its guard has just checked, a return from Begin with a result has set `t`, and a call site or a new
    call sets what its callee reads. -/
theorem Flow.lwf {s : State} {a : ActorId} {c : Choice} {l' : Local} (f : Flow s a c l')
    (w : BeginWf (s.loc a)) (g : LWf (s.loc a)) : LWf l' := by
  cases f with
  | @go _ p p' k _ _ hp hk r he =>
    revert he
    fun_cases edge p k p' <;> intro he <;> cases he <;> cases r <;> first
      | exact .of_pc rfl
      | grind [LWf, BeginWf, Pc.nextOk, K.isStart]
  | @invoke cl h _ _ _ he =>
    revert he
    fun_cases Call.enter ((s.loc a).invoke s) h cl <;> intro he <;> first
      | (cases he; first | exact .of_pc rfl | grind [LWf, Local.invoke])
      | (cases h <;> cases he; exact .of_pc rfl)
      | cases he
  | tick => grind [LWf, Local.invoke]

theorem lwf_step {s s' : State} {a : ActorId} {c : Choice} (h1 : Inv1 s) (h : Lwf s)
    (hs : step s a c = some s') : Lwf s' :=
  let ⟨_, hl, _, f, _⟩ := step_sorted hs; h.lift hl (f.lwf (h1.beginWf a) (h a))

theorem rng_step {s s' : State} {a : ActorId} {c : Choice} (h : Rng s) (hs : step s a c = some s') : Rng s' := by
  intro b hb
  rw [step_n hs] at hb
  rw [step_loc_other hs (Nat.ne_of_gt (Nat.lt_of_le_of_lt (step_le_n hs) hb))]
  exact h b hb

/-! ## Sinv

The flag is one more lock: its ghost `starter` names the actor that is inside `startTransaction` past the point where
it set the flag, so `Sinv` follows from what `LockStep` says about the session record a step writes. -/

theorem StartFlow_iff {l : Local} (w : kOkAt l.pc l.k = true) (sid : SessId) :
    StartFlow l sid ↔ startsAt l.pc l.k l.sid = some sid := by
  have c : l.k = .start ↔ l.k.isStart = true := by cases l.k <;> simp [K.isStart]
  unfold StartFlow
  rw [c]
  generalize l.pc = pc at w ⊢
  cases pc <;> first
    | (simp [startsAt, cond_some_iff]; done)
    | (simp [startsAt, cond_some_iff, ← c]; intro _ hk; rw [hk] at w; cases w)

theorem LockStep.sinv {s s' : State} {a : ActorId} {c : Choice} {l' : Local} (h1 : Inv1 s) (h : Sinv s)
    (hl : s'.loc = upd s.loc a l') (f : Flow s a c l') (d : LockStep a (s.loc a).pc (s.loc a).k (s.loc a) s.eng s.sess l' s'.eng s'.sess) : Sinv s' := by
  have wf : ∀ b, kOkAt (s.loc b).pc (s.loc b).k = true := fun b => (BeginWf_iff _).1 (h1.beginWf b)
  have wf' : ∀ b, kOkAt (upd s.loc a l' b).pc (upd s.loc a l' b).k = true := fun b => by
    rw [upd_apply]
    split
    · exact f.wf (wf a)
    · exact wf b
  have inv : ∀ b j, (s.sess j).starter = some b ↔ startsAt (s.loc b).pc (s.loc b).k (s.loc b).sid = some j :=
    fun b j => (h.2.1 b j).trans (StartFlow_iff (wf b) j)
  rw [Sinv, hl]
  rcases d.sess (wf a) with ⟨hs, _, hv⟩ | ⟨i, x', hs, _, hf⟩ <;> rw [hs]
  · refine ⟨h.1, fun b sid => ?_, h.2.2⟩
    rw [StartFlow_iff (wf' b)]
    exact Held.lift (P := fun l => startsAt l.pc l.k l.sid = some sid) (inv · sid) (.keep rfl (by rw [hv])) b
  · have h3 := h.2.2 i
    refine ⟨fun sid => ?_, fun b sid => ?_, fun sid => ?_⟩
    · rw [upd_apply]
      split
      · rcases hf with ⟨hg, _, hx, _⟩ | ⟨_, _, _, hx, _⟩ | ⟨_, hg, _⟩
        · exact fun hg' => hx.elim (·.trans (h.1 i (hg ▸ hg'))) id
        · exact fun _ => hx
        · exact fun hg' => absurd (hg ▸ hg') nofun
      · exact h.1 sid
    · rw [StartFlow_iff (wf' b)]
      refine HeldAt.lift (V := fun l => startsAt l.pc l.k l.sid) (f := Sess.starter) inv ?_ b sid
      rcases hf with ⟨_, hr, _, hv⟩ | ⟨hg, _, hr, _, hv, hv'⟩ | ⟨hv, _, hr, hv'⟩
      · exact .keep hr hv
      · -- the flag was down, so nobody was recorded as starter
        exact .take (by rw [hg] at h3; simpa using h3) hr hv hv'
      · exact .drop hv hr hv'
    · rw [upd_apply]
      split
      · rcases hf with ⟨hg, hr, _⟩ | ⟨_, hg, hr, _⟩ | ⟨_, hg, hr, _⟩ <;> rw [hg, hr]
        · exact h3
        · rfl
        · rfl
      · exact h.2.2 sid

theorem sinv_step {s s' : State} {a : ActorId} {c : Choice} (h1 : Inv1 s) (h : Sinv s)
    (hs : step s a c = some s') : Sinv s' :=
  let ⟨_, hl, _, f, d⟩ := step_sorted hs; d.sinv h1 h hl f

/-! ## what a step does to the ownership of transactions -/

/-- the program counters of `Engine.Abort` and its return point -/
def Pc.inAbort : Pc → Bool
  | .aLock | .aBody | .after => true
  | _ => false

theorem Pc.inAbort_iff {pc : Pc} : pc.inAbort = true ↔ pc = .aLock ∨ pc = .aBody ∨ pc = .after := by
  cases pc <;> simp [Pc.inAbort]

/-- `txn`, `own` and `nextTid` stay, and a dead engine stays dead -/
def Eng.Same (e e' : Eng) : Prop :=
  e'.txn = e.txn ∧ e'.own = e.own ∧ e'.nextTid = e.nextTid ∧ (e'.alive = true → e.alive = true)

/-- A step of actor `a`, as far as the ownership invariants can see it: what it does to `txn`, `own`, `nextTid` and
    `alive` of the engine, to the sessions' `txn`, to the transaction cells and the commit log, and to the registers
    `t`, `handle` and the position (`FinPos`, `PreW`) of `a`. -/
inductive OwnStep (a : ActorId) (s s' : State) : Prop
  /-- inside a call: `t` and `handle` stay and the position is kept; a callback may write into the cell of `t` -/
  | move (l' : Local) (hl : s'.loc = upd s.loc a l') (he : s.eng.Same s'.eng)
      (hs : ∀ sid, (s'.sess sid).txn = (s.sess sid).txn) (hc : s'.commitLog = s.commitLog)
      (cells : ∀ t, s'.txns t = s.txns t ∨ ((s.loc a).t = some t ∧ (PreW (s.loc a) ∨ (s.loc a).pc = .uCbSess)))
      (et : l'.t = (s.loc a).t) (eh : l'.handle = (s.loc a).handle)
      (pos : (FinPos l' ↔ FinPos (s.loc a)) ∧ (PreW l' → PreW (s.loc a)))
      (ab : l'.k = .sessAbort → l'.pc.inAbort = true →
        (s.loc a).k = .sessAbort ∧ (s.loc a).pc = .aLock ∧ l'.pc = .aBody ∧ l'.sid = (s.loc a).sid)
      (nu : l'.pc ≠ .uCbSess) (nc : l'.pc ≠ .cStore) : OwnStep a s s'
  /-- `t` or `handle` is reloaded (from the handle, from a session, into the handle): the actor claims what it
      claimed before -/
  | regs (l' : Local) (hl : s'.loc = upd s.loc a l') (he : s.eng.Same s'.eng)
      (hs : ∀ sid, (s'.sess sid).txn = (s.sess sid).txn) (hc : s'.commitLog = s.commitLog) (cells : s'.txns = s.txns)
      (claims : ∀ t, OwnsL l' t ↔ OwnsL (s.loc a) t)
      (known : ∀ t, l'.t = some t ∨ l'.handle = some t →
        (s.loc a).t = some t ∨ (s.loc a).handle = some t ∨ ∃ sid, (s.sess sid).txn = some t)
      (np : ¬ PreW l') (fh : FinPos l' → l'.handle = none)
      (ab : l'.k = .sessAbort → l'.pc.inAbort = true → l'.pc ≠ .after ∧ (s.sess l'.sid).txn = l'.t)
      (cb : l'.pc = .uCbSess → ∃ sid, (s.loc a).ctxSess = some sid ∧ l'.t = (s.sess sid).txn)
      (nc : l'.pc ≠ .cStore) : OwnStep a s s'
  /-- Begin returns a fresh transaction object; a locked Begin installs it, with `a` as its finisher -/
  | fresh (l' : Local) (tx : Txn) (hl : s'.loc = upd s.loc a l')
      (hs : ∀ sid, (s'.sess sid).txn = (s.sess sid).txn) (hc : s'.commitLog = s.commitLog)
      (cells : s'.txns = upd s.txns s.eng.nextTid tx)
      (hn : s'.eng.nextTid = s.eng.nextTid + 1) (eal : s'.eng.alive = s.eng.alive)
      (hf : (s.loc a).pc.finishes = false) (et : l'.t = some s.eng.nextTid) (eh : l'.handle = (s.loc a).handle)
      (hp' : l'.pc = .after)
      (nk : l'.k ≠ .sessAbort)
      (hi : s'.eng.txn = s.eng.txn ∧ s'.eng.own = s.eng.own ∧ ¬ FinPos l' ∨
        s.eng.txn = none ∧ s'.eng.txn = some s.eng.nextTid ∧ s'.eng.own = .actor a ∧ PreW l') :
      OwnStep a s s'
  /-- the body of Commit or Abort: if the engine is alive and `t` is installed, it is uninstalled; a successful
      Commit appends the record of `t` -/
  | fin (l' : Local) (hl : s'.loc = upd s.loc a l')
      (hs : ∀ sid, (s'.sess sid).txn = (s.sess sid).txn) (cells : s'.txns = s.txns)
      (eo : s'.eng.own = s.eng.own) (hn : s'.eng.nextTid = s.eng.nextTid) (eal : s'.eng.alive = s.eng.alive)
      (hx : s'.eng.txn = s.eng.txn ∨ s'.eng.txn = none ∧ s.eng.txn = (s.loc a).t)
      (done : s.eng.alive = true → ∀ t, s.eng.txn = some t → (s.loc a).t = some t → s'.eng.txn = none)
      (et : l'.t = (s.loc a).t) (eh : l'.handle = (s.loc a).handle) (ek : l'.k = (s.loc a).k)
      (es : l'.sid = (s.loc a).sid)
      (hb : (s.loc a).pc = .cCheck ∨ (s.loc a).pc = .cStore ∨ (s.loc a).pc = .aBody)
      (pcs : l'.pc = .after ∨ l'.pc = .cStore ∧ (s.loc a).pc = .cCheck ∧ s'.eng.txn = none ∧ s.eng.txn = (s.loc a).t)
      (log : s'.commitLog = s.commitLog ∨ ∃ t r, (s.loc a).t = some t ∧ s'.eng.txn = none ∧
        ((s.loc a).pc = .cCheck ∧ s.eng.txn = some t ∨ (s.loc a).pc = .cStore) ∧
        s'.commitLog = s.commitLog ++ [r] ∧ r.tid = t ∧
        r.ops = (s.txns t).ops ∧ r.base = (s.txns t).base) :
      OwnStep a s s'
  /-- `startTransaction` hands its transaction over to the session -/
  | give (l' : Local) (x : Sess) (hl : s'.loc = upd s.loc a l') (hs : s'.sess = upd s.sess (s.loc a).sid x)
      (hc : s'.commitLog = s.commitLog) (cells : s'.txns = s.txns)
      (hx : s'.eng.txn = s.eng.txn) (hn : s'.eng.nextTid = s.eng.nextTid) (eal : s'.eng.alive = s.eng.alive)
      (o1 : s.eng.txn = (s.loc a).t → s'.eng.own = .sess (s.loc a).sid)
      (o2 : s.eng.txn ≠ (s.loc a).t → s'.eng.own = s.eng.own)
      (hp : (s.loc a).pc = .ssFinal) (hr : (s.loc a).res = .ok) (ex : x.txn = (s.loc a).t)
      (hp' : l'.pc = .idle) (et : l'.t = (s.loc a).t) (eh : l'.handle = (s.loc a).handle) : OwnStep a s s'
  /-- `CommitTransaction` takes the session's transaction back -/
  | back (l' : Local) (x : Sess) (t : Tid) (hl : s'.loc = upd s.loc a l')
      (hs : s'.sess = upd s.sess (s.loc a).sid x)
      (hc : s'.commitLog = s.commitLog) (cells : s'.txns = s.txns)
      (hx : s'.eng.txn = s.eng.txn) (hn : s'.eng.nextTid = s.eng.nextTid) (eal : s'.eng.alive = s.eng.alive)
      (o1 : s.eng.txn = some t → s'.eng.own = .actor a) (o2 : s.eng.txn ≠ some t → s'.eng.own = s.eng.own)
      (hp : (s.loc a).pc = .scBody) (hst : (s.sess (s.loc a).sid).txn = some t) (ex : x.txn = none)
      (hp' : l'.pc = .cLock) (ek : l'.k = .sessCommit) (et : l'.t = some t) (eh : l'.handle = (s.loc a).handle) :
      OwnStep a s s'
  /-- `AbortTransaction`, back from `Engine.Abort`, forgets the session's transaction -/
  | clear (l' : Local) (x : Sess) (hl : s'.loc = upd s.loc a l') (hs : s'.sess = upd s.sess (s.loc a).sid x)
      (hc : s'.commitLog = s.commitLog) (cells : s'.txns = s.txns) (he : s.eng.Same s'.eng)
      (hp : (s.loc a).pc = .after) (hk : (s.loc a).k = .sessAbort) (ex : x.txn = none)
      (hp' : l'.pc = .idle) (et : l'.t = (s.loc a).t) (eh : l'.handle = (s.loc a).handle) : OwnStep a s s'

/-- what is installed after the body of Commit or Abort (`OwnStep.fin`) was installed before -/
theorem txn_of_fin {x x' : Option Tid} {P : Prop} (h : x' = x ∨ x' = none ∧ P) {t : Tid} (ht : x' = some t) :
    x = some t := by
  rcases h with e | ⟨e, _⟩
  · exact e ▸ ht
  · rw [e] at ht; cases ht

/-- rewriting a session without touching its `txn` -/
theorem upd_sess_txn {ss : SessId → Sess} {sid : SessId} {x : Sess} (h : x.txn = (ss sid).txn) (sid' : SessId) :
    (upd ss sid x sid').txn = (ss sid').txn := by
  rw [upd_apply]; split
  · rename_i h'; rw [h, h']
  · rfl

/-- a callback's write goes into the cell of the transaction it was given -/
theorem State.write_cells (s : State) {t : Tid} {lt : Option Tid} {P : Prop} (ht : lt = some t) (hp : P) (t' : Tid) :
    (s.write t).txns t' = s.txns t' ∨ (lt = some t' ∧ P) := by
  by_cases h : t' = t
  · subst h; exact .inr ⟨ht, hp⟩
  · exact .inl (upd_other _ _ _ _ h)

theorem Pc.finishes_at {p q : Pc} (h : p = q) (hq : q.finishes = false) : p.finishes = false := h ▸ hq

/-- a move between program counters that are not finishing positions -/
theorem OwnStep.pass {a : ActorId} {s s' : State} (l' : Local) (hl : s'.loc = upd s.loc a l')
    (he : s.eng.Same s'.eng) (hs : ∀ sid, (s'.sess sid).txn = (s.sess sid).txn)
    (hc : s'.commitLog = s.commitLog) (hx : s'.txns = s.txns) (ht : l'.t = (s.loc a).t)
    (hh : l'.handle = (s.loc a).handle) (hf : (s.loc a).pc.finishes = false) (hf' : l'.pc.finishes = false)
    (hu : l'.pc ≠ .uCbSess) : OwnStep a s s' := by
  have nf := FinPos.not hf
  have nf' := FinPos.not hf'
  refine .move l' hl he hs hc (fun t => .inl (hx ▸ rfl)) ht hh
    ⟨⟨fun h => absurd h nf', fun h => absurd h nf⟩, fun h => absurd (.inl h) nf'⟩ (fun _ h => ?_) hu fun h => ?_
  · rw [Pc.inAbort_iff] at h
    rcases h with h | h | h <;> rw [h] at hf' <;> cases hf'
  · rw [h] at hf'; cases hf'

/-- The positions around the body of Commit and Abort: the continuation of a Commit is no Begin's, and the one of an
    Abort is neither `useCommit` nor a Begin's, so on return the actor is the finisher by position only after
    `useTransaction`'s Commit; inside, it is unless the Abort is `AbortTransaction`'s. -/
theorem fin_pos {l l' : Local} {Q : Prop} (w : BeginWf l) (hb : l.pc = .cCheck ∨ l.pc = .cStore ∨ l.pc = .aBody)
    (ek : l'.k = l.k) (hp : l'.pc = .after ∨ l'.pc = .cStore ∧ l.pc = .cCheck ∧ Q) :
    (FinPos l' → FinPos l) ∧ ¬ PreW l' ∧ (l'.k = .sessAbort → l.pc = .aBody) ∧ (l.k ≠ .sessAbort → FinPos l) := by
  simp only [FinPos, PreW, BeginWf] at *
  grind

/-- `s.eng.Same e'` where `e'` is `s.eng` after unlocking, releasing, or writing fields these invariants do not read -/
macro "same" : tactic => `(tactic| first
  | exact ⟨Eng.release_txn _, Eng.release_own _, Eng.release_nextTid _, fun h => Eng.release_alive _ ▸ h⟩
  | exact ⟨rfl, rfl, rfl, id⟩
  | exact ⟨rfl, rfl, rfl, nofun⟩)

/-- the sessions' `txn` stay: no session is written, or one is written in other fields -/
macro "sess_same" : tactic => `(tactic| first | exact fun _ => rfl | exact upd_sess_txn rfl)

/-- a fact about the positions before and after, from the definitions, the guards of the branch and what `BeginWf` and
    `LWf` say about the registers before -/
macro "own_eval" : tactic => `(tactic|
  (simp only [FinPos, PreW, OwnsL, Pc.inAbort, Local.back, Local.invoke, LWf, BeginWf, Eng.unlock, Eng.release_txn,
     State.put, State.putS, State.finish] at *
   grind))

/-- the new owner where a branch has decided whether the transaction in hand is the installed one -/
macro "own_if" : tactic => `(tactic|
  first | exact fun _ => rfl | exact fun h => absurd h ‹_› | exact fun h => absurd ‹_› h)

/-- `OwnStep.pass` (`move` away from the finishing positions): a branch that goes from one program counter with
    `Pc.finishes = false` to another and writes neither `t`, `handle`, a cell nor a session's `txn` -/
macro "own_pass" : tactic => `(tactic|
  exact .pass _ rfl (by same) (by sess_same) rfl rfl rfl rfl (Pc.finishes_at (by assumption) rfl) rfl (by nofun))

/-- `OwnStep.move`: a branch that keeps `t` and `handle` but starts or ends at a finishing position, or is a
    callback's write; the position facts are left to `own_eval` -/
macro "own_move" : tactic => `(tactic|
  (refine .move _ rfl (by same) (by sess_same) rfl
     (by first | exact fun _ => .inl rfl | exact State.write_cells _ ‹_› (by own_eval)) rfl rfl
     ?_ (by first | exact fun _ h => Bool.noConfusion h | exact fun h => K.noConfusion h | own_eval) (by nofun)
     (by nofun)
   own_eval))

/-- `OwnStep.regs`: a branch that loads `t` or `handle` (from the handle, from a session, into the
    handle) and leaves engine, sessions and cells alone -/
macro "own_regs" : tactic => `(tactic|
  (refine .regs _ rfl (by same) (by sess_same) rfl rfl ?_ ?_ ?_ ?_ ?_ ?_ (by nofun)
   all_goals own_eval))

/-- `OwnStep.fresh`: the branches of Begin that allocate the transaction object, unlocked (engine `txn` stays) or
    locked (it is installed) -/
macro "own_fresh" : tactic => `(tactic|
  (refine .fresh _ _ rfl (fun _ => rfl) rfl rfl rfl rfl (Pc.finishes_at (by assumption) rfl) rfl rfl rfl ?_ ?_
   · own_eval
   · first
     | (refine .inl ⟨rfl, rfl, ?_⟩; own_eval)
     | (refine .inr ⟨Option.not_isSome_iff_eq_none.1 ‹_›, rfl, rfl, ?_⟩; own_eval)))

/-- `nt` is `(s.loc a).pc = .cStore → s.eng.txn = none` -/
macro "own_fin" nt:ident : tactic => `(tactic|
  (refine .fin _ rfl (fun _ => rfl) rfl (by first | rfl | exact Eng.release_own _)
     (by first | rfl | exact Eng.release_nextTid _) (by first | rfl | exact Eng.release_alive _)
     (by first
       | exact .inl rfl
       | exact .inl (Eng.release_txn _)
       | exact .inr ⟨by first | rfl | exact Eng.release_txn _,
           by first | exact (‹_ ∧ _›).2 | exact Eq.trans ‹_› (Eq.symm (Decidable.not_not.1 ‹_›))⟩)
     ?_ rfl rfl rfl rfl (by first | exact .inl ‹_› | exact .inr (.inl ‹_›) | exact .inr (.inr ‹_›))
     (by first
       | exact .inl rfl
       | exact .inr ⟨rfl, ‹_›, rfl, Eq.trans ‹_› (Eq.symm (Decidable.not_not.1 ‹_›))⟩)
     (by first
       | exact .inl rfl
       | exact .inr ⟨_, _, Decidable.not_not.1 ‹_›, Eng.release_txn _, .inl ⟨‹_›, ‹_›⟩, rfl, rfl,
           (‹_› : _ = []).symm, rfl⟩
       | exact .inr ⟨_, _, ‹_›, (Eng.release_txn _).trans ($nt ‹_›), .inr ‹_›, rfl, rfl, rfl, rfl⟩)
   own_eval))

/-- Sub-machine by sub-machine; in each, the shape of the successor state names the constructor, and most hypotheses
    are read off the state term.  What is left are the position facts of the moves that start or end at a finishing
    position; of the registers they need that a returning Begin's continuation is a Begin's (`BeginWf`), that a locked
    Begin has `lockF`, and what `LWf` says at `after` about the continuations `start`, `expBegin` and `dBegin`. -/
theorem step_ownStep {s s' : State} {a : ActorId} {c : Choice} (h1 : Inv1 s) (lw : Lwf s)
    (hs : step s a c = some s') : OwnStep a s s' := by
  have w := h1.beginWf a
  have lwa := lw a
  have nt := h1.txn_none_of_cStore (b := a)
  rcases step_cases hs with ⟨hp, hb⟩ | hb | hb | hb | ⟨hp, hb⟩ | hb | hb | hb | hb
  all_goals clear hs h1 lw
  · clear w lwa
    branches_of stepIdle hb s a c
    all_goals first
      | own_pass
      | own_regs
  · have kB := w.1
    have lf := lwa.1
    clear w lwa
    branches_of stepBegin hb s a c
    all_goals first
      | own_pass
      | own_move
      | own_fresh
  · clear w lwa
    branches_of stepCommit hb s a c
    all_goals first
      | own_fin nt
      | own_move
  · clear w lwa
    branches_of stepAbort hb s a c
    all_goals first
      | own_fin nt
      | own_move
  · have hn := lwa.2.2.2.2
    clear w lwa
    branches_of stepAfter hb s a c
    all_goals first
      | own_pass
      | own_move
      | own_regs
      | exact .clear _ _ rfl rfl rfl rfl (by same) hp ‹_› rfl rfl rfl rfl
  · clear w lwa
    branches_of stepUse hb s a c
    all_goals first
      | own_pass
      | own_move
      | own_regs
  · clear w lwa
    branches_of stepSess hb s a c
    all_goals first
      | own_pass
      | own_move
      | own_regs
      | exact .give _ _ rfl rfl rfl rfl rfl rfl rfl (by own_if) (by own_if) ‹_› (Decidable.not_not.1 ‹_›) rfl rfl rfl rfl
      | exact .back _ _ _ rfl rfl rfl rfl rfl rfl rfl (by own_if) (by own_if) ‹_› ‹_› rfl rfl rfl rfl rfl
  · branches_of stepClose hb s a c
    all_goals own_pass
  · clear w lwa
    branches_of stepExp hb s a c
    all_goals first
      | own_pass
      | own_move

/-- `Bnd` after a step that leaves the stepping actor at `l'`: ids are only ever handed out upwards, and every id the
    step stores is below the new bound. -/
theorem Bnd.lift {s s' : State} {a : ActorId} {l' : Local} (h : Bnd s) (hl : s'.loc = upd s.loc a l')
    (mono : s.eng.nextTid ≤ s'.eng.nextTid) (eng : ∀ t, s'.eng.txn = some t → t < s'.eng.nextTid)
    (reg : ∀ t, l'.t = some t → t < s'.eng.nextTid) (handle : ∀ t, l'.handle = some t → t < s'.eng.nextTid)
    (sess : ∀ sid t, (s'.sess sid).txn = some t → t < s'.eng.nextTid) : Bnd s' := by
  refine ⟨eng, fun b t => ?_, fun b t => ?_, sess⟩
  · rw [hl, upd_apply]
    split
    · exact reg t
    · exact fun hb => Nat.lt_of_lt_of_le (h.2.1 b t hb) mono
  · rw [hl, upd_apply]
    split
    · exact handle t
    · exact fun hb => Nat.lt_of_lt_of_le (h.2.2.1 b t hb) mono

/-- a step that allocates no id and stores only ids that were stored before -/
theorem Bnd.keep {s s' : State} {a : ActorId} {l' : Local} (h : Bnd s) (hl : s'.loc = upd s.loc a l')
    (hn : s'.eng.nextTid = s.eng.nextTid) (eng : ∀ t, s'.eng.txn = some t → t < s.eng.nextTid)
    (reg : ∀ t, l'.t = some t → t < s.eng.nextTid) (handle : ∀ t, l'.handle = some t → t < s.eng.nextTid)
    (sess : ∀ sid t, (s'.sess sid).txn = some t → t < s.eng.nextTid) : Bnd s' := by
  refine h.lift hl (Nat.le_of_eq hn.symm) ?_ ?_ ?_ ?_ <;> rw [hn] <;> assumption

/-- the sessions after one of them was rewritten with a `txn` that is bounded -/
theorem Bnd.upd_sess {s : State} {ss' : SessId → Sess} {sid : SessId} {x : Sess} (h : Bnd s)
    (hs : ss' = upd s.sess sid x) (hx : ∀ t, x.txn = some t → t < s.eng.nextTid) (sid' : SessId) (t : Tid) :
    (ss' sid').txn = some t → t < s.eng.nextTid := by
  rw [hs, upd_apply]
  split
  · exact hx t
  · exact h.2.2.2 sid' t

theorem bnd_step {s s' : State} {a : ActorId} (h : Bnd s) (d : OwnStep a s s') : Bnd s' := by
  have ht := h.2.1 a
  have hh := h.2.2.1 a
  cases d with
  | move l' hl he hs _ _ et eh =>
    exact h.keep hl he.2.2.1 (he.1 ▸ h.1) (et ▸ ht) (eh ▸ hh) fun sid => hs sid ▸ h.2.2.2 sid
  | regs l' hl he hs _ _ _ known =>
    have hk : ∀ t, l'.t = some t ∨ l'.handle = some t → t < s.eng.nextTid := fun t hl =>
      match known t hl with
      | .inl h' => ht t h'
      | .inr (.inl h') => hh t h'
      | .inr (.inr ⟨sid, h'⟩) => h.2.2.2 sid t h'
    exact h.keep hl he.2.2.1 (he.1 ▸ h.1) (fun t h' => hk t (.inl h')) (fun t h' => hk t (.inr h'))
      fun sid => hs sid ▸ h.2.2.2 sid
  | fresh l' tx hl hs _ _ hn _ _ et eh _ _ hi =>
    have up : ∀ {t}, t < s.eng.nextTid → t < s'.eng.nextTid := fun h' => hn ▸ Nat.lt_succ_of_lt h'
    refine h.lift hl (hn ▸ Nat.le_succ _) (fun t h' => ?_) (fun t h' => ?_) (fun t h' => up (hh t (eh ▸ h')))
      fun sid t h' => up (h.2.2.2 sid t (hs sid ▸ h'))
    · rcases hi with ⟨e, _⟩ | ⟨_, e, _⟩
      · exact up (h.1 t (e ▸ h'))
      · rw [hn, ← Option.some.inj (e.symm.trans h')]; exact Nat.lt_succ_self _
    · rw [hn, ← Option.some.inj (et.symm.trans h')]; exact Nat.lt_succ_self _
  | fin l' hl hs _ _ hn _ hx _ et eh =>
    exact h.keep hl hn (fun t h' => h.1 t (txn_of_fin hx h')) (et ▸ ht) (eh ▸ hh) fun sid => hs sid ▸ h.2.2.2 sid
  | give l' x hl hs _ _ hx hn _ _ _ _ _ ex _ et eh =>
    exact h.keep hl hn (hx ▸ h.1) (et ▸ ht) (eh ▸ hh) (h.upd_sess hs (ex ▸ ht))
  | back l' x t hl hs _ _ hx hn _ _ _ _ hst ex _ _ et eh =>
    refine h.keep hl hn (hx ▸ h.1) (fun t' h' => ?_) (eh ▸ hh) (h.upd_sess hs fun _ h' => ?_)
    · exact h.2.2.2 _ t' (hst.trans (et.symm.trans h'))
    · rw [ex] at h'; cases h'
  | clear l' x hl hs _ _ he _ _ ex _ et eh =>
    refine h.keep hl he.2.2.1 (he.1 ▸ h.1) (et ▸ ht) (eh ▸ hh) (h.upd_sess hs fun _ h' => ?_)
    rw [ex] at h'; cases h'
end Lungo.Conc
