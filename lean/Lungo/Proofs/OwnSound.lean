/-
  Lungo.Proofs.OwnSound — what the soundness proof of the static ownership check `check` (Model/Own.lean)
  is made of: the concretisation `Gam` of an abstract state and the call invariant `Inv`, how both move
  under the state updates the interpreter makes, the heap builders (`newCollH`, `cloneCollH`, `applyMut`)
  as `Step`s, and the edge predicate `Post`.  The induction itself is in OwnSoundStmt.lean.
-/
import Lungo.Proofs.OwnHeap
namespace Lungo.Own

/-- concretisation of the ownership part of an abstract state -/
structure Gam (cx : Ctx) (t0 : TxnState) (a : Abs) (st : St) : Prop where
  vars : ∀ v, a.owns v = true → ∀ o, (st.env.vars.lookup v).join = some o → Own cx st.heap o
  docs : ∀ v, a.ownsDocs v = true → ∀ o ∈ st.docsOf v, cx.base ≤ o
  tcat : a.tcatOwned = true → Own cx st.heap st.txn.catalog
  txn : a.assigned = false → st.txn = t0

/-- invariant of a call that started in heap `h0` -/
structure Inv (cx : Ctx) (h0 : Heap) (st : St) : Prop where
  base : cx.base ≤ h0.size
  step : Step cx h0 st.heap
  docs : ∀ v, ∀ o ∈ st.docsOf v, cx.base ≤ o ∨ o ∈ cx.ex

variable {cx : Ctx} {t0 : TxnState} {h0 : Heap}

/-! ### `Gam` is antitone in the abstract state -/

/-- `a` claims no more than `b`: whatever `a` calls owned or unassigned, `b` does too.  Only these four
    components of an abstract state have a meaning in the concrete state; `suspect`, `tainted` and
    `contents` are bookkeeping of the check. -/
structure Abs.Sub (a b : Abs) : Prop where
  owns : ∀ v, a.owns v = true → b.owns v = true
  docs : ∀ v, a.ownsDocs v = true → b.ownsDocs v = true
  tcat : a.tcatOwned = true → b.tcatOwned = true
  txn : a.assigned = false → b.assigned = false

theorem Gam.sub {a b : Abs} {st : St} (g : Gam cx t0 b st) (l : a.Sub b) : Gam cx t0 a st :=
  ⟨fun v hv => g.vars v (l.owns v hv), fun v hv => g.docs v (l.docs v hv), fun h => g.tcat (l.tcat h),
   fun h => g.txn (l.txn h)⟩

namespace Abs.Sub

theorem refl (a : Abs) : a.Sub a := ⟨fun _ h => h, fun _ h => h, id, id⟩

theorem trans {a b c : Abs} (x : a.Sub b) (y : b.Sub c) : a.Sub c :=
  ⟨fun v h => y.owns v (x.owns v h), fun v h => y.docs v (x.docs v h), y.tcat ∘ x.tcat, y.txn ∘ x.txn⟩

/-- states that differ in the bookkeeping components only -/
theorem of_eq {a b : Abs} (e1 : a.owned = b.owned) (e2 : a.ownedDocs = b.ownedDocs)
    (e3 : a.tcatOwned = b.tcatOwned) (e4 : a.assigned = b.assigned) : a.Sub b :=
  ⟨fun v h => by rw [Abs.owns, ← e1]; exact h, fun v h => by rw [Abs.ownsDocs, ← e2]; exact h,
   fun h => e3 ▸ h, fun h => e4 ▸ h⟩

theorem owns_join {a b : Abs} {v : Var} (h : (a.join b).owns v = true) : a.owns v = true ∧ b.owns v = true := by
  simp only [Abs.owns, Abs.join, Bool.and_eq_true, List.contains_eq_mem, List.mem_filter, decide_eq_true_eq] at *
  exact ⟨⟨h.1, h.2.1⟩, ⟨h.1, h.2.2⟩⟩

theorem ownsDocs_join {a b : Abs} {v : Var} (h : (a.join b).ownsDocs v = true) :
    a.ownsDocs v = true ∧ b.ownsDocs v = true := by
  simpa only [Abs.ownsDocs, Abs.join, List.contains_eq_mem, List.mem_filter, decide_eq_true_eq] using h

theorem join_left (a b : Abs) : (a.join b).Sub a :=
  ⟨fun _ h => (owns_join h).1, fun _ h => (ownsDocs_join h).1, fun h => (Bool.and_eq_true_iff.mp h).1,
   fun h => (Bool.or_eq_false_iff.mp h).1⟩

theorem join_right (a b : Abs) : (a.join b).Sub b :=
  ⟨fun _ h => (owns_join h).2, fun _ h => (ownsDocs_join h).2, fun h => (Bool.and_eq_true_iff.mp h).2,
   fun h => (Bool.or_eq_false_iff.mp h).2⟩

theorem of_le {a b : Abs} (l : a.le b = true) : a.Sub b := by
  simp only [Abs.le, Bool.and_eq_true, Bool.or_eq_true, Bool.not_eq_true', List.all_eq_true] at l
  obtain ⟨⟨⟨⟨⟨⟨l1, l2⟩, l3⟩, l4⟩, -⟩, -⟩, -⟩ := l
  refine ⟨fun v h => ?_, fun v h => l2 v (by simpa [Abs.ownsDocs] using h), fun h => l3.resolve_left (by simp [h]),
    fun h => l4.resolve_right (by simp [h])⟩
  simp only [Abs.owns, Bool.and_eq_true] at h ⊢
  exact ⟨h.1, l1 v (by simpa using h.2)⟩

end Abs.Sub

/-- the condition refinement only edits `suspect` -/
theorem Cond.refine_sub (c : Cond) (a : Abs) : (c.refine a).1.Sub a ∧ (c.refine a).2.Sub a := by
  induction c generalizing a with
  | err => exact ⟨.refl a, .of_eq rfl rfl rfl rfl⟩
  | neg c ih => exact ⟨(ih a).2, (ih a).1⟩
  | both x y ihx ihy => exact ⟨(ihy _).1.trans (ihx a).1, .refl a⟩
  | either x y ihx ihy => exact ⟨.refl a, (ihy _).2.trans (ihx a).2⟩
  | isNil _ | test _ => exact ⟨.refl a, .refl a⟩

/-- "some abstract state on this edge is satisfied" -/
def Sat (cx : Ctx) (t0 : TxnState) (x : Option Abs) (st : St) : Prop := ∃ a, x = some a ∧ Gam cx t0 a st

theorem Sat.joinL {x y : Option Abs} {st : St} (s : Sat cx t0 x st) : Sat cx t0 (joinO x y) st := by
  obtain ⟨a, rfl, g⟩ := s
  cases y with
  | none => exact ⟨a, rfl, g⟩
  | some b => exact ⟨_, rfl, g.sub (.join_left a b)⟩

theorem Sat.joinR {x y : Option Abs} {st : St} (s : Sat cx t0 y st) : Sat cx t0 (joinO x y) st := by
  obtain ⟨b, rfl, g⟩ := s
  cases x with
  | none => exact ⟨b, rfl, g⟩
  | some a => exact ⟨_, rfl, g.sub (.join_right a b)⟩

theorem Sat.le {a : Abs} {x : Option Abs} {st : St} (l : leO a x = true) (s : Sat cx t0 x st) : Gam cx t0 a st := by
  obtain ⟨b, rfl, g⟩ := s
  exact g.sub (.of_le l)

/-! ### rebinding a variable, on both sides -/

theorem Abs.owns_forget {a : Abs} {v w : Var} (h : (a.forget v).owns w = true) : w ≠ v ∧ a.owns w = true := by
  simp only [Abs.owns, Abs.forget, Bool.and_eq_true, List.contains_eq_mem, List.mem_filter, decide_eq_true_eq,
    bne_iff_ne, ne_eq] at *
  exact ⟨h.2.2, h.1, h.2.1⟩

theorem lookup_bind_ne {st : St} {v w : Var} {x : Option Nat} (h : w ≠ v) :
    ((st.bind v x).env.vars.lookup w) = st.env.vars.lookup w := by
  simp only [St.bind, List.lookup, beq_false_of_ne h]

theorem lookup_bind_eq {st : St} {v : Var} {x : Option Nat} :
    ((st.bind v x).env.vars.lookup v) = some x := by
  simp [St.bind]

/-- an owned variable is not `t.catalog`: it is looked up among the bound variables -/
theorem St.var_of_owns {a : Abs} {st : St} {v : Var} (h : a.owns v = true) :
    st.var v = (st.env.vars.lookup v).join := by
  have : v ≠ tcat := by simp [Abs.owns] at h; exact h.1
  simp [St.var, this]

/-- `Inv` and `Gam` travel through the induction together -/
structure Ok (cx : Ctx) (t0 : TxnState) (h0 : Heap) (a : Abs) (st : St) : Prop where
  inv : Inv cx h0 st
  gam : Gam cx t0 a st

namespace Ok
variable {a : Abs} {st : St}

theorem base_le (ok : Ok cx t0 h0 a st) : cx.base ≤ st.heap.size :=
  Nat.le_trans ok.inv.base ok.inv.step.size

theorem sub {b : Abs} (ok : Ok cx t0 h0 a st) (l : b.Sub a) : Ok cx t0 h0 b st := ⟨ok.inv, ok.gam.sub l⟩

/-- both look at the heap, `t`, the variables and the document variables only: `err`, the loop handle and
    the choice sequences may change freely -/
theorem frame {st' : St} (ok : Ok cx t0 h0 a st) (eh : st'.heap = st.heap) (et : st'.txn = st.txn)
    (ev : st'.env.vars = st.env.vars) (ed : st'.env.docs = st.env.docs) : Ok cx t0 h0 a st' := by
  obtain ⟨⟨i1, i2, i3⟩, g1, g2, g3, g4⟩ := ok
  simp only [St.docsOf, ← ed, ← ev, ← eh, ← et] at i2 i3 g1 g2 g3 g4
  exact ⟨⟨i1, i2, i3⟩, g1, g2, g3, g4⟩

theorem heap {h' : Heap} (ok : Ok cx t0 h0 a st) (s : Step cx st.heap h') : Ok cx t0 h0 a { st with heap := h' } :=
  ⟨⟨ok.inv.base, ok.inv.step.trans s, ok.inv.docs⟩,
   fun v hv o ho => (ok.gam.vars v hv o ho).step s, ok.gam.docs, fun h => (ok.gam.tcat h).step s, ok.gam.txn⟩

/-- rebinding `v`: nothing is claimed about `v` any more, the other variables are as before -/
theorem forget {v : Var} {x : Option Nat} (ok : Ok cx t0 h0 a st) : Ok cx t0 h0 (a.forget v) (st.bind v x) := by
  refine ⟨⟨ok.inv.base, ok.inv.step, ok.inv.docs⟩, fun w hw o ho => ?_, ok.gam.docs, ok.gam.tcat, ok.gam.txn⟩
  obtain ⟨hne, hw⟩ := Abs.owns_forget hw
  exact ok.gam.vars w hw o (lookup_bind_ne hne ▸ ho)

theorem bindAlias {v : Var} {x : Option Nat} (ok : Ok cx t0 h0 a st) :
    Ok cx t0 h0 (a.bindAlias v) (st.bind v x) :=
  ok.forget.sub (.of_eq rfl rfl rfl rfl)

theorem bindOwned {v : Var} {x : Nat} (ok : Ok cx t0 h0 a st) (hx : Own cx st.heap x) :
    Ok cx t0 h0 (a.bindOwned v) (st.bind v (some x)) := by
  have f := ok.forget (v := v) (x := some x)
  refine ⟨f.inv, fun w hw o ho => ?_, f.gam.docs, f.gam.tcat, f.gam.txn⟩
  by_cases e : w = v
  · subst e; rw [lookup_bind_eq] at ho; cases ho; exact hx
  · refine f.gam.vars w ?_ o ho
    simp only [Abs.owns, Abs.bindOwned, Bool.and_eq_true, List.contains_eq_mem, List.mem_cons,
      decide_eq_true_eq] at hw ⊢
    exact ⟨hw.1, hw.2.resolve_left e⟩

/-- binding a document variable to documents allocated in this call -/
theorem bindDocs {v : Var} {os : List Nat} (ok : Ok cx t0 h0 a st) (hos : ∀ o ∈ os, cx.base ≤ o) :
    Ok cx t0 h0 { a with ownedDocs := v :: a.ownedDocs } (st.bindDocs v os) := by
  have lk : ∀ w, (st.bindDocs v os).docsOf w = if w = v then os else st.docsOf w := by
    intro w
    by_cases e : w = v
    · simp [St.docsOf, St.bindDocs, e]
    · simp [St.docsOf, St.bindDocs, List.lookup, beq_false_of_ne e, e]
  refine ⟨⟨ok.inv.base, ok.inv.step, fun w o ho => ?_⟩, ok.gam.vars, fun w hw o ho => ?_, ok.gam.tcat, ok.gam.txn⟩
  · rw [lk] at ho
    split at ho
    · exact .inl (hos o ho)
    · exact ok.inv.docs w o ho
  · rw [lk] at ho
    split at ho
    · exact hos o ho
    · rename_i e
      refine ok.gam.docs w ?_ o ho
      simp only [Abs.ownsDocs, List.contains_eq_mem, List.mem_cons, decide_eq_true_eq] at hw ⊢
      exact hw.resolve_left e

/-- an assignment to `t` (`t.catalog = v`, `t.dirty = true`) -/
theorem assign {t' : TxnState} {b : Bool} (ok : Ok cx t0 h0 a st) (hb : b = true → Own cx st.heap t'.catalog) :
    Ok cx t0 h0 { a with assigned := true, tcatOwned := b } { st with txn := t' } :=
  ⟨⟨ok.inv.base, ok.inv.step, ok.inv.docs⟩, ok.gam.vars, ok.gam.docs, hb, nofun⟩

/-- an owned variable holds an object allocated in this call -/
theorem var_own {v : Var} {o : Nat} (ok : Ok cx t0 h0 a st) (h : a.owns v = true) (hv : st.var v = some o) :
    Own cx st.heap o :=
  ok.gam.vars v h o (St.var_of_owns h ▸ hv)

theorem cat_own {c : Var} {o : Nat} (ok : Ok cx t0 h0 a st) (h : a.ownsCat c = true) (hv : st.var c = some o) :
    Own cx st.heap o := by
  simp only [Abs.ownsCat, Bool.or_eq_true, Bool.and_eq_true, beq_iff_eq] at h
  rcases h with h | ⟨rfl, h⟩
  · exact ok.var_own h hv
  · cases (show some st.txn.catalog = some o from hv); exact ok.gam.tcat h

end Ok

theorem St.obj_some {st : St} {v : Var} {o : Nat} {x : Obj} (h : st.obj v = some (o, x)) :
    st.var v = some o ∧ st.heap.get o = some x := by
  simp only [St.obj] at h
  split at h
  · cases h
  · rename_i o' ho'
    cases hg : st.heap.get o' with
    | none => simp [hg] at h
    | some y => simp [hg] at h; obtain ⟨rfl, rfl⟩ := h; exact ⟨ho', hg⟩

theorem Cond.eval_frame (c : Cond) (st : St) :
    (c.eval st).2.heap = st.heap ∧ (c.eval st).2.txn = st.txn ∧ (c.eval st).2.env = st.env := by
  induction c generalizing st with
  | isNil _ | err | test _ => exact ⟨rfl, rfl, rfl⟩
  | neg c ih => exact ih st
  | both a b iha ihb | either a b iha ihb =>
    obtain ⟨a1, a2, a3⟩ := iha st
    obtain ⟨b1, b2, b3⟩ := ihb (a.eval st).2
    exact ⟨b1.trans a1, b2.trans a2, b3.trans a3⟩

theorem Ok.evalCond {a : Abs} {st : St} (c : Cond) (ok : Ok cx t0 h0 a st) : Ok cx t0 h0 a (c.eval st).2 := by
  obtain ⟨e1, e2, e3⟩ := Cond.eval_frame c st
  exact ok.frame e1 e2 (by rw [e3]) (by rw [e3])

/-- induction over the iteration count of a loop: `P` holds at every loop head, `Q` of whatever the loop
    ends with -/
theorem iterate_induct (f : St → St × Sig) (P : St → Prop) (Q : St × Sig → Prop)
    (exit : ∀ st, P st → Q (st, .next))
    (body : ∀ st, P st → match f st with
      | (st', .next) | (st', .cont) => P st'
      | (st', .brk) => Q (st', .next)
      | r => Q r) :
    ∀ n st, P st → Q (iterate f n st) := by
  intro n
  induction n with
  | zero => exact exit
  | succ n ih =>
    intro st p
    have := body st p
    simp only [iterate]
    generalize f st = r at this ⊢
    obtain ⟨st', sg⟩ := r
    cases sg with
    | next | cont => exact ih st' this
    | brk | ret | panic => exact this

theorem newCollH_spec (h : Heap) (hb : cx.base ≤ h.size) :
    Step cx h (newCollH h).1 ∧ Own cx (newCollH h).1 (newCollH h).2 := by
  refine ⟨((Step.alloc cx h _).trans (Step.alloc cx _ _)).trans (Step.alloc cx _ _), ?_⟩
  have := Own.alloc (cx := cx) ((h.alloc (.set [])).1.alloc (.idx [])).1 (.coll h.size [("_id_", h.size + 1)])
    (by simp; omega) (by
      intro s i e; cases e
      refine ⟨hb, fun p hp => ?_⟩
      simp at hp; subst hp; simp; omega)
  simpa [newCollH] using this

theorem cloneCollH_spec (h : Heap) (s : Nat) (idxs : List (String × Nat)) (hb : cx.base ≤ h.size) :
    Step cx h (cloneCollH h s idxs).1 ∧ Own cx (cloneCollH h s idxs).1 (cloneCollH h s idxs).2 := by
  refine ⟨((Step.alloc cx h _).trans (Step.allocs cx _ _)).trans (Step.alloc cx _ _), ?_⟩
  refine Own.alloc _ _ (Nat.le_trans hb ((Step.alloc cx h _).trans (Step.allocs cx _ _)).size) ?_
  intro s' i e; cases e
  exact ⟨hb, fun p hp => Nat.le_trans hb (Nat.le_trans (Step.alloc cx h _).size
    (Heap.allocs_ids _ _ p.2 (List.of_mem_zip hp).2).1)⟩

theorem lookup_mem {α β : Type} [BEq α] [LawfulBEq α] {l : List (α × β)} {k : α} {v : β}
    (h : l.lookup k = some v) : (k, v) ∈ l := by
  induction l with
  | nil => cases h
  | cons p ps ih =>
    simp only [List.lookup] at h
    split at h
    · rename_i e; cases h; rw [eq_of_beq e]; exact List.mem_cons_self ..
    · exact List.mem_cons_of_mem _ (ih h)

theorem applyMutPre_step (h : Heap) {s : Nat} {idxs : List (String × Nat)} (args : List Nat) (mu : Mut)
    (hs : cx.base ≤ s) (hi : ∀ p ∈ idxs, cx.base ≤ p.2) (ha : mu.argVals ≠ [] → ∀ a ∈ args, Writable cx a) :
    Step cx h (applyMutPre h s idxs args mu) := by
  unfold applyMutPre
  extract_lets h1 h2 h3
  have s2 : Step cx h1 h2 := Step.writes _ _ (by
    intro p hp
    obtain ⟨p1, p2⟩ := List.of_mem_zip hp
    obtain ⟨v, hv, e⟩ := List.mem_map.mp p2
    exact ⟨ha (List.ne_nil_of_mem hv) _ p1, e ▸ FreshObj.doc⟩)
  have s3 : Step cx h2 h3 := by
    show Step cx h2 (match mu.list with
      | some l => h2.write s (.set (l.filter (· < h1.size)))
      | none => h2)
    cases mu.list with
    | none => exact Step.refl _ _
    | some l => exact Step.write _ (.inl hs) FreshObj.set
  refine (((Step.allocs cx h _).trans s2).trans s3).trans (Step.writes _ _ ?_)
  intro p hp
  simp only [idxWrites, List.mem_filterMap, Option.map_eq_some_iff] at hp
  obtain ⟨w0, _, q, hq, rfl⟩ := hp
  exact ⟨.inl (hi _ (lookup_mem hq)), FreshObj.idx⟩

/-- a Collection method call on an owned collection only `Step`s the heap, whatever it does -/
theorem applyMut_step (h : Heap) {o s : Nat} {idxs : List (String × Nat)} (args : List Nat) (mu : Mut)
    (w : Own cx h o) (hg : h.get o = some (.coll s idxs)) (ha : mu.argVals ≠ [] → ∀ a ∈ args, Writable cx a) :
    Step cx h (applyMut h o s idxs args mu) := by
  obtain ⟨hs, hi⟩ := w.parts _ hg s idxs rfl
  have s14 := applyMutPre_step (cx := cx) h args mu hs hi ha
  simp only [applyMut]
  generalize applyMutPre h s idxs args mu = h4 at s14 ⊢
  generalize (h.allocs (mu.newDocs.map Obj.doc)).1.size = bound
  have s5 := Step.allocs cx h4 (mu.add.map fun a => Obj.idx (a.2.filter (· < bound)))
  have hids := Heap.allocs_ids h4 (mu.add.map fun a => Obj.idx (a.2.filter (· < bound)))
  generalize h4.allocs (mu.add.map fun a => Obj.idx (a.2.filter (· < bound))) = r5 at s5 hids ⊢
  split
  · exact s14.trans s5
  · refine (s14.trans s5).trans (Step.write _ w.writable ?_)
    intro s' i' e; cases e
    refine ⟨hs, fun p hp => ?_⟩
    rcases List.mem_append.mp hp with hp | hp
    · exact hi p (List.mem_filter.mp hp).1
    · have := (hids p.2 (List.of_mem_zip hp).2).1
      have := s14.size; have := w.lt; have := w.fresh; omega

/-- `…, err = recv.M(arg…)` on an owned receiver: the argument's documents are written only if the method's
    footprint says so, and then they are the caller's (lenient mode) or clones (`argOwned`) -/
theorem Ok.callColl {a : Abs} {st : St} {o s : Nat} {idxs : List (String × Nat)} (ok : Ok cx t0 h0 a st)
    (m : Method) (arg : Option Var) (w : Own cx st.heap o) (hg : st.heap.get o = some (.coll s idxs))
    (hargs : (cx.strict = false ∨ m.footprint.arg = false) ∨ a.argOwned arg = true) :
    Ok cx t0 h0 a (callCollSt st o s idxs m arg) := by
  have sp : Step cx st.heap (applyMut st.heap o s idxs (st.argDocs arg) (st.popMut.1.restrict m.footprint)) := by
    refine applyMut_step st.heap _ _ w hg fun hne p hp => ?_
    cases arg with
    | none => cases hp
    | some x =>
      rcases hargs with (hs | hf) | hx
      · exact (ok.inv.docs x p hp).elim .inl fun h => .inr ⟨hs, h⟩
      · simp [Mut.restrict, hf] at hne
      · exact .inl (ok.gam.docs x hx p hp)
  have ok' : Ok cx t0 h0 a { st.popMut.2 with heap := _ } := (ok.frame (st' := st.popMut.2) rfl rfl rfl rfl).heap sp
  simp only [callCollSt]
  split
  · exact ok'.frame rfl rfl rfl rfl
  · exact ok'

/-- what holds on the edge a statement leaves by -/
def Post (cx : Ctx) (t0 : TxnState) (r : Res) (st' : St) : Sig → Prop
  | .next => Sat cx t0 r.next st'
  | .brk => Sat cx t0 r.brk st'
  | .cont => Sat cx t0 r.cont st'
  | .ret => Sat cx t0 r.ret st' ∧ (st'.env.err = true → st'.txn = t0)
  | .panic => True

/-- `Post` is monotone edge by edge (the `next` edge only matters when that is the edge taken) -/
theorem Post.mono {r r' : Res} {st : St} {sg : Sig} (p : Post cx t0 r st sg)
    (hn : sg = .next → Sat cx t0 r.next st → Sat cx t0 r'.next st)
    (hb : Sat cx t0 r.brk st → Sat cx t0 r'.brk st) (hc : Sat cx t0 r.cont st → Sat cx t0 r'.cont st)
    (hr : Sat cx t0 r.ret st → Sat cx t0 r'.ret st) : Post cx t0 r' st sg := by
  cases sg with
  | next => exact hn rfl p
  | brk => exact hb p
  | cont => exact hc p
  | ret => exact ⟨hr p.1, p.2⟩
  | panic => trivial

/-- a statement that falls through: the state it leaves satisfies the abstract state it yields -/
theorem Ok.next {a : Abs} {st : St} (ok : Ok cx t0 h0 a st) (b : Bool) :
    Inv cx h0 st ∧ Post cx t0 (Res.step b a) st .next :=
  ⟨ok.inv, a, rfl, ok.gam⟩

/-- a statement that returns: with `err` set only if `t` is still unassigned -/
theorem Ok.ret {a : Abs} {st : St} (ok : Ok cx t0 h0 a st) (b : Bool) (h : st.env.err = true → a.assigned = false) :
    Inv cx h0 st ∧ Post cx t0 { ok := b, ret := some a } st .ret :=
  ⟨ok.inv, ⟨a, rfl, ok.gam⟩, fun e => ok.gam.txn (h e)⟩

end Lungo.Own
