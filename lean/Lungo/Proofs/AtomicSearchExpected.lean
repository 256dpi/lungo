/-
  Lungo.Proofs.AtomicSearchExpected — for ANY step list with `tmp ≠ path`: as long as the trace contains no
  successful rename, `path` shows what it showed at the start (this ties `traceUpTo`/`renamed` to the
  interpreter); and the two facts about the search's initial states that `Props/C05` needs to show that the
  search raises no false alarm on the expected protocol.
-/
import Lungo.Proofs.AtomicSearch
import Lungo.Proofs.AtomicWrite
namespace Lungo.AtomicSearch
open Lungo.FS Lungo.AtomicWrite

/-- `path` still has its initial directory entry `v0`, whose inode (if any) still reads `c0` and is not the
    temp file's handle -/
structure Keep (path : Name) (v0 : Option Ino) (c0 : Bytes) (m : M) : Prop where
  vdir : m.fs.vdir path = v0
  lt : ∀ i, v0 = some i → i < m.fs.next
  vol : ∀ i, v0 = some i → (m.fs.ino i).vol = c0
  tmpH : ∀ i h, v0 = some i → m.tmpH = some h → h ≠ i

theorem Keep.load {path v0 c0 m} (h : Keep path v0 c0 m) : load m.fs path = v0.map (fun _ => c0) := by
  unfold FS.load
  rw [h.vdir]
  cases v0 with
  | none => rfl
  | some i => simp only [Option.map_some, h.vol i rfl]

theorem Keep.setErr {path v0 c0 m} (h : Keep path v0 c0 m) (b : Bool) : Keep path v0 c0 { m with err := b } :=
  ⟨h.vdir, h.lt, h.vol, h.tmpH⟩

/-- `Keep` looks only at the entry of `path`, the allocation counter, the inode behind `v0` and the handle -/
theorem Keep.step {path v0 c0} {m m' : M} (h : Keep path v0 c0 m) (hv : m'.fs.vdir path = m.fs.vdir path)
    (hn : m.fs.next ≤ m'.fs.next) (hi : ∀ i, v0 = some i → m'.fs.ino i = m.fs.ino i)
    (ht : m'.tmpH = m.tmpH ∨ m'.tmpH = some m.fs.next) : Keep path v0 c0 m' where
  vdir := hv.trans h.vdir
  lt := fun i e => Nat.lt_of_lt_of_le (h.lt i e) hn
  vol := fun i e => (congrArg Inode.vol (hi i e)).trans (h.vol i e)
  tmpH := fun i t e et => ht.elim (fun e' => h.tmpH i t e (e'.symm.trans et)) fun e' =>
    Option.some.inj (e'.symm.trans et) ▸ Nat.ne_of_gt (h.lt i e)

section
variable {path tmp : Name} (hne : tmp ≠ path)
include hne

/-- one call: unless it is a successful rename, `Keep` is preserved — writes go to the handle's inode, the
    directory operations are about `tmp`, a created inode is fresh -/
theorem exec_keep {v0 c0} (c : Call) (ch : Bytes) (m : M) (ft : Fault) (h : Keep path v0 c0 m)
    (hr : ¬ (c = .renameTmpToPath ∧ (execCall path tmp c ch m ft).2 = none)) :
    Keep path v0 c0 (execCall path tmp c ch m ft).1 := by
  have he := exec_eff (path := path) (tmp := tmp) c ch m ft
  generalize execCall path tmp c ch m ft = r at he hr ⊢
  have other : ∀ x (t : Ino), m.tmpH = some t → ∀ i, v0 = some i → setIno m.fs.ino t x i = m.fs.ino i :=
    fun x t ht i hi => if_neg (h.tmpH i t hi ht).symm
  cases he with
  | fds => exact h.step rfl (Nat.le_refl _) (fun _ _ => rfl) (.inl rfl)
  | write t bs e ht => exact h.step rfl (Nat.le_refl _) (other _ t ht) (.inl rfl)
  | fsync t ht => exact h.step rfl (Nat.le_refl _) (other _ t ht) (.inl rfl)
  | unlink => exact h.step (Dir.set_other _ _ hne.symm) (Nat.le_refl _) (fun _ _ => rfl) (.inl rfl)
  | create =>
    exact h.step (Dir.set_other _ _ hne.symm) (Nat.le_succ _) (fun i hi => if_neg (Nat.ne_of_lt (h.lt i hi))) (.inr rfl)
  | rename => exact absurd ⟨rfl, rfl⟩ hr
  | syncDir => exact h.step rfl (Nat.le_refl _) (fun _ _ => rfl) (.inl rfl)

omit hne in
theorem renamed_cons (e : Ev) (tr : List Ev) :
    renamed (e :: tr) = (decide (e.1 = Call.renameTmpToPath ∧ e.2 = none) || renamed tr) := by
  simp only [renamed, List.any_cons]

theorem cleanup_keep {v0 c0} (f : Faults) (cs : List Call) : ∀ (k : Nat) (m : M) (j : Nat), Keep path v0 c0 m →
    renamed (cleanupTrace path tmp f k cs m j) = false → Keep path v0 c0 (cleanupUpTo path tmp f k cs m j).1 := by
  induction cs with
  | nil => intro k m j h _; cases k <;> exact h
  | cons c cs ih =>
    intro k m j h hr
    cases k with
    | zero => exact h
    | succ k =>
      simp only [cleanupTrace, renamed_cons, Bool.or_eq_false_iff, decide_eq_false_iff_not] at hr
      simp only [cleanupUpTo]
      exact ih k _ (j + 1) (exec_keep hne c [] m (f j) h hr.1) hr.2

theorem run_keep {v0 c0} (f : Faults) (fin : List Call) (is : List Instr) : ∀ (k : Nat) (m : M) (j : Nat), Keep path v0 c0 m →
    renamed (runTrace path tmp f fin k is m j) = false → Keep path v0 c0 (runUpTo path tmp f fin k is m j).1 := by
  induction is with
  | nil =>
    intro k m j h hr
    simp only [runTrace] at hr
    simp only [runUpTo]
    exact cleanup_keep hne f fin k m j h hr
  | cons i is ih =>
    intro k m j h hr
    cases k with
    | zero => exact h
    | succ k =>
      simp only [runTrace, renamed_cons, Bool.or_eq_false_iff, decide_eq_false_iff_not] at hr
      simp only [runUpTo]
      have hk := exec_keep hne i.call i.chunk m (f j) h hr.1
      split
      · rename_i hp
        rw [if_pos hp] at hr
        exact ih k _ (j + 1) hk hr.2
      · rename_i hp
        rw [if_neg hp] at hr
        exact cleanup_keep hne f i.cleanup k _ (j + 1) (hk.setErr true) hr.2

/-- for any step list: while no rename onto `path` has succeeded, `path` shows its initial content -/
theorem load_of_not_renamed {v0 c0} (steps : List Step) (chunks : List Bytes) (f : Faults) (k : Nat) (s : State)
    (h0 : Keep path v0 c0 (initM s)) (hr : renamed (traceUpTo steps path tmp chunks f k s) = false) :
    load (interpUpTo steps path tmp chunks f k s).1.fs path = load s path := by
  have := run_keep hne f (compile chunks steps []).2 (compile chunks steps []).1 k (initM s) 0 h0 hr
  rw [show load s path = load (initM s).fs path from rfl, h0.load]
  exact this.load

end

theorem keep_fsInit (old : Option Bytes) (stale : Bool) :
    Keep 0 (if old.isSome then some 0 else none) (old.getD []) (initM (fsInit old stale)) := by
  refine ⟨rfl, ?_, ?_, ?_⟩
  · intro i hi
    cases old <;> simp at hi
    subst hi; exact (by decide : 0 < 2)
  · intro i hi
    cases old <;> simp at hi
    subst hi
    simp [fsInit, initM, Inode.vol]
  · intro i h _ hh; cases hh

theorem load_fsInit (old : Option Bytes) (stale : Bool) : load (fsInit old stale) 0 = old := by
  cases old <;> simp [load, fsInit, Inode.vol]

end Lungo.AtomicSearch
