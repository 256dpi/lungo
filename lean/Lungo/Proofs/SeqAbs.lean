/-
  Lungo.Proofs.SeqAbs — the abstraction `abs : Catalog → Spec.SeqDB` of property C01 (forget index
  entries, document identities and the oplog) and its commutation with the catalog plumbing
  (`get?`, `set`, `ensureNs`, `appendOplog`) and with the selection `selectDocs`.
-/
import Lungo.Spec.SeqDB
import Lungo.Proofs.IndexMgmt
import Lungo.Proofs.FindLaws
namespace Lungo.SeqRef
open Lungo Lungo.Spec

variable {sch : SchemaEval}

/-- a collection without entries and identities: documents in natural order + index definitions -/
def absC (c : Coll) : SColl := { docs := c.docs.map (·.doc), defs := shape c.indexes }

def absNs (p : Handle × Coll) : Handle × SColl :=
  (p.1, if p.1 == oplogHandle then { docs := [], defs := [] } else absC p.2)

/-- the abstraction: every namespace without entries and identities; of the oplog only whether it is empty -/
def abs (cat : Catalog) : SeqDB :=
  { colls := cat.namespaces.map absNs,
    logged := cat.namespaces.any fun p => p.1 == oplogHandle && !p.2.docs.isEmpty }

theorem absNs_fst (p : Handle × Coll) : (absNs p).1 = p.1 := rfl

theorem absNs_user {h : Handle} (hne : h ≠ oplogHandle) (c : Coll) : absNs (h, c) = (h, absC c) := by
  have : (h == oplogHandle) = false := by simpa using hne
  simp [absNs, this]

theorem absC_new : absC (newColl true) = SColl.new := rfl

theorem abs_init : abs newCatalog = SeqDB.init := by
  simp [abs, newCatalog, SeqDB.init, absNs, newColl]

theorem abs_get? (cat : Catalog) {h : Handle} (hne : h ≠ oplogHandle) :
    (abs cat).get? h = (cat.get? h).map absC := by
  unfold SeqDB.get? Catalog.get? abs
  simp only [List.find?_map]
  have hf : ((fun x : Handle × SColl => x.1 == h) ∘ absNs) = fun p : Handle × Coll => p.1 == h := rfl
  rw [hf]
  cases hfind : cat.namespaces.find? (fun p => p.1 == h) with
  | none => rfl
  | some p =>
    have h1 := List.find?_some hfind
    simp only [beq_iff_eq] at h1
    obtain ⟨a, b⟩ := p
    simp only at h1
    subst h1
    simp [absNs_user hne]

theorem abs_coll (cat : Catalog) {h : Handle} (hne : h ≠ oplogHandle) :
    (abs cat).coll h = absC (ensureNs cat h) := by
  unfold SeqDB.coll ensureNs
  rw [abs_get? cat hne]
  cases cat.get? h <;> rfl

theorem abs_any (cat : Catalog) (h : Handle) :
    (abs cat).colls.any (·.1 == h) = cat.namespaces.any (·.1 == h) := by
  simp only [abs, List.any_map]
  rfl

theorem abs_set (cat : Catalog) {h : Handle} (coll : Coll) (hne : h ≠ oplogHandle) :
    abs (cat.set h coll) = (abs cat).put h (absC coll) := by
  have hb : (h == oplogHandle) = false := by simpa using hne
  unfold SeqDB.put
  rw [abs_any]
  unfold Catalog.set
  split
  · simp only [abs, List.map_map, List.any_map]
    congr 1
    · apply List.map_congr_left
      rintro ⟨a, b⟩ _
      simp only [Function.comp]
      by_cases e : a == h
      · simp only [e, ↓reduceIte]
        have : a = h := by simpa using e
        subst this
        simp [absNs, hb]
      · simp [e, absNs]
    · congr 1
      funext p
      obtain ⟨a, b⟩ := p
      simp only [Function.comp]
      by_cases e : a == h
      · have : a = h := by simpa using e
        subst this
        simp [hb]
      · simp [e]
  · simp only [abs, List.map_append, List.map_cons, List.map_nil, List.any_append, List.any_cons,
      List.any_nil, hb, Bool.false_and, Bool.or_false, absNs_user hne]

/-- the abstraction does not look at the clock -/
theorem abs_clock (cat : Catalog) (k : Nat) : abs { cat with clock := k } = abs cat := rfl

/-! Appending an event to the oplog sets the bit `logged` and nothing else. -/

/-- the oplog namespace exists (part of `Inv`) -/
abbrev HasOplog (cat : Catalog) : Prop := ∃ c, (oplogHandle, c) ∈ cat.namespaces

theorem abs_appendOplog {cat : Catalog} (ho : HasOplog cat) (nu : Nu) (h : Handle)
    (op : String) (doc : Option Doc) (ch : Option (List (String × V))) :
    abs (appendOplog cat nu h op doc ch).1 = (abs cat).log ∧ HasOplog (appendOplog cat nu h op doc ch).1 := by
  obtain ⟨c0, hc0⟩ := ho
  have hany : cat.namespaces.any (·.1 == oplogHandle) = true :=
    List.any_eq_true.mpr ⟨(oplogHandle, c0), hc0, by simp⟩
  refine ⟨?_, set_keeps ⟨c0, hc0⟩⟩
  -- the oplog entry is rewritten, every other entry stays
  rw [appendOplog, abs_clock]
  unfold Catalog.set
  simp only [hany, ↓reduceIte, abs, SeqDB.log, List.map_map, List.any_map]
  congr 1
  · apply List.map_congr_left
    rintro ⟨a, b⟩ _
    simp only [Function.comp]
    by_cases e : a == oplogHandle
    · simp [e, absNs]
    · simp [e]
  · exact List.any_eq_true.mpr ⟨(oplogHandle, c0), hc0, by simp⟩

/-- a write: the collection is put back under its handle and an event is logged -/
theorem abs_set_append {cat : Catalog} (ho : HasOplog cat) {h : Handle} (hne : h ≠ oplogHandle) (coll : Coll)
    (nu : Nu) (h' : Handle) (op : String) (doc : Option Doc) (ch : Option (List (String × V))) :
    abs (appendOplog (cat.set h coll) nu h' op doc ch).1 = ((abs cat).put h (absC coll)).log := by
  rw [(abs_appendOplog (set_keeps ho) nu h' op doc ch).1, abs_set cat coll hne]

/-- a fold of oplog appends only sets the bit `logged` (and leaves the generated ids alone) -/
theorem abs_fold_append {α : Type} (F : Catalog × Nu → α → Catalog × Nu)
    (hF : ∀ cn a, ∃ h op doc ch, F cn a = appendOplog cn.1 cn.2 h op doc ch) :
    ∀ (l : List α) (cn : Catalog × Nu), HasOplog cn.1 →
      abs (l.foldl F cn).1 = (if l.isEmpty then abs cn.1 else (abs cn.1).log) ∧
      HasOplog (l.foldl F cn).1 ∧ (l.foldl F cn).2.oids = cn.2.oids
  | [], cn, ho => ⟨rfl, ho, rfl⟩
  | a :: r, cn, ho => by
    obtain ⟨h, op, doc, ch, e⟩ := hF cn a
    obtain ⟨h1, h2⟩ := abs_appendOplog ho cn.2 h op doc ch
    rw [← e] at h1 h2
    obtain ⟨h3, h4, h5⟩ := abs_fold_append F hF r (F cn a) h2
    refine ⟨?_, h4, by rw [List.foldl_cons, h5, e]; rfl⟩
    rw [List.foldl_cons, h3, h1]
    split <;> rfl

theorem log_log (db : SeqDB) : db.log.log = db.log := rfl

theorem put_log (db : SeqDB) (h : Handle) (c : SColl) : (db.put h c).log = db.log.put h c := by
  unfold SeqDB.put SeqDB.log
  simp only
  split <;> rfl

theorem sortBy_abs (sort : Option Doc) (l : List SDoc) :
    (sortBy sort l).map (List.map (·.doc)) =
      (sortCols sort).map (fun cols => sortWith cols (l.map (·.doc))) := by
  cases sort with
  | none => rfl
  | some s =>
    simp only [sortBy, sortCols]
    split
    · rfl
    · cases columns s with
      | error e => rfl
      | ok cols =>
        simp only [Except.map, sortWith]
        rw [sortSDocs_map_doc]

theorem filterPlain_noerr (q : Doc) : ∀ (l : List SDoc), noMatchError sch q l →
    filterPlain sch q (l.map (·.doc)) = .ok ((l.filter (matchesB sch q)).map (·.doc))
  | [], _ => rfl
  | sd :: r, h => by
    have ih := filterPlain_noerr q r (fun x hx => h x (List.mem_cons_of_mem _ hx))
    cases hm : Match sch sd.doc q with
    | error e => exact absurd hm (h sd (by simp) e)
    | ok b =>
      simp only [List.map_cons, filterPlain, ih, List.filter_cons, matchesB, hm]
      cases b <;> simp

theorem window_map {α β} (f : α → β) (skip limit : Int) (l : List α) :
    (windowOf skip limit l).map f = window skip limit (l.map f) := by
  simp only [windowOf, window]
  split <;> simp [List.map_take, List.map_drop]

/-- **selection commutes with the abstraction**: the selected stored documents, without their
    identities, are the Spec's selection — same error otherwise. Needs the C12 order laws (`DocsOk`)
    for "filter then sort = sort then filter", and a filter that evaluates on every stored document. -/
theorem select_abs (c : Coll) (q : Doc) (sort : Option Doc) (skip limit : Int)
    (ok : DocsOk c.docs) (hne : noMatchError sch q c.docs) :
    (selectDocs sch c q sort skip limit).map (List.map (·.doc)) =
      select sch (absC c).docs q sort skip limit := by
  unfold select
  by_cases hs : skip < 0
  · simp [selectDocs, hs, Except.map]
  · simp only [hs, ↓reduceIte]
    have hs' : 0 ≤ skip := by omega
    have hsb := sortBy_abs sort c.docs
    cases hL : sortBy sort c.docs with
    | error e =>
      rw [hL] at hsb
      have hm : selectDocs sch c q sort skip limit = .error e := by
        have : ¬ skip < 0 := hs
        rw [selectDocs_eq, sortedList_eq, hL]; simp [this]
      rw [hm]
      cases hc : sortCols sort with
      | error e' => rw [hc] at hsb; simp only [Except.map] at hsb ⊢; cases hsb; rfl
      | ok cols => rw [hc] at hsb; simp [Except.map] at hsb
    | ok L =>
      rw [hL] at hsb
      have hne' := noMatchError_perm sch q (sortBy_perm sort c.docs L hL) hne
      rw [selectDocs_noerr sch c q sort skip limit hs' L (by rw [sortedList_eq]; exact hL) hne']
      cases hc : sortCols sort with
      | error e' => rw [hc] at hsb; simp [Except.map] at hsb
      | ok cols =>
        rw [hc] at hsb
        simp only [Except.map, Except.ok.injEq] at hsb
        simp only [absC, filterPlain_noerr q c.docs hne, Except.map, window_map]
        have h2 := sortBy_filter sort c.docs L ok (matchesB sch q) hL
        have h3 := sortBy_abs sort (c.docs.filter (matchesB sch q))
        rw [h2, hc] at h3
        simp only [Except.map, Except.ok.injEq] at h3
        rw [h3]

end Lungo.SeqRef
