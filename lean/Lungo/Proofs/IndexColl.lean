/-
  Lungo.Proofs.IndexColl — collection level of C15 / C07: how `addToIndexes`, `removeFromIndexes`,
  `foldIdx`, `selectDocs`, `replaceDoc` and the `Coll.*` methods act on the document set and on every
  index. Every write is "these documents leave all indexes, then those enter" (`foldIdx` of
  `removeFromIndexes` / `addToIndexes`, themselves instances of `mapIdx`): the loop of `Coll.replace`
  and `Index.build` are rewritten to that form (`replace_upd_of_removed`, `build_eq_fold`). What a
  successful method returns comes from Proofs/CollEq (`Coll.X_ok`); `Coherent` / `UniqueOk` /
  `NamesDistinct` are read off that.
-/
import Lungo.Proofs.IndexLaws
import Lungo.Proofs.CollEq
import Lungo.Proofs.FindLaws
namespace Lungo

variable {sch : SchemaEval}

theorem ids_inj {docs : List SDoc} (h : IdsDistinct docs) :
    ∀ x ∈ docs, ∀ y ∈ docs, x.id = y.id → x = y :=
  List.Pairwise.forall_of_forall_of_flip (R := fun x y : SDoc => x.id = y.id → x = y) (fun _ _ _ => rfl)
    ((List.pairwise_map.mp h).imp fun hne e => absurd e hne)
    ((List.pairwise_map.mp h).imp fun hne e => absurd e.symm hne)

/-- addressing a stored document by its identity is addressing it by any `f` that separates the stored
    documents (its value, its `_id`) -/
theorem id_eq_iff {β} {f : SDoc → β} {docs : List SDoc} (hd : IdsDistinct docs)
    (hf : ∀ x ∈ docs, ∀ y ∈ docs, f x = f y → x = y) {x y : SDoc} (hx : x ∈ docs) (hy : y ∈ docs) :
    x.id = y.id ↔ f x = f y :=
  ⟨fun e => by rw [ids_inj hd x hx y hy e], fun e => by rw [hf x hx y hy e]⟩

theorem IdsDistinct.append_fresh {docs : List SDoc} {sd : SDoc} (h : IdsDistinct docs)
    (hf : ∀ x ∈ docs, x.id ≠ sd.id) : IdsDistinct (docs ++ [sd]) := by
  unfold IdsDistinct at *
  rw [List.map_append, List.nodup_append]
  refine ⟨h, by simp, fun a ha b hb => ?_⟩
  simp only [List.map_cons, List.map_nil, List.mem_singleton] at hb
  obtain ⟨x, hx, rfl⟩ := List.mem_map.mp ha
  exact hb ▸ hf x hx

theorem IdsDistinct.sublist {l docs : List SDoc} (h : IdsDistinct docs) (hs : l.Sublist docs) :
    IdsDistinct l :=
  (hs.map _).nodup h

theorem IdsBelow.fresh {docs : List SDoc} {n : Nat} (h : IdsBelow docs n) :
    ∀ x ∈ docs, x.id ≠ n := fun x hx e => by have := h x hx; omega

theorem IdsBelow.mono {docs : List SDoc} {n m : Nat} (h : IdsBelow docs n) (hnm : n ≤ m) :
    IdsBelow docs m := fun x hx => Nat.lt_of_lt_of_le (h x hx) hnm

theorem IdsBelow.append_fresh {docs : List SDoc} {n : Nat} {d : Doc} (h : IdsBelow docs n) :
    IdsBelow (docs ++ [⟨n, d⟩]) (n + 1) := by
  intro x hx
  rcases List.mem_append.mp hx with hx | hx
  · exact Nat.lt_succ_of_lt (h x hx)
  · rw [List.mem_singleton.mp hx]; exact Nat.lt_succ_self n

theorem idInj_of_distinct {docs : List SDoc} (h : IdsDistinct docs) : IdInj (· ∈ docs) :=
  fun x y hx hy e => ids_inj h x hx y hy e

def AllCoherent (sch : SchemaEval) (S : SDoc → Prop) (idx : List (String × Index)) : Prop :=
  ∀ n i, (n, i) ∈ idx → IndexCoherent sch S i

def AllUnique (sch : SchemaEval) (S : SDoc → Prop) (idx : List (String × Index)) : Prop :=
  ∀ n i, (n, i) ∈ idx → IndexUnique sch S i

/-- names and configurations of the indexes (what index management looks at) -/
def shape (idx : List (String × Index)) : List (String × IndexConfig) :=
  idx.map fun p => (p.1, p.2.config)

theorem lookup_shape : ∀ (idx : List (String × Index)) (n : String),
    (shape idx).lookup n = (idx.lookup n).map (·.config)
  | [], _ => rfl
  | (m, i) :: r, n => by
    simp only [shape, List.map_cons, List.lookup]
    cases n == m with
    | true => rfl
    | false => exact lookup_shape r n

theorem shape_any (idx : List (String × Index)) (p : String × IndexConfig → Bool) :
    (shape idx).any p = idx.any fun x => p (x.1, x.2.config) := by
  simp only [shape, List.any_map]; rfl

theorem AllCoherent.congr {S S' : SDoc → Prop} {idx} (h : AllCoherent sch S idx)
    (e : ∀ x, S' x ↔ S x) : AllCoherent sch S' idx := fun n i hm => (h n i hm).congr e

theorem AllUnique.mono {S S' : SDoc → Prop} {idx} (h : AllUnique sch S idx)
    (hs : ∀ x, S' x → S x) : AllUnique sch S' idx := fun n i hm => (h n i hm).mono hs rfl rfl

theorem AllUnique.congr {S S' : SDoc → Prop} {idx} (h : AllUnique sch S idx)
    (e : ∀ x, S' x ↔ S x) : AllUnique sch S' idx := h.mono fun x hx => (e x).mp hx

/-! `addToIndexes`, `removeFromIndexes` and the loop of `Coll.replace` are one traversal.
  All three apply a partial function to the index of every entry, keep the names and abort at the
  first error; what is needed about them is proved once, for `mapIdx`. -/

def mapIdx (f : Index → Res Index) : List (String × Index) → Res (List (String × Index))
  | [] => .ok []
  | (n, i) :: r =>
    match f i with
    | .error e => .error e
    | .ok i' =>
      match mapIdx f r with
      | .error e => .error e
      | .ok r' => .ok ((n, i') :: r')

/-- `Index.add` as a collection uses it: a refusal is the uniqueness error -/
def addOne (sch : SchemaEval) (sd : SDoc) (i : Index) : Res Index :=
  match i.add sch sd with
  | .error e => .error e
  | .ok (_, false) => .error .dup
  | .ok (i', true) => .ok i'

/-- `Index.remove` as a collection uses it: a refusal is an internal error -/
def removeOne (sch : SchemaEval) (sd : SDoc) (i : Index) : Res Index :=
  match i.remove sch sd with
  | .error e => .error e
  | .ok (_, false) => .error .err
  | .ok (i', true) => .ok i'

theorem addOne_ok {sd : SDoc} {i i' : Index} : addOne sch sd i = .ok i' ↔ i.add sch sd = .ok (i', true) := by
  unfold addOne
  split <;> simp_all

theorem removeOne_ok {sd : SDoc} {i i' : Index} :
    removeOne sch sd i = .ok i' ↔ i.remove sch sd = .ok (i', true) := by
  unfold removeOne
  split <;> simp_all

theorem addToIndexes_eq (sd : SDoc) : ∀ idx, addToIndexes sch sd idx = mapIdx (addOne sch sd) idx
  | [] => rfl
  | (n, i) :: r => by
    rw [addToIndexes, mapIdx, addToIndexes_eq sd r, addOne]
    rcases i.add sch sd with e | ⟨i', _ | _⟩ <;> rfl

theorem removeFromIndexes_eq (sd : SDoc) :
    ∀ idx, removeFromIndexes sch sd idx = mapIdx (removeOne sch sd) idx
  | [] => rfl
  | (n, i) :: r => by
    rw [removeFromIndexes, mapIdx, removeFromIndexes_eq sd r, removeOne]
    rcases i.remove sch sd with e | ⟨i', _ | _⟩ <;> rfl

/-- once the old document is out of every index, the loop of `Coll.replace` is the addition of the new one -/
theorem replace_upd_of_removed {old nw : SDoc} : ∀ {idx idx1 : List (String × Index)},
    removeFromIndexes sch old idx = .ok idx1 → Coll.replace.upd sch old nw idx = addToIndexes sch nw idx1
  | [], _, h => by cases h; rfl
  | (n, i) :: r, _, h => by
    rw [removeFromIndexes] at h
    rw [Coll.replace.upd]
    split at h
    · cases h
    · cases h
    · split at h
      · cases h
      · rename_i hr
        cases h
        rw [addToIndexes, replace_upd_of_removed hr]

theorem mapIdx_mem {f : Index → Res Index} : ∀ {idx idx' : List (String × Index)},
    mapIdx f idx = .ok idx' → ∀ n i', (n, i') ∈ idx' → ∃ i, (n, i) ∈ idx ∧ f i = .ok i'
  | [], idx', h, n, i', hm => by
    simp only [mapIdx, Except.ok.injEq] at h; subst h; cases hm
  | (m, j) :: r, idx', h, n, i', hm => by
    rw [mapIdx] at h
    split at h
    · cases h
    · rename_i j' hj
      split at h
      · cases h
      · rename_i r' hr
        simp only [Except.ok.injEq] at h; subst h
        rcases List.mem_cons.mp hm with e | hm
        · cases e; exact ⟨j, by simp, hj⟩
        · obtain ⟨i, hi, ha⟩ := mapIdx_mem hr n i' hm
          exact ⟨i, List.mem_cons_of_mem _ hi, ha⟩

theorem mapIdx_ok_at {f : Index → Res Index} : ∀ {idx idx' : List (String × Index)},
    mapIdx f idx = .ok idx' → ∀ n i, (n, i) ∈ idx → ∃ i', f i = .ok i'
  | (m, j) :: r, idx', h, n, i, hm => by
    rw [mapIdx] at h
    split at h
    · cases h
    · rename_i j' hj
      split at h
      · cases h
      · rename_i r' hr
        rcases List.mem_cons.mp hm with e | hm
        · cases e; exact ⟨j', hj⟩
        · exact mapIdx_ok_at hr n i hm

theorem mapIdx_shape {f : Index → Res Index} (hf : ∀ i i', f i = .ok i' → i'.config = i.config) :
    ∀ {idx idx' : List (String × Index)}, mapIdx f idx = .ok idx' → shape idx' = shape idx
  | [], idx', h => by
    simp only [mapIdx, Except.ok.injEq] at h; subst h; rfl
  | (m, j) :: r, idx', h => by
    rw [mapIdx] at h
    split at h
    · cases h
    · rename_i j' hj
      split at h
      · cases h
      · rename_i r' hr
        simp only [Except.ok.injEq] at h; subst h
        simp only [shape, List.map_cons, List.cons.injEq, Prod.mk.injEq, true_and]
        exact ⟨hf j j' hj, mapIdx_shape hf hr⟩

theorem mapIdx_ok {f : Index → Res Index} : ∀ {idx : List (String × Index)},
    (∀ n i, (n, i) ∈ idx → ∃ i', f i = .ok i') → ∃ idx', mapIdx f idx = .ok idx'
  | [], _ => ⟨[], rfl⟩
  | (m, j) :: r, h => by
    obtain ⟨j', hj⟩ := h m j (by simp)
    obtain ⟨r', hr⟩ := mapIdx_ok (idx := r) fun n i hm => h n i (List.mem_cons_of_mem _ hm)
    exact ⟨(m, j') :: r', by rw [mapIdx]; simp only [hj, hr]⟩

theorem mapIdx_error {f : Index → Res Index} {e : Err} : ∀ {idx : List (String × Index)},
    mapIdx f idx = .error e → ∃ n i, (n, i) ∈ idx ∧ f i = .error e
  | [], h => by cases h
  | (m, j) :: r, h => by
    rw [mapIdx] at h
    split at h
    · rename_i hj
      exact ⟨m, j, by simp, hj.trans (by cases h; rfl)⟩
    · split at h
      · rename_i hr
        obtain ⟨n, i, hm, hi⟩ := mapIdx_error (idx := r) (hr.trans h)
        exact ⟨n, i, List.mem_cons_of_mem _ hm, hi⟩
      · cases h

theorem addToIndexes_mem {sd : SDoc} {idx idx' : List (String × Index)}
    (h : addToIndexes sch sd idx = .ok idx') (n : String) (i' : Index) (hm : (n, i') ∈ idx') :
    ∃ i, (n, i) ∈ idx ∧ i.add sch sd = .ok (i', true) := by
  rw [addToIndexes_eq] at h
  obtain ⟨i, hi, hf⟩ := mapIdx_mem h n i' hm
  exact ⟨i, hi, addOne_ok.mp hf⟩

theorem addToIndexes_shape {sd : SDoc} {idx idx' : List (String × Index)}
    (h : addToIndexes sch sd idx = .ok idx') : shape idx' = shape idx :=
  mapIdx_shape (fun _ _ hf => (add_shape (addOne_ok.mp hf)).1) (addToIndexes_eq sd idx ▸ h)

theorem removeFromIndexes_mem {sd : SDoc} {idx idx' : List (String × Index)}
    (h : removeFromIndexes sch sd idx = .ok idx') (n : String) (i' : Index) (hm : (n, i') ∈ idx') :
    ∃ i, (n, i) ∈ idx ∧ i.remove sch sd = .ok (i', true) := by
  rw [removeFromIndexes_eq] at h
  obtain ⟨i, hi, hf⟩ := mapIdx_mem h n i' hm
  exact ⟨i, hi, removeOne_ok.mp hf⟩

theorem removeFromIndexes_shape {sd : SDoc} {idx idx' : List (String × Index)}
    (h : removeFromIndexes sch sd idx = .ok idx') : shape idx' = shape idx :=
  mapIdx_shape (fun _ _ hf => (remove_shape (removeOne_ok.mp hf)).1) (removeFromIndexes_eq sd idx ▸ h)

theorem removeFromIndexes_ok {S : SDoc → Prop} {sd : SDoc} (hs : S sd) {idx : List (String × Index)}
    (h : AllCoherent sch S idx) : ∃ idx', removeFromIndexes sch sd idx = .ok idx' := by
  rw [removeFromIndexes_eq]
  refine mapIdx_ok fun n i hm => ?_
  obtain ⟨i', hi⟩ := (h n i hm).remove_ok hs
  exact ⟨i', removeOne_ok.mpr hi⟩

theorem AllCoherent.add {S : SDoc → Prop} {idx idx'} {sd : SDoc} (h : AllCoherent sch S idx)
    (ha : addToIndexes sch sd idx = .ok idx') : AllCoherent sch (fun x => S x ∨ x = sd) idx' := by
  intro n i' hm
  obtain ⟨i, hi, hadd⟩ := addToIndexes_mem ha n i' hm
  exact (h n i hi).add hadd

theorem AllCoherent.remove {S : SDoc → Prop} {idx idx'} {sd : SDoc} (h : AllCoherent sch S idx)
    (hinj : ∀ x, S x → x.id = sd.id → x = sd)
    (hr : removeFromIndexes sch sd idx = .ok idx') :
    AllCoherent sch (fun x => S x ∧ x.id ≠ sd.id) idx' := by
  intro n i' hm
  obtain ⟨i, hi, hrem⟩ := removeFromIndexes_mem hr n i' hm
  exact (h n i hi).remove hinj hrem

theorem AllUnique.add {S : SDoc → Prop} {idx idx'} {sd : SDoc} (hc : AllCoherent sch S idx)
    (hinj : IdInj S) (hu : AllUnique sch (fun x => S x ∧ DocOk x.doc) idx)
    (ha : addToIndexes sch sd idx = .ok idx') :
    AllUnique sch (fun x => (S x ∨ x = sd) ∧ DocOk x.doc) idx' := by
  intro n i' hm
  obtain ⟨i, hi, hadd⟩ := addToIndexes_mem ha n i' hm
  exact (hu n i hi).add (hc n i hi) hinj hadd

theorem AllUnique.remove {S S' : SDoc → Prop} {idx idx'} {sd : SDoc} (hu : AllUnique sch S idx)
    (hs : ∀ x, S' x → S x) (hr : removeFromIndexes sch sd idx = .ok idx') :
    AllUnique sch S' idx' := by
  intro n i' hm
  obtain ⟨i, hi, hrem⟩ := removeFromIndexes_mem hr n i' hm
  obtain ⟨h1, h2⟩ := remove_shape hrem
  exact (hu n i hi).mono hs h1 h2

theorem foldIdx_nil {f} {idx idx' : List (String × Index)} : foldIdx f idx [] = .ok idx' ↔ idx' = idx := by
  simp only [foldIdx, Except.ok.injEq, eq_comm]

theorem foldIdx_cons {f} {sd : SDoc} {r : List SDoc} {idx idx' : List (String × Index)} :
    foldIdx f idx (sd :: r) = .ok idx' ↔ ∃ idx1, f idx sd = .ok idx1 ∧ foldIdx f idx1 r = .ok idx' := by
  rw [foldIdx]
  split <;> simp_all

theorem foldIdx_shape {f} (hf : ∀ idx sd idx1, f idx sd = .ok idx1 → shape idx1 = shape idx) :
    ∀ {list : List SDoc} {idx idx' : List (String × Index)}, foldIdx f idx list = .ok idx' → shape idx' = shape idx
  | [], _, _, h => by rw [foldIdx_nil.mp h]
  | _ :: _, _, _, h => by
    obtain ⟨idx1, h1, h⟩ := foldIdx_cons.mp h
    rw [foldIdx_shape hf h, hf _ _ _ h1]

theorem foldIdx_remove_shape {list : List SDoc} {idx idx' : List (String × Index)}
    (h : foldIdx (fun idx sd => removeFromIndexes sch sd idx) idx list = .ok idx') : shape idx' = shape idx :=
  foldIdx_shape (fun _ _ _ => removeFromIndexes_shape) h

theorem foldIdx_add_shape {list : List SDoc} {idx idx' : List (String × Index)}
    (h : foldIdx (fun idx sd => addToIndexes sch sd idx) idx list = .ok idx') : shape idx' = shape idx :=
  foldIdx_shape (fun _ _ _ => addToIndexes_shape) h

theorem foldIdx_remove_coherent : ∀ {list : List SDoc} {S : SDoc → Prop} {idx idx' : List (String × Index)},
    AllCoherent sch S idx → (∀ o ∈ list, ∀ x, S x → x.id = o.id → x = o) →
    foldIdx (fun idx sd => removeFromIndexes sch sd idx) idx list = .ok idx' →
    AllCoherent sch (fun x => S x ∧ ∀ o ∈ list, x.id ≠ o.id) idx'
  | [], S, idx, idx', hc, _, h => by
    rw [foldIdx_nil.mp h]; exact hc.congr (fun x => by simp)
  | sd :: r, S, idx, idx', hc, hinj, h => by
    obtain ⟨idx1, h1, h⟩ := foldIdx_cons.mp h
    exact (foldIdx_remove_coherent (hc.remove (hinj sd (by simp)) h1)
      (fun o ho x hx e => hinj o (List.mem_cons_of_mem _ ho) x hx.1 e) h).congr
      (fun x => by simp only [List.mem_cons, forall_eq_or_imp, and_assoc])

theorem foldIdx_remove_unique : ∀ {list : List SDoc} {S S' : SDoc → Prop} {idx idx' : List (String × Index)},
    AllUnique sch S idx → (∀ x, S' x → S x) →
    foldIdx (fun idx sd => removeFromIndexes sch sd idx) idx list = .ok idx' →
    AllUnique sch S' idx'
  | [], S, S', idx, idx', hu, hs, h => by
    rw [foldIdx_nil.mp h]; exact hu.mono hs
  | sd :: r, S, S', idx, idx', hu, hs, h => by
    obtain ⟨idx1, h1, h⟩ := foldIdx_cons.mp h
    exact foldIdx_remove_unique (hu.remove (fun x hx => hx) h1) hs h

theorem foldIdx_remove_ok : ∀ {list : List SDoc} {S : SDoc → Prop} {idx : List (String × Index)},
    AllCoherent sch S idx → (∀ o ∈ list, S o) → (list.map (·.id)).Nodup →
    (∀ o ∈ list, ∀ x, S x → x.id = o.id → x = o) →
    ∃ idx', foldIdx (fun idx sd => removeFromIndexes sch sd idx) idx list = .ok idx'
  | [], _, idx, _, _, _, _ => ⟨idx, rfl⟩
  | sd :: r, S, idx, hc, hs, hnd, hinj => by
    obtain ⟨idx1, h1⟩ := removeFromIndexes_ok (hs sd (by simp)) hc
    rw [List.map_cons, List.nodup_cons] at hnd
    obtain ⟨idx', h'⟩ := foldIdx_remove_ok (hc.remove (hinj sd (by simp)) h1)
      (fun o ho => ⟨hs o (List.mem_cons_of_mem _ ho), fun e =>
        hnd.1 (List.mem_map.mpr ⟨o, ho, e⟩)⟩) hnd.2
      (fun o ho x hx e => hinj o (List.mem_cons_of_mem _ ho) x hx.1 e)
    exact ⟨idx', foldIdx_cons.mpr ⟨idx1, h1, h'⟩⟩

theorem foldIdx_add_coherent : ∀ {list : List SDoc} {S : SDoc → Prop} {idx idx' : List (String × Index)},
    AllCoherent sch S idx →
    foldIdx (fun idx sd => addToIndexes sch sd idx) idx list = .ok idx' →
    AllCoherent sch (fun x => S x ∨ x ∈ list) idx'
  | [], S, idx, idx', hc, h => by
    rw [foldIdx_nil.mp h]; exact hc.congr (fun x => by simp)
  | sd :: r, S, idx, idx', hc, h => by
    obtain ⟨idx1, h1, h⟩ := foldIdx_cons.mp h
    exact (foldIdx_add_coherent (hc.add h1) h).congr (fun x => by simp only [List.mem_cons, or_assoc])

/-- the documents of `list` are new to `S` and to each other -/
def FreshFor (S : SDoc → Prop) (list : List SDoc) : Prop :=
  (∀ nd ∈ list, ∀ x, S x → x.id ≠ nd.id) ∧ (list.map (·.id)).Nodup

theorem FreshFor.mono {S S' : SDoc → Prop} {list : List SDoc} (h : FreshFor S list) (hs : ∀ x, S' x → S x) :
    FreshFor S' list := ⟨fun nd hnd x hx => h.1 nd hnd x (hs x hx), h.2⟩

/-- once the first document has joined `S`, the rest are still new -/
theorem FreshFor.tail {S : SDoc → Prop} {sd : SDoc} {r : List SDoc} (h : FreshFor S (sd :: r)) :
    FreshFor (fun x => S x ∨ x = sd) r := by
  obtain ⟨hf, hnd⟩ := h
  rw [List.map_cons, List.nodup_cons] at hnd
  refine ⟨fun nd hnd' x hx => ?_, hnd.2⟩
  rcases hx with hx | rfl
  · exact hf nd (List.mem_cons_of_mem _ hnd') x hx
  · exact fun e => hnd.1 (List.mem_map.mpr ⟨nd, hnd', e.symm⟩)

theorem foldIdx_add_unique : ∀ {list : List SDoc} {S : SDoc → Prop} {idx idx' : List (String × Index)},
    AllCoherent sch S idx → IdInj S → FreshFor S list → AllUnique sch (fun x => S x ∧ DocOk x.doc) idx →
    foldIdx (fun idx sd => addToIndexes sch sd idx) idx list = .ok idx' →
    AllUnique sch (fun x => (S x ∨ x ∈ list) ∧ DocOk x.doc) idx'
  | [], S, idx, idx', _, _, _, hu, h => by
    rw [foldIdx_nil.mp h]; exact hu.congr (fun x => by simp)
  | sd :: r, S, idx, idx', hc, hinj, hfr, hu, h => by
    obtain ⟨idx1, h1, h⟩ := foldIdx_cons.mp h
    exact (foldIdx_add_unique (hc.add h1) (hinj.insert (hfr.1 sd (by simp))) hfr.tail
      (hu.add hc hinj h1) h).congr (fun x => by simp only [List.mem_cons, or_assoc])

theorem selectDocs_distinct {c : Coll} {q : Doc} {sort : Option Doc} {skip limit : Int} {l : List SDoc}
    (h : selectDocs sch c q sort skip limit = .ok l) (hd : IdsDistinct c.docs) : IdsDistinct l := by
  obtain ⟨l0, hp, hs⟩ := selectDocs_spec h
  exact IdsDistinct.sublist ((hp.map _).nodup_iff.mpr hd) hs

theorem selectDocs_inj {c : Coll} {q : Doc} {sort : Option Doc} {skip limit : Int} {l : List SDoc}
    (h : selectDocs sch c q sort skip limit = .ok l) (hd : IdsDistinct c.docs) :
    ∀ o ∈ l, ∀ x, x ∈ c.docs → x.id = o.id → x = o :=
  fun o ho x hx e => ids_inj hd x hx o (selectDocs_mem h o ho) e

theorem mem_replaceDoc {oid : Nat} {nw x : SDoc} {docs : List SDoc} :
    x ∈ replaceDoc docs oid nw ↔ (x ∈ docs ∧ x.id ≠ oid) ∨ (x = nw ∧ ∃ y ∈ docs, y.id = oid) := by
  simp only [replaceDoc, List.mem_map]
  constructor
  · rintro ⟨y, hy, rfl⟩
    by_cases e : y.id = oid
    · exact .inr ⟨by simp [e], y, hy, e⟩
    · exact .inl (by simpa [e] using hy)
  · rintro (⟨hx, hne⟩ | ⟨rfl, y, hy, e⟩)
    · exact ⟨x, hx, by simp [hne]⟩
    · exact ⟨y, hy, by simp [e]⟩

theorem IdsDistinct.replaceDoc {oid : Nat} {nw : SDoc} {docs : List SDoc} (h : IdsDistinct docs)
    (hf : ∀ x ∈ docs, x.id ≠ nw.id) : IdsDistinct (Lungo.replaceDoc docs oid nw) := by
  unfold IdsDistinct Lungo.replaceDoc at *
  rw [List.map_map]
  refine List.pairwise_map.mpr ((List.pairwise_map.mp h).imp_of_mem fun {a b} ha hb hab => ?_)
  simp only [Function.comp]
  split <;> split
  · rename_i ea eb
    exact fun _ => hab ((beq_iff_eq.mp ea).trans (beq_iff_eq.mp eb).symm)
  · exact (hf b hb).symm
  · exact hf a ha
  · exact hab

theorem IdsBelow.replaceDoc {oid n : Nat} {nw : SDoc} {docs : List SDoc} (h : IdsBelow docs n)
    (hn : nw.id < n) : IdsBelow (Lungo.replaceDoc docs oid nw) n := by
  intro x hx
  rcases mem_replaceDoc.mp hx with ⟨hx1, _⟩ | ⟨rfl, _⟩
  · exact h x hx1
  · exact hn

/-- replacing, one after the other, each document of `list` by its successor in `news`: the
    documents are those untouched plus the successors -/
theorem foldl_replaceDoc_zip {α : Type} : ∀ (list : List SDoc) (news : List (SDoc × α)) (docs : List SDoc),
    list.length = news.length → IdsDistinct docs → (∀ o ∈ list, o ∈ docs) → IdsDistinct list →
    FreshFor (· ∈ docs) (news.map (·.1)) →
    IdsDistinct ((list.zip news).foldl (fun ds p => replaceDoc ds p.1.id p.2.1) docs) ∧
    ∀ x, x ∈ (list.zip news).foldl (fun ds p => replaceDoc ds p.1.id p.2.1) docs ↔
      (x ∈ docs ∧ ∀ o ∈ list, x.id ≠ o.id) ∨ x ∈ news.map (·.1)
  | [], [], docs, _, hd, _, _, _ => ⟨hd, fun x => by simp⟩
  | [], _ :: _, _, hlen, _, _, _, _ => by cases hlen
  | _ :: _, [], _, hlen, _, _, _, _ => by cases hlen
  | o :: r, n :: ns, docs, hlen, hd, hmem, hdl, hfr => by
    have ho : o ∈ docs := hmem o (by simp)
    have hfn : ∀ x ∈ docs, x.id ≠ n.1.id := hfr.1 n.1 (by simp)
    rw [IdsDistinct, List.map_cons, List.nodup_cons] at hdl
    have hfr' : FreshFor (· ∈ replaceDoc docs o.id n.1) (ns.map (·.1)) :=
      (FreshFor.tail (S := (· ∈ docs)) hfr).mono fun x hx => (mem_replaceDoc.mp hx).imp (·.1) (·.1)
    obtain ⟨ih1, ih2⟩ := foldl_replaceDoc_zip r ns (replaceDoc docs o.id n.1) (Nat.succ.inj hlen)
      (hd.replaceDoc hfn)
      (fun o' ho' => mem_replaceDoc.mpr (.inl ⟨hmem o' (List.mem_cons_of_mem _ ho'), fun e =>
        hdl.1 (List.mem_map.mpr ⟨o', ho', e⟩)⟩))
      hdl.2 hfr'
    refine ⟨ih1, fun x => ?_⟩
    simp only [List.zip_cons_cons, List.foldl_cons]
    rw [ih2 x, mem_replaceDoc]
    simp only [List.mem_cons, List.map_cons, forall_eq_or_imp]
    constructor
    · rintro (⟨⟨hx1, hx2⟩ | ⟨rfl, _⟩, hx3⟩ | hx)
      · exact .inl ⟨hx1, hx2, hx3⟩
      · exact .inr (.inl rfl)
      · exact .inr (.inr hx)
    · rintro (⟨hx1, hx2, hx3⟩ | rfl | hx)
      · exact .inl ⟨.inl ⟨hx1, hx2⟩, hx3⟩
      · exact .inl ⟨.inr ⟨rfl, o, ho, rfl⟩, fun o' ho' =>
          (hfn o' (hmem o' (List.mem_cons_of_mem _ ho'))).symm⟩
      · exact .inr hx

/-- `Coll.upsert` is an insert of the computed document -/
theorem upsert_spec {ac : ACtx} {c c' : Coll} {q : Doc} {repl update : Option Doc} {filters : List Doc}
    {nu nu' : Nu} {sd : SDoc} (h : c.upsert ac q repl update filters nu = .ok (c', sd, nu')) :
    ∃ doc, c.insert ac.sch doc nu = .ok (c', sd, nu') :=
  let ⟨doc, _, h⟩ := Coll.upsert_ok h; ⟨doc, h⟩

theorem mem_filter_notAny {docs list : List SDoc} {x : SDoc} :
    x ∈ docs.filter (fun sd => !(list.any (·.id == sd.id))) ↔ x ∈ docs ∧ ∀ o ∈ list, x.id ≠ o.id := by
  simp only [List.mem_filter, Bool.not_eq_true', List.any_eq_false, beq_iff_eq, ne_comm]

/-- in a coherent collection the loop of `Coll.replace` is: the old document leaves every index, then the
    new one enters -/
theorem replace_upd_ok {S : SDoc → Prop} {old nw : SDoc} {idx idx' : List (String × Index)} (hs : S old)
    (hc : AllCoherent sch S idx) (h : Coll.replace.upd sch old nw idx = .ok idx') :
    ∃ idx1, removeFromIndexes sch old idx = .ok idx1 ∧ addToIndexes sch nw idx1 = .ok idx' := by
  obtain ⟨idx1, hrem⟩ := removeFromIndexes_ok hs hc
  exact ⟨idx1, hrem, replace_upd_of_removed hrem ▸ h⟩

/-- the loop of `Coll.update`: the successors are numbered `nu.nextId, nu.nextId + 1, …`, only the
    counter of ν moves, and every successor is the result of `Apply` on a matched document -/
theorem applyAll_spec {ac : ACtx} {update : Doc} {filters : List Doc} :
    ∀ {list : List SDoc} {nu nu' : Nu} {news : List (SDoc × List (String × V))},
    Coll.update.applyAll ac update filters nu list = .ok (news, nu') →
      news.map (·.1.id) = List.range' nu.nextId list.length ∧
      nu' = { nu with nextId := nu.nextId + list.length } ∧
      ∀ n ∈ news, ∃ o ∈ list, Apply { ac with upsert := false } o.doc update filters = .ok (n.1.doc, n.2)
  | [], nu, nu', news, h => by
    cases h; exact ⟨rfl, rfl, fun _ hn => nomatch hn⟩
  | sd :: r, nu, nu', news, h => by
    rw [Coll.update.applyAll] at h
    split at h
    · cases h
    · rename_i d' ch hap
      simp only [Nu.fresh] at h
      split at h
      · cases h
      · rename_i rest nu2 hr
        cases h
        obtain ⟨h1, rfl, h3⟩ := applyAll_spec hr
        refine ⟨by simp only [List.map_cons, List.length_cons, List.range'_succ, h1],
          by simp only [List.length_cons, Nat.add_assoc, Nat.add_comm 1], fun n hn => ?_⟩
        rcases List.mem_cons.mp hn with rfl | hn
        · exact ⟨sd, List.mem_cons_self, hap⟩
        · obtain ⟨o, ho, h'⟩ := h3 n hn
          exact ⟨o, List.mem_cons_of_mem _ ho, h'⟩

theorem applyAll_length {ac : ACtx} {update : Doc} {filters : List Doc}
    {list : List SDoc} {nu nu' : Nu} {news : List (SDoc × List (String × V))}
    (h : Coll.update.applyAll ac update filters nu list = .ok (news, nu')) :
    news.length = list.length := by
  simpa using congrArg List.length (applyAll_spec h).1

/-- the successors get the identities `nu.nextId, nu.nextId + 1, …` -/
theorem applyAll_range {ac : ACtx} {u : Doc} {filters : List Doc} {list : List SDoc} {nu nu' : Nu}
    {news : List (SDoc × List (String × V))} (hap : Coll.update.applyAll ac u filters nu list = .ok (news, nu')) :
    ∀ x ∈ news.map (·.1), nu.nextId ≤ x.id ∧ x.id < nu'.nextId := by
  intro x hx
  obtain ⟨hids, rfl, _⟩ := applyAll_spec hap
  obtain ⟨p, hp, rfl⟩ := List.mem_map.mp hx
  have : p.1.id ∈ news.map (·.1.id) := List.mem_map.mpr ⟨p, hp, rfl⟩
  rw [hids, List.mem_range'] at this
  show _ ∧ _ < nu.nextId + list.length
  omega

theorem update_fresh {ac : ACtx} {u : Doc} {filters : List Doc} {docs list : List SDoc} {S : SDoc → Prop}
    {nu nu' : Nu} {news : List (SDoc × List (String × V))} (hb : IdsBelow docs nu.nextId)
    (hS : ∀ x, S x → x ∈ docs) (hap : Coll.update.applyAll ac u filters nu list = .ok (news, nu')) :
    FreshFor S (news.map (·.1)) := by
  refine ⟨fun nd hnd x hx e => ?_, by rw [List.map_map]; exact (applyAll_spec hap).1 ▸ List.nodup_range' 1⟩
  have := (applyAll_range hap nd hnd).1
  have := hb x (hS x hx)
  omega

theorem update_pairs_facts {ac : ACtx} {u : Doc} {filters : List Doc} {c : Coll} {list : List SDoc}
    {nu nu' : Nu} {news : List (SDoc × List (String × V))}
    (hd : IdsDistinct c.docs) (hb : IdsBelow c.docs nu.nextId)
    (hmem : ∀ o ∈ list, o ∈ c.docs) (hdl : IdsDistinct list)
    (hap : Coll.update.applyAll ac u filters nu list = .ok (news, nu')) :
    let docs' := (list.zip news).foldl (fun ds p => replaceDoc ds p.1.id p.2.1) c.docs
    IdsDistinct docs' ∧
    (∀ x, x ∈ docs' ↔ (x ∈ c.docs ∧ ∀ o ∈ list, x.id ≠ o.id) ∨ x ∈ news.map (·.1)) ∧
    (∀ x ∈ news.map (·.1), nu.nextId ≤ x.id ∧ x.id < nu'.nextId) ∧
    nu'.nextId = nu.nextId + list.length := by
  obtain ⟨r1, r2⟩ := foldl_replaceDoc_zip list news c.docs (applyAll_length hap).symm hd hmem hdl
    (update_fresh hb (fun _ hx => hx) hap)
  exact ⟨r1, r2, applyAll_range hap, by rw [(applyAll_spec hap).2.1]⟩

/-- building one index over `docs` is adding the documents, one after the other, to the list that holds
    only it (a refusal being the uniqueness error) -/
theorem build_eq_fold (n : String) : ∀ (docs : List SDoc) (i : Index),
    foldIdx (fun idx sd => addToIndexes sch sd idx) [(n, i)] docs =
      match i.build sch docs with
      | .error e => .error e
      | .ok (_, false) => .error .dup
      | .ok (i', true) => .ok [(n, i')]
  | [], _ => rfl
  | sd :: r, i => by
    rw [foldIdx, Index.build, addToIndexes, addToIndexes]
    rcases i.add sch sd with e | ⟨i1, _ | _⟩
    · rfl
    · rfl
    · exact build_eq_fold n r i1

theorem fold_add_singleton {n : String} {docs : List SDoc} {i : Index} {l : List (String × Index)}
    (h : foldIdx (fun idx sd => addToIndexes sch sd idx) [(n, i)] docs = .ok l) :
    ∃ i', l = [(n, i')] ∧ i'.config = i.config := by
  have hs := foldIdx_add_shape h
  rcases l with _ | ⟨⟨n', i'⟩, _ | _⟩
  · simp [shape] at hs
  · obtain ⟨hn, hc⟩ := Prod.mk.inj (List.head_eq_of_cons_eq hs)
    exact ⟨i', by rw [show n' = n from hn], hc⟩
  · simp [shape] at hs

theorem newIndex_coherent {config : IndexConfig} {index : Index} (h : newIndex config = .ok index) (n : String) :
    AllCoherent sch (fun _ => False) [(n, index)] := by
  obtain ⟨_, cols, hc, _, _, rfl⟩ := newIndex_ok h
  intro _ _ hm
  cases List.mem_singleton.mp hm
  exact ⟨hc, fun _ hx => hx.elim, fun k id hm => (by cases hm), fun _ hx => hx.elim, List.Pairwise.nil⟩

theorem assocSet_fresh {α} {l : List (String × α)} {k : String} {v : α}
    (h : l.any (·.1 == k) = false) : assocSet l k v = l ++ [(k, v)] := by
  unfold assocSet; rw [h]; rfl

/-- `Coll.createIndex` once the name is settled and no index of that name has an equal definition:
    refuse a key or a name that is taken, else build the index over the documents -/
def createNew (sch : SchemaEval) (c : Coll) (nm : String) (config : IndexConfig) : Res (Coll × String) :=
  if c.indexes.any (fun (_, i) => V.cmp (.doc config.key) (.doc i.config.key) == .eq) then .error .err
  else if c.indexes.any (·.1 == nm) then .error .err
  else
    match newIndex config with
    | .error e => .error e
    | .ok index =>
      match index.build sch c.docs with
      | .error e => .error e
      | .ok (_, false) => .error .dup
      | .ok (index', true) => .ok ({ c with indexes := assocSet c.indexes nm index' }, nm)

/-- `Coll.createIndex`: settle the name (the given one, or the generated one); an index of that name with an
    equal definition makes the call a no-op -/
theorem createIndex_eq (c : Coll) (name : String) (config : IndexConfig) :
    c.createIndex sch name config =
      (if name == "" then config.name else .ok name) >>= fun nm =>
      if ((shape c.indexes).lookup nm).any config.equal then .ok (c, nm) else createNew sch c nm config := by
  unfold Coll.createIndex
  cases (if name == "" then config.name else Except.ok name) with
  | error e => rfl
  | ok nm =>
    simp only [Res.ok_bind, lookup_shape]
    cases c.indexes.lookup nm <;> rfl

/-- the guards of `createNew` look at the index definitions only; the new index is filled by adding the
    documents one after the other -/
theorem createNew_eq (c : Coll) (nm : String) (config : IndexConfig) :
    createNew sch c nm config =
      if (shape c.indexes).any (fun p => V.cmp (.doc config.key) (.doc p.2.key) == .eq) = true then .error .err
      else if (shape c.indexes).any (·.1 == nm) = true then .error .err
      else
        newIndex config >>= fun index =>
        foldIdx (fun idx sd => addToIndexes sch sd idx) [(nm, index)] c.docs >>= fun l =>
        pure ({ c with indexes := c.indexes ++ l }, nm) := by
  unfold createNew
  simp only [shape_any]
  split
  · rfl
  · split
    · rfl
    · rename_i hnone
      cases newIndex config with
      | error e => rfl
      | ok index =>
        simp only [Res.ok_bind, build_eq_fold]
        rcases index.build sch c.docs with e | ⟨i', _ | _⟩
        · rfl
        · rfl
        · simp only [assocSet_fresh (Bool.eq_false_iff.mpr hnone)]; rfl

theorem createNew_spec {c c' : Coll} {nm name' : String} {config : IndexConfig}
    (h : createNew sch c nm config = .ok (c', name')) :
    ∃ index index', newIndex config = .ok index ∧
      foldIdx (fun idx sd => addToIndexes sch sd idx) [(name', index)] c.docs = .ok [(name', index')] ∧
      c' = { c with indexes := c.indexes ++ [(name', index')] } ∧ (shape c.indexes).any (·.1 == name') = false := by
  simp only [createNew_eq, Res.guard_eq_ok, Res.bind_eq_ok, Res.pure_eq_ok, Prod.mk.injEq] at h
  obtain ⟨_, hnone, index, hidx, l, hb, rfl, rfl⟩ := h
  obtain ⟨index', rfl, _⟩ := fold_add_singleton hb
  exact ⟨index, index', hidx, hb, rfl, hnone⟩

theorem createIndex_spec {c c' : Coll} {name name' : String} {config : IndexConfig}
    (h : c.createIndex sch name config = .ok (c', name')) :
    (c' = c ∧ ∃ i, c.indexes.lookup name' = some i ∧ config.equal i.config = true) ∨
    ∃ index index', newIndex config = .ok index ∧
      foldIdx (fun idx sd => addToIndexes sch sd idx) [(name', index)] c.docs = .ok [(name', index')] ∧
      c' = { c with indexes := c.indexes ++ [(name', index')] } ∧ (shape c.indexes).any (·.1 == name') = false := by
  rw [createIndex_eq, Res.bind_eq_ok] at h
  obtain ⟨nm, _, h⟩ := h
  split at h
  · rename_i he
    cases h
    rw [lookup_shape] at he
    cases hl : c.indexes.lookup name' with
    | none => rw [hl] at he; cases he
    | some i => rw [hl] at he; exact .inl ⟨rfl, i, rfl, he⟩
  · exact .inr (createNew_spec h)

theorem dropIndex_spec {c c' : Coll} {name : String} {dropped : List String}
    (h : c.dropIndex name = .ok (c', dropped)) :
    c'.docs = c.docs ∧ name ≠ "_id_" ∧ ∃ p : String × Index → Bool, c'.indexes = c.indexes.filter p ∧
      (∀ e, e.1 = "_id_" → p e = true) ∧
      (name ≠ "" → p = (fun e => e.1 != name) ∧ c.indexes.any (·.1 == name) = true ∧ dropped = [name]) ∧
      (name = "" → p = (fun e => e.1 == "_id_")) := by
  unfold Coll.dropIndex at h
  split at h
  · rename_i hne
    have hne' : name ≠ "" := by simpa using hne
    split at h
    · cases h
    · rename_i hid
      have hid' : name ≠ "_id_" := by simpa using hid
      split at h
      · cases h
      · rename_i hex
        simp only [Except.ok.injEq, Prod.mk.injEq] at h
        obtain ⟨rfl, rfl⟩ := h
        refine ⟨rfl, hid', (fun e => e.1 != name), rfl, ?_, ?_, ?_⟩
        · intro e he; simp only [he, bne_iff_ne, ne_eq]; exact fun e' => hid' e'.symm
        · intro _; exact ⟨rfl, by simpa using hex, rfl⟩
        · intro e; exact absurd e hne'
  · rename_i hne
    have hne' : name = "" := by simpa using hne
    simp only [Except.ok.injEq, Prod.mk.injEq] at h
    obtain ⟨rfl, rfl⟩ := h
    refine ⟨rfl, by rw [hne']; decide, (fun e => e.1 == "_id_"), rfl, ?_, ?_, ?_⟩
    · intro e he; simp [he]
    · intro e; exact absurd hne' e
    · intro _; rfl

theorem dropIndex_sub {c c' : Coll} {name : String} {dropped : List String}
    (h : c.dropIndex name = .ok (c', dropped)) : c'.docs = c.docs ∧ ∀ e ∈ c'.indexes, e ∈ c.indexes := by
  obtain ⟨hd, _, p, hi, _⟩ := dropIndex_spec h
  exact ⟨hd, fun e he => (List.mem_filter.mp (hi ▸ he)).1⟩

theorem idIndex_cols : columns idIndexConfig.key = .ok [{ path := "_id", reverse := false }] := by
  simp [columns, idIndexConfig]

/-- `_id_` has no partial filter: every document belongs -/
theorem idIndex_belongs {i : Index} (h : i.config = idIndexConfig) (d : Doc) : belongs sch i d := by
  unfold belongs partialMatches; rw [h]; rfl

theorem Coherent.new (b : Bool) : Coherent sch (newColl b) := by
  refine ⟨by simp [newColl, IdsDistinct], ?_⟩
  intro n i hm
  unfold newColl at hm
  cases b with
  | false => simp at hm
  | true =>
    simp only [↓reduceIte, List.mem_singleton, Prod.mk.injEq] at hm
    obtain ⟨_, rfl⟩ := hm
    exact ⟨idIndex_cols, fun x hx => by simp [newColl] at hx, fun k id hm => by simp at hm,
      fun x hx => by simp [newColl] at hx, List.Pairwise.nil⟩

theorem Unique.new (b : Bool) : Unique sch (newColl b) := by
  intro n i _ _ x y hx
  simp [newColl] at hx

theorem UniqueOk.of_unique {c : Coll} (h : Unique sch c) : UniqueOk sch c :=
  AllUnique.mono h fun _ hx => hx.1

/-- on well-formed documents (every Go value) `UniqueOk` is `Unique` -/
theorem UniqueOk.unique {c : Coll} (h : UniqueOk sch c) (hok : DocsOk c.docs) : Unique sch c :=
  AllUnique.mono h fun x hx => ⟨hx, hok x hx⟩

theorem UniqueOk.new (b : Bool) : UniqueOk sch (newColl b) := .of_unique (.new b)

theorem Coherent.insert {c c' : Coll} {d : Doc} {nu nu' : Nu} {sd : SDoc}
    (hc : Coherent sch c) (hb : IdsBelow c.docs nu.nextId)
    (h : c.insert sch d nu = .ok (c', sd, nu')) :
    Coherent sch c' ∧ IdsBelow c'.docs nu'.nextId := by
  obtain ⟨d', nu1, idx', _, ha, rfl, _, rfl⟩ := Coll.insert_ok h
  exact ⟨⟨hc.1.append_fresh hb.fresh, (AllCoherent.add hc.2 ha).congr (fun x => by simp)⟩, hb.append_fresh⟩

theorem UniqueOk.insert {c c' : Coll} {d : Doc} {nu nu' : Nu} {sd : SDoc}
    (hc : Coherent sch c) (hu : UniqueOk sch c)
    (h : c.insert sch d nu = .ok (c', sd, nu')) : UniqueOk sch c' := by
  obtain ⟨d', nu1, idx', _, ha, rfl, _⟩ := Coll.insert_ok h
  exact (AllUnique.add hc.2 (idInj_of_distinct hc.1) hu ha).congr (fun x => by simp)

theorem Unique.insert {c c' : Coll} {d : Doc} {nu nu' : Nu} {sd : SDoc}
    (hc : Coherent sch c) (hu : Unique sch c) (hok' : DocsOk c'.docs)
    (h : c.insert sch d nu = .ok (c', sd, nu')) : Unique sch c' :=
  (UniqueOk.insert hc (.of_unique hu) h).unique hok'

theorem Coherent.delete {c c' : Coll} {q : Doc} {sort : Option Doc} {skip limit : Int} {list : List SDoc}
    (hc : Coherent sch c) (h : c.delete sch q sort skip limit = .ok (c', list)) :
    Coherent sch c' ∧ (∀ n, IdsBelow c.docs n → IdsBelow c'.docs n) := by
  obtain ⟨hsel, idx', hf, rfl⟩ := Coll.delete_ok h
  exact ⟨⟨hc.1.sublist List.filter_sublist,
      (foldIdx_remove_coherent hc.2 (selectDocs_inj hsel hc.1) hf).congr (fun x => mem_filter_notAny)⟩,
    fun n hb x hx => hb x (List.mem_filter.mp hx).1⟩

theorem UniqueOk.delete {c c' : Coll} {q : Doc} {sort : Option Doc} {skip limit : Int} {list : List SDoc}
    (hu : UniqueOk sch c) (h : c.delete sch q sort skip limit = .ok (c', list)) : UniqueOk sch c' := by
  obtain ⟨_, idx', hf, rfl⟩ := Coll.delete_ok h
  exact foldIdx_remove_unique hu (fun x hx => ⟨(mem_filter_notAny.mp hx.1).1, hx.2⟩) hf

theorem Unique.delete {c c' : Coll} {q : Doc} {sort : Option Doc} {skip limit : Int} {list : List SDoc}
    (hu : Unique sch c) (h : c.delete sch q sort skip limit = .ok (c', list)) : Unique sch c' := by
  obtain ⟨_, idx', hf, rfl⟩ := Coll.delete_ok h
  exact foldIdx_remove_unique hu (fun x hx => (mem_filter_notAny.mp hx).1) hf

theorem delete_ok {c : Coll} {q : Doc} {sort : Option Doc} {skip limit : Int} {list : List SDoc}
    (hc : Coherent sch c) (hsel : selectDocs sch c q sort skip limit = .ok list) :
    ∃ c', c.delete sch q sort skip limit = .ok (c', list) := by
  obtain ⟨idx', hf⟩ := foldIdx_remove_ok hc.2 (selectDocs_mem hsel) (selectDocs_distinct hsel hc.1)
    (selectDocs_inj hsel hc.1)
  exact ⟨⟨c.docs.filter (fun sd => !(list.any (·.id == sd.id))), idx'⟩, by
    simp only [Coll.delete_eq, hsel, hf, Res.ok_bind]; rfl⟩

/-- the document set after a replace, as the indexes see it: the old one out, the new one in -/
theorem mem_replaceDoc_of_mem {docs : List SDoc} {old nw x : SDoc} (hold : old ∈ docs) :
    x ∈ replaceDoc docs old.id nw ↔ (x ∈ docs ∧ x.id ≠ old.id) ∨ x = nw := by
  rw [mem_replaceDoc]
  exact or_congr_right ⟨fun h => h.1, fun h => ⟨h, old, hold, rfl⟩⟩

theorem Coherent.replace {c : Coll} {q repl : Doc} {sort : Option Doc} {nu nu' : Nu} {res : CResult}
    (hc : Coherent sch c) (hb : IdsBelow c.docs nu.nextId)
    (h : c.replace sch q repl sort nu = .ok (res, nu')) :
    Coherent sch res.coll ∧ IdsBelow res.coll.docs nu'.nextId ∧ nu.nextId ≤ nu'.nextId := by
  rcases Coll.replace_ok h with ⟨_, rfl, rfl⟩ | ⟨old, rest, d, idx', hsel, _, hupd, rfl, rfl⟩
  · exact ⟨hc, hb, Nat.le_refl _⟩
  · have hold := selectDocs_mem hsel old List.mem_cons_self
    obtain ⟨idx1, hrem, hadd⟩ := replace_upd_ok hold hc.2 hupd
    exact ⟨⟨hc.1.replaceDoc hb.fresh,
        ((AllCoherent.remove hc.2 (fun x hx e => ids_inj hc.1 x hx old hold e) hrem).add hadd).congr
          fun x => mem_replaceDoc_of_mem hold⟩,
      (hb.mono (Nat.le_succ _)).replaceDoc (Nat.lt_succ_self _), Nat.le_succ _⟩

theorem UniqueOk.replace {c : Coll} {q repl : Doc} {sort : Option Doc} {nu nu' : Nu} {res : CResult}
    (hc : Coherent sch c) (hu : UniqueOk sch c)
    (h : c.replace sch q repl sort nu = .ok (res, nu')) : UniqueOk sch res.coll := by
  rcases Coll.replace_ok h with ⟨_, rfl, _⟩ | ⟨old, rest, d, idx', hsel, _, hupd, rfl, _⟩
  · exact hu
  · have hold := selectDocs_mem hsel old List.mem_cons_self
    obtain ⟨idx1, hrem, hadd⟩ := replace_upd_ok hold hc.2 hupd
    exact (AllUnique.add (AllCoherent.remove hc.2 (fun x hx e => ids_inj hc.1 x hx old hold e) hrem)
      ((idInj_of_distinct hc.1).mono (fun x hx => hx.1)) (AllUnique.remove hu (fun x hx => ⟨hx.1.1, hx.2⟩) hrem) hadd).mono
      (fun x hx => ⟨(mem_replaceDoc_of_mem hold).mp hx.1, hx.2⟩)

theorem Unique.replace {c : Coll} {q repl : Doc} {sort : Option Doc} {nu nu' : Nu} {res : CResult}
    (hc : Coherent sch c) (hu : Unique sch c) (hok' : DocsOk res.coll.docs)
    (h : c.replace sch q repl sort nu = .ok (res, nu')) : Unique sch res.coll :=
  (UniqueOk.replace hc (.of_unique hu) h).unique hok'

/-! `Coll.update` removes all matched documents from the indexes, then adds all updated ones. -/

theorem Coherent.update {ac : ACtx} {c : Coll} {q u : Doc} {sort : Option Doc} {skip limit : Int}
    {filters : List Doc} {nu nu' : Nu} {res : CResult}
    (hc : Coherent ac.sch c) (hb : IdsBelow c.docs nu.nextId)
    (h : c.update ac q u sort skip limit filters nu = .ok (res, nu')) :
    Coherent ac.sch res.coll ∧ IdsBelow res.coll.docs nu'.nextId ∧ nu.nextId ≤ nu'.nextId := by
  obtain ⟨list, news, idx1, idx2, hsel, hap, _, hrem, hadd, rfl⟩ := Coll.update_ok h
  obtain ⟨f1, f2, f3, f4⟩ := update_pairs_facts hc.1 hb (selectDocs_mem hsel)
    (selectDocs_distinct hsel hc.1) hap
  refine ⟨⟨f1, ?_⟩, fun x hx => ?_, by omega⟩
  · exact (foldIdx_add_coherent (foldIdx_remove_coherent hc.2 (selectDocs_inj hsel hc.1) hrem) hadd).congr f2
  · rcases (f2 x).mp hx with ⟨hx1, _⟩ | hx2
    · have := hb x hx1; omega
    · exact (f3 x hx2).2

theorem UniqueOk.update {ac : ACtx} {c : Coll} {q u : Doc} {sort : Option Doc} {skip limit : Int}
    {filters : List Doc} {nu nu' : Nu} {res : CResult}
    (hc : Coherent ac.sch c) (hb : IdsBelow c.docs nu.nextId) (hu : UniqueOk ac.sch c)
    (h : c.update ac q u sort skip limit filters nu = .ok (res, nu')) : UniqueOk ac.sch res.coll := by
  obtain ⟨list, news, idx1, idx2, hsel, hap, _, hrem, hadd, rfl⟩ := Coll.update_ok h
  obtain ⟨_, f2, _, _⟩ := update_pairs_facts hc.1 hb (selectDocs_mem hsel) (selectDocs_distinct hsel hc.1) hap
  exact (foldIdx_add_unique (foldIdx_remove_coherent hc.2 (selectDocs_inj hsel hc.1) hrem)
    ((idInj_of_distinct hc.1).mono (fun x hx => hx.1)) (update_fresh hb (fun x hx => hx.1) hap)
    (foldIdx_remove_unique hu (fun x hx => ⟨hx.1.1, hx.2⟩) hrem) hadd).congr (fun x => by rw [f2 x])

theorem Unique.update {ac : ACtx} {c : Coll} {q u : Doc} {sort : Option Doc} {skip limit : Int}
    {filters : List Doc} {nu nu' : Nu} {res : CResult}
    (hc : Coherent ac.sch c) (hb : IdsBelow c.docs nu.nextId) (hu : Unique ac.sch c)
    (hok' : DocsOk res.coll.docs)
    (h : c.update ac q u sort skip limit filters nu = .ok (res, nu')) : Unique ac.sch res.coll :=
  (UniqueOk.update hc hb (.of_unique hu) h).unique hok'

theorem Coherent.createIndex {c c' : Coll} {name name' : String} {config : IndexConfig}
    (hc : Coherent sch c) (h : c.createIndex sch name config = .ok (c', name')) :
    Coherent sch c' ∧ c'.docs = c.docs := by
  rcases createIndex_spec h with ⟨rfl, _⟩ | ⟨index, index', hn, hb, rfl, _⟩
  · exact ⟨hc, rfl⟩
  · refine ⟨⟨hc.1, fun n i hm => ?_⟩, rfl⟩
    rcases List.mem_append.mp hm with hm | hm
    · exact hc.2 n i hm
    · exact (foldIdx_add_coherent (newIndex_coherent hn _) hb n i hm).congr (fun x => by simp)

theorem UniqueOk.createIndex {c c' : Coll} {name name' : String} {config : IndexConfig}
    (hc : Coherent sch c) (hu : UniqueOk sch c)
    (h : c.createIndex sch name config = .ok (c', name')) : UniqueOk sch c' := by
  rcases createIndex_spec h with ⟨rfl, _⟩ | ⟨index, index', hn, hb, rfl, _⟩
  · exact hu
  · intro n i hm
    rcases List.mem_append.mp hm with hm | hm
    · exact hu n i hm
    · -- built from the empty index over the empty document set
      exact (foldIdx_add_unique (newIndex_coherent hn _) (fun _ _ hx => hx.elim) ⟨fun _ _ _ hx => hx.elim, hc.1⟩
        (fun _ _ _ _ _ _ hx => hx.1.elim) hb n i hm).mono (fun x hx => ⟨.inr hx.1, hx.2⟩) rfl rfl

theorem Unique.createIndex {c c' : Coll} {name name' : String} {config : IndexConfig}
    (hc : Coherent sch c) (hu : Unique sch c) (hok : DocsOk c.docs)
    (h : c.createIndex sch name config = .ok (c', name')) : Unique sch c' :=
  (UniqueOk.createIndex hc (.of_unique hu) h).unique
    (by rw [(Coherent.createIndex hc h).2]; exact hok)

theorem Coherent.dropIndex {c c' : Coll} {name : String} {dropped : List String}
    (hc : Coherent sch c) (h : c.dropIndex name = .ok (c', dropped)) :
    Coherent sch c' ∧ c'.docs = c.docs := by
  obtain ⟨hd, hsub⟩ := dropIndex_sub h
  exact ⟨⟨hd ▸ hc.1, fun n i hm => hd ▸ hc.2 n i (hsub _ hm)⟩, hd⟩

theorem Unique.dropIndex {c c' : Coll} {name : String} {dropped : List String}
    (hu : Unique sch c) (h : c.dropIndex name = .ok (c', dropped)) : Unique sch c' := by
  obtain ⟨hd, hsub⟩ := dropIndex_sub h
  exact fun n i hm => hd ▸ hu n i (hsub _ hm)

theorem UniqueOk.dropIndex {c c' : Coll} {name : String} {dropped : List String}
    (hu : UniqueOk sch c) (h : c.dropIndex name = .ok (c', dropped)) : UniqueOk sch c' := by
  obtain ⟨hd, hsub⟩ := dropIndex_sub h
  exact fun n i hm => hd ▸ hu n i (hsub _ hm)

theorem idIndexPresent_iff {c : Coll} : IdIndexPresent c ↔ ("_id_", idIndexConfig) ∈ shape c.indexes := by
  unfold IdIndexPresent shape
  rw [List.mem_map]
  constructor
  · rintro ⟨i, hm, hc⟩; exact ⟨("_id_", i), hm, by rw [hc]⟩
  · rintro ⟨⟨n, i⟩, hm, he⟩
    obtain ⟨rfl, hc⟩ := Prod.mk.inj he
    exact ⟨i, hm, hc⟩

theorem insert_shape {c c' : Coll} {d : Doc} {nu nu' : Nu} {sd : SDoc}
    (h : c.insert sch d nu = .ok (c', sd, nu')) : shape c'.indexes = shape c.indexes := by
  obtain ⟨_, _, idx', _, ha, rfl, _⟩ := Coll.insert_ok h
  exact addToIndexes_shape ha

theorem upsert_shape {ac : ACtx} {c c' : Coll} {q : Doc} {repl update : Option Doc} {filters : List Doc}
    {nu nu' : Nu} {sd : SDoc} (h : c.upsert ac q repl update filters nu = .ok (c', sd, nu')) :
    shape c'.indexes = shape c.indexes := by
  obtain ⟨doc, h⟩ := upsert_spec h
  exact insert_shape h

theorem delete_shape {c c' : Coll} {q : Doc} {sort : Option Doc} {skip limit : Int} {list : List SDoc}
    (h : c.delete sch q sort skip limit = .ok (c', list)) : shape c'.indexes = shape c.indexes := by
  obtain ⟨_, idx', hf, rfl⟩ := Coll.delete_ok h
  exact foldIdx_remove_shape hf

theorem replace_shape {c : Coll} {q repl : Doc} {sort : Option Doc} {nu nu' : Nu} {res : CResult}
    (hc : Coherent sch c) (h : c.replace sch q repl sort nu = .ok (res, nu')) :
    shape res.coll.indexes = shape c.indexes := by
  rcases Coll.replace_ok h with ⟨_, rfl, _⟩ | ⟨old, rest, d, idx', hsel, _, hupd, rfl, _⟩
  · rfl
  · obtain ⟨idx1, hrem, hadd⟩ := replace_upd_ok (selectDocs_mem hsel old List.mem_cons_self) hc.2 hupd
    exact (addToIndexes_shape hadd).trans (removeFromIndexes_shape hrem)

theorem update_shape {ac : ACtx} {c : Coll} {q u : Doc} {sort : Option Doc} {skip limit : Int}
    {filters : List Doc} {nu nu' : Nu} {res : CResult}
    (h : c.update ac q u sort skip limit filters nu = .ok (res, nu')) :
    shape res.coll.indexes = shape c.indexes := by
  obtain ⟨list, news, idx1, idx2, _, _, _, hrem, hadd, rfl⟩ := Coll.update_ok h
  exact (foldIdx_add_shape hadd).trans (foldIdx_remove_shape hrem)

theorem createIndex_keeps {c c' : Coll} {name name' : String} {config : IndexConfig}
    (h : c.createIndex sch name config = .ok (c', name')) :
    ∀ e ∈ c.indexes, e ∈ c'.indexes := by
  rcases createIndex_spec h with ⟨rfl, _⟩ | ⟨_, _, _, _, rfl, _⟩
  · exact fun e he => he
  · exact fun e he => List.mem_append_left _ he

theorem dropIndex_keeps_id {c c' : Coll} {name : String} {dropped : List String}
    (h : c.dropIndex name = .ok (c', dropped)) :
    ∀ i, ("_id_", i) ∈ c.indexes → ("_id_", i) ∈ c'.indexes := by
  obtain ⟨_, _, p, hi, hp, _⟩ := dropIndex_spec h
  intro i hm
  rw [hi]
  exact List.mem_filter.mpr ⟨hm, hp _ rfl⟩

theorem names_of_shape {idx idx' : List (String × Index)} (h : shape idx' = shape idx) :
    idx'.map (·.1) = idx.map (·.1) := by
  simpa [shape, List.map_map, Function.comp_def] using congrArg (List.map Prod.fst) h

theorem NamesDistinct.of_shape {c c' : Coll} (h : NamesDistinct c)
    (hs : shape c'.indexes = shape c.indexes) : NamesDistinct c' := by
  unfold NamesDistinct at *; rw [names_of_shape hs]; exact h

theorem NamesDistinct.new (b : Bool) : NamesDistinct (newColl b) := by
  unfold NamesDistinct newColl; cases b <;> simp

theorem NamesDistinct.createIndex {c c' : Coll} {name name' : String} {config : IndexConfig}
    (hn : NamesDistinct c) (h : c.createIndex sch name config = .ok (c', name')) :
    NamesDistinct c' := by
  rcases createIndex_spec h with ⟨rfl, _⟩ | ⟨_, _, _, _, rfl, hnone⟩
  · exact hn
  · unfold NamesDistinct at *
    rw [List.map_append, List.nodup_append]
    refine ⟨hn, by simp, fun a ha b hb e => ?_⟩
    simp only [List.map_cons, List.map_nil, List.mem_singleton] at hb
    obtain ⟨p, hp, rfl⟩ := List.mem_map.mp ha
    have : c.indexes.any (fun x => x.1 == p.1) = true := List.any_eq_true.mpr ⟨p, hp, by simp⟩
    rw [e, hb, ← shape_any _ (·.1 == name'), hnone] at this; cases this

theorem NamesDistinct.dropIndex {c c' : Coll} {name : String} {dropped : List String}
    (hn : NamesDistinct c) (h : c.dropIndex name = .ok (c', dropped)) : NamesDistinct c' := by
  obtain ⟨_, _, p, hi, _⟩ := dropIndex_spec h
  unfold NamesDistinct at *
  rw [hi]
  exact (List.filter_sublist.map _).nodup hn

theorem lookup_of_mem : ∀ {idx : List (String × Index)} {n : String} {i : Index},
    (idx.map (·.1)).Nodup → (n, i) ∈ idx → idx.lookup n = some i
  | [], _, _, _, hm => by cases hm
  | (m, j) :: r, n, i, hnd, hm => by
    rw [List.map_cons, List.nodup_cons] at hnd
    rw [List.lookup_cons]
    rcases List.mem_cons.mp hm with e | hm'
    · cases e; simp
    · have hne : (n == m) = false := by
        simp only [beq_eq_false_iff_ne, ne_eq]
        rintro rfl
        exact hnd.1 (List.mem_map.mpr ⟨(n, i), hm', rfl⟩)
      rw [hne]
      exact lookup_of_mem hnd.2 hm'

end Lungo
