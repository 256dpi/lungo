/-
  Lungo.Proofs.CompareLaws — the comparators of Lungo.Model.Compare are lawful.

  The leaf comparators are comparisons of strict linear orders, or lexicographic compositions of
  such.  `compareNumbers` is exact (`XR.cmp` of the mathematical values) for int64 payloads in the
  int64 range.  `V.cmp` is the class rank first, then the comparator of the class; documents and
  arrays are lists compared lexicographically (`Ord.lexList`), so the laws follow by induction
  over the value.
-/
import Lungo.Model.Compare
import Lungo.Spec.I64Ok
import Lungo.Proofs.Order
import Lungo.Proofs.ValueTree
namespace Lungo
open Lungo.Ord

theorem natCmp_lawful : Lawful natCmp := Lawful.nat

theorem intCmp_lawful : Lawful intCmp := Lawful.of_lt Int.lt_irrefl Int.lt_trans Int.lt_trichotomy

theorem ratCmp_lawful : Lawful ratCmp :=
  Lawful.of_lt (fun _ => Rat.lt_irrefl) Std.lt_trans Std.lt_trichotomy

/-- the rational a finite value carries (the other values are told apart by their rank) -/
def XR.val : XR → Rat
  | .fin q => q
  | _ => 0

/-- `XR.cmp` is: the rank, then the rational. -/
theorem XR.cmp_lawful : Lawful XR.cmp :=
  ((natCmp_lawful.compareOn XR.rank).lex (ratCmp_lawful.compareOn XR.val)).congr fun a b => by
    cases a <;> cases b <;> rfl

theorem cmpBytes_cons (a b : UInt8) (as bs : List UInt8) :
    cmpBytes (a :: as) (b :: bs) = (natCmp a.toNat b.toNat).then (cmpBytes as bs) := by
  simp only [cmpBytes, natCmp, UInt8.lt_iff_toNat_lt, beq_iff_eq, ← UInt8.toNat_inj]
  repeat' split
  all_goals first | rfl | omega

/-- bytes compare as their values, byte strings lexicographically -/
theorem cmpBytes_eq : ∀ as bs : List UInt8, cmpBytes as bs = lexList (compareOn UInt8.toNat natCmp) as bs
  | [], [] => rfl
  | [], _ :: _ => rfl
  | _ :: _, [] => rfl
  | a :: as, b :: bs => by rw [cmpBytes_cons, lexList, ← cmpBytes_eq as bs]; rfl

theorem cmpBytes_lawful : Lawful cmpBytes := (natCmp_lawful.compareOn UInt8.toNat).lexList.congr cmpBytes_eq

theorem cmpStr_lawful : Lawful cmpStr :=
  cmpBytes_lawful.compareOn (fun s : String => s.toUTF8.toList)

theorem cmpBool_lawful : Lawful cmpBool := by
  constructor <;> decide

theorem cmpBin_eq (ls : UInt8) (ld : List UInt8) (rs : UInt8) (rd : List UInt8) :
    cmpBin ls ld rs rd =
      (natCmp ld.length rd.length).then ((natCmp ls.toNat rs.toNat).then (cmpBytes ld rd)) := by
  simp only [cmpBin, UInt8.lt_iff_toNat_lt, gt_iff_lt,
    ite_gt_lt Nat.lt_irrefl Nat.lt_trans Nat.lt_trichotomy]
  rfl

def binCmp (p q : UInt8 × List UInt8) : Ordering := cmpBin p.1 p.2 q.1 q.2

theorem binCmp_lawful : Lawful binCmp :=
  ((natCmp_lawful.compareOn fun p : UInt8 × List UInt8 => p.2.length).lex
    ((natCmp_lawful.compareOn fun p : UInt8 × List UInt8 => p.1.toNat).lex
      (cmpBytes_lawful.compareOn fun p : UInt8 × List UInt8 => p.2))).congr
    fun p q => cmpBin_eq p.1 p.2 q.1 q.2

theorem cmpTs_eq (lt li rt ri : Nat) :
    cmpTs lt li rt ri = (natCmp lt rt).then (natCmp li ri) := by
  rw [cmpTs, ite_gt_lt Nat.lt_irrefl Nat.lt_trans Nat.lt_trichotomy li,
    ite_gt_lt Nat.lt_irrefl Nat.lt_trans Nat.lt_trichotomy, Ordering.then_eq]
  rfl

def tsCmp (p q : Nat × Nat) : Ordering := cmpTs p.1 p.2 q.1 q.2

theorem tsCmp_lawful : Lawful tsCmp :=
  ((natCmp_lawful.compareOn fun p : Nat × Nat => p.1).lex
    (natCmp_lawful.compareOn fun p : Nat × Nat => p.2)).congr fun p q => cmpTs_eq p.1 p.2 q.1 q.2

theorem cmpRegex_eq (lp lo rp ro : String) :
    cmpRegex lp lo rp ro = (cmpStr lp rp).then (cmpStr lo ro) := by
  rw [cmpRegex]
  cases cmpStr lp rp <;> rfl

def regexCmp (p q : String × String) : Ordering := cmpRegex p.1 p.2 q.1 q.2

theorem regexCmp_lawful : Lawful regexCmp :=
  ((cmpStr_lawful.compareOn fun p : String × String => p.1).lex
    (cmpStr_lawful.compareOn fun p : String × String => p.2)).congr fun p q => cmpRegex_eq p.1 p.2 q.1 q.2

theorem f64Man_lt (b : UInt64) : f64Man b < 2 ^ 52 := by
  simp only [f64Man, UInt64.toNat_and]
  exact Nat.lt_of_le_of_lt Nat.and_le_right (by decide)

/-- A nonnegative dyadic with a 53-bit mantissa is an integer or lies below 2^52. -/
theorem dyadic_shape (m : Nat) (e : Int) (hm : m < 2 ^ 53) :
    (∃ n : Int, (m : Rat) * pow2 e = (n : Rat)) ∨
      (0 ≤ (m : Rat) * pow2 e ∧ (m : Rat) * pow2 e < 4503599627370496) := by
  unfold pow2
  split
  · left
    exact ⟨((m * 2 ^ e.toNat : Nat) : Int), by rw [Rat.intCast_natCast, Rat.natCast_mul]⟩
  · right
    rename_i he
    have hk : 1 ≤ (-e).toNat := by omega
    generalize (-e).toNat = k at hk
    have hd : 0 < 2 ^ k := Nat.two_pow_pos k
    have hd' : (0 : Rat) < ((2 ^ k : Nat) : Rat) := Rat.natCast_pos.mpr hd
    have hx : mkRat 1 (2 ^ k) * ((2 ^ k : Nat) : Rat) = 1 := by
      rw [Rat.mkRat_eq_div]
      exact Rat.div_mul_cancel (by grind)
    have hxpos : 0 < mkRat 1 (2 ^ k) := by
      have : 0 < mkRat 1 (2 ^ k) * ((2 ^ k : Nat) : Rat) := by rw [hx]; decide
      exact (Rat.mul_pos_iff_of_pos_right hd').mp this
    constructor
    · exact Rat.mul_nonneg Rat.natCast_nonneg (Rat.le_of_lt hxpos)
    · apply Rat.lt_of_mul_lt_mul_right (c := ((2 ^ k : Nat) : Rat)) _ (Rat.le_of_lt hd')
      rw [Rat.mul_assoc, hx, Rat.mul_one]
      have h2 : 2 ≤ 2 ^ k := by
        calc 2 = 2 ^ 1 := rfl
          _ ≤ 2 ^ k := Nat.pow_le_pow_right (by decide) hk
      have : m < 4503599627370496 * 2 ^ k := by omega
      have := Rat.natCast_lt_natCast.mpr this
      rw [Rat.natCast_mul] at this
      exact this

/-- What the proof needs to know about a double: finite values are integers or small. -/
def XR.F64Like (r : XR) : Prop :=
  ∀ q, r = .fin q → (∃ n : Int, q = (n : Rat)) ∨ ((-4503599627370496 : Rat) < q ∧ q < 4503599627370496)

theorem f64Val_like (b : UInt64) : (f64Val b).F64Like := by
  intro q h
  have hm := f64Man_lt b
  unfold f64Val at h
  simp only at h
  split at h
  · split at h <;> (try split at h) <;> cases h
  · injection h with h
    have hmant : (if (f64Exp b == 0) = true then f64Man b else f64Man b + 2 ^ 52) < 2 ^ 53 := by
      split <;> omega
    rcases dyadic_shape _ ((if (f64Exp b == 0) = true then (1 : Int) else (f64Exp b : Int)) - 1075) hmant with ⟨n, hn⟩ | ⟨h0, h1⟩
    · left
      rw [hn] at h
      split at h
      · exact ⟨-n, by rw [← h, Rat.intCast_neg]⟩
      · exact ⟨n, h.symm⟩
    · right
      split at h <;> subst h <;> constructor <;> grind

theorem ratTrunc_intCast (n : Int) : ratTrunc (n : Rat) = n := by
  simp [ratTrunc, Rat.num_intCast, Rat.den_intCast]

theorem ratTrunc_eq (q : Rat) : ratTrunc q = if 0 ≤ q then q.floor else -((-q).floor) := by
  simp only [ratTrunc, Rat.floor_def, Rat.neg_num, Rat.neg_den, ge_iff_le, Rat.num_nonneg]

theorem ratTrunc_lt {q : Rat} {m : Int} (hm : 0 < m) (h : q < (m : Rat)) : ratTrunc q < m := by
  rw [ratTrunc_eq]
  split
  · exact Rat.floor_lt_iff.mpr h
  · have : (0:Int) ≤ (-q).floor := Rat.le_floor_iff.mpr (by simp only [Rat.intCast_zero]; grind)
    omega

theorem lt_ratTrunc {q : Rat} {m : Int} (hm : 0 < m) (h : ((-m : Int) : Rat) < q) : -m < ratTrunc q := by
  rw [ratTrunc_eq]
  split
  · have : (0:Int) ≤ q.floor := Rat.le_floor_iff.mpr (by simp only [Rat.intCast_zero]; grind)
    omega
  · have : (-q).floor < m := Rat.floor_lt_iff.mpr (by simp only [Rat.intCast_neg] at h; grind)
    omega

theorem compareFloat64s_eq (l r : XR) : compareFloat64s l r = XR.cmp l r := by
  cases l <;> cases r <;> simp [compareFloat64s, XR.isNaN, XR.cmp, XR.rank, natCmp]

theorem intCmp_eq_ratCmp (l r : Int) : intCmp l r = ratCmp (l : Rat) (r : Rat) := by
  simp only [intCmp, ratCmp, Rat.intCast_lt_intCast, Rat.intCast_inj]

theorem ratCmp_lt_iff {a b : Rat} : ratCmp a b = .lt ↔ a < b := compareOfLessAndEq_eq_lt

theorem ratCmp_of_lt {a b : Rat} (h : a < b) : ratCmp a b = .lt := ratCmp_lt_iff.mpr h

theorem ratCmp_of_gt {a b : Rat} (h : b < a) : ratCmp a b = .gt := by
  rw [ratCmp_lawful.swap b a, ratCmp_of_lt h]; rfl

theorem inI64_bounds {l : Int} (hl : inI64 l = true) :
    -9223372036854775808 ≤ l ∧ l ≤ 9223372036854775807 := by
  rw [inI64, Bool.and_eq_true] at hl
  exact ⟨of_decide_eq_true hl.1, of_decide_eq_true hl.2⟩

theorem compareInt64ToFloat64_exact (l : Int) (hl : inI64 l = true) (r : XR) (hr : r.F64Like) :
    compareInt64ToFloat64 l r = XR.cmp (.fin (l : Rat)) r := by
  have ⟨hl1, hl2⟩ := inI64_bounds hl
  have hl1' : ((-9223372036854775808 : Int) : Rat) ≤ (l : Rat) := Rat.intCast_le_intCast.mpr hl1
  have hl2' : (l : Rat) ≤ ((9223372036854775807 : Int) : Rat) := Rat.intCast_le_intCast.mpr hl2
  unfold compareInt64ToFloat64
  cases r with
  | nan => simp [XR.isNaN, XR.cmp, XR.rank, natCmp]
  | ninf => simp [XR.isNaN, compareFloat64s_eq, XR.cmp, XR.rank, natCmp]
  | pinf => simp [XR.isNaN, compareFloat64s_eq, XR.cmp, XR.rank, natCmp]
  | fin q =>
    simp only [XR.isNaN, compareFloat64s_eq, Bool.false_eq_true, if_false, xrTrunc]
    split
    · rfl
    · rename_i hbig
      -- |l| > 2^53 from here on; the two range checks first: q ≥ 2^63 is above every int64, q < −2^63 below
      show _ = ratCmp (l : Rat) q
      by_cases h1 : q < ((two63 : Int) : Rat)
      · have e1 : XR.cmp (.fin q) (.fin ((two63 : Int) : Rat)) = .lt := ratCmp_of_lt h1
        rw [e1, if_neg (by decide)]
        by_cases h2 : q < ((-two63 : Int) : Rat)
        · have e2 : XR.cmp (.fin q) (.fin ((-two63 : Int) : Rat)) = .lt := ratCmp_of_lt h2
          rw [e2, if_pos (by decide)]
          refine (ratCmp_of_gt ?_).symm
          simp only [two63] at h2; grind
        · have e2 : (XR.cmp (.fin q) (.fin ((-two63 : Int) : Rat)) == .lt) = false := by
            have : XR.cmp (.fin q) (.fin ((-two63 : Int) : Rat)) ≠ .lt := fun h => h2 (ratCmp_lt_iff.mp h)
            simpa using this
          rw [e2, if_neg (by decide)]
          -- in range: q is an integer (truncation is exact), or |q| < 2^52 < |l| and so is its truncation
          rcases hr q rfl with ⟨n, hn⟩ | ⟨hq1, hq2⟩
          · rw [hn, ratTrunc_intCast, intCmp_eq_ratCmp]
          · simp only [two53] at hbig
            by_cases hpos : 9007199254740992 < l
            · have hl' : ((9007199254740992 : Int) : Rat) < (l : Rat) := Rat.intCast_lt_intCast.mpr hpos
              have ht : ratTrunc q < 4503599627370496 := ratTrunc_lt (by decide) (by grind)
              rw [ratCmp_of_gt (by grind)]
              simp only [intCmp]
              rw [if_neg (by omega), if_neg (by omega)]
            · have hneg : l < -9007199254740992 := by omega
              have hl' : (l : Rat) < ((-9007199254740992 : Int) : Rat) := Rat.intCast_lt_intCast.mpr hneg
              have ht : -4503599627370496 < ratTrunc q := lt_ratTrunc (by decide) (by grind)
              rw [ratCmp_of_lt (by grind)]
              simp only [intCmp]
              rw [if_pos (by omega)]
      · have e1 : (XR.cmp (.fin q) (.fin ((two63 : Int) : Rat)) != .lt) = true := by
          have : XR.cmp (.fin q) (.fin ((two63 : Int) : Rat)) ≠ .lt := fun h => h1 (ratCmp_lt_iff.mp h)
          simpa using this
        rw [if_pos e1]
        refine (ratCmp_of_lt ?_).symm
        simp only [two63] at h1; grind

theorem XR.cmp_fin_fin (a b : Rat) : XR.cmp (.fin a) (.fin b) = ratCmp a b := rfl

theorem V.cmp_rank (a b : V) (h : a.cls.rank < b.cls.rank) : V.cmp a b = .lt := by
  rw [V.cmp.eq_def]
  simp only [gt_iff_lt]
  rw [if_neg (by omega), if_pos h]

theorem V.cmp_of_rank_gt {a b : V} (h : b.cls.rank < a.cls.rank) : V.cmp a b = .gt := by
  rw [V.cmp.eq_def]
  simp only [gt_iff_lt]
  rw [if_pos h]

/-- the rank is the position in the declaration, as in Go's `iota` -/
theorem Class.rank_eq_ctorIdx (c : Class) : c.rank = c.ctorIdx := by cases c <;> rfl

theorem Class.rank_inj {c d : Class} (h : c.rank = d.rank) : c = d := by
  rw [Class.rank_eq_ctorIdx, Class.rank_eq_ctorIdx] at h
  rw [← Class.ofNat_ctorIdx c, h, Class.ofNat_ctorIdx]

/-- Values that compare equal are of the same class: the rank test decides first. -/
theorem V.cls_eq_of_cmp_eq {a b : V} (h : V.cmp a b = .eq) : a.cls = b.cls := by
  rcases Nat.lt_trichotomy a.cls.rank b.cls.rank with h' | h' | h'
  · rw [V.cmp_rank _ _ h'] at h; cases h
  · exact Class.rank_inj h'
  · rw [V.cmp_of_rank_gt h'] at h; cases h

theorem V.cmp_str (a b : String) : V.cmp (.str a) (.str b) = cmpStr a b := rfl
theorem V.cmp_doc (a b : List (String × V)) : V.cmp (.doc a) (.doc b) = cmpFields a b := rfl
theorem V.cmp_arr (a b : List V) : V.cmp (.arr a) (.arr b) = cmpList a b := rfl
theorem V.cmp_bin (s : UInt8) (a : List UInt8) (t : UInt8) (b : List UInt8) :
    V.cmp (.bin s a) (.bin t b) = binCmp (s, a) (t, b) := rfl
theorem V.cmp_oid (a b : List UInt8) : V.cmp (.oid a) (.oid b) = cmpBytes a b := rfl
theorem V.cmp_bool (a b : Bool) : V.cmp (.bool a) (.bool b) = cmpBool a b := rfl
theorem V.cmp_date (a b : Int) : V.cmp (.date a) (.date b) = intCmp a b := rfl
theorem V.cmp_ts (a b c d : Nat) : V.cmp (.ts a b) (.ts c d) = tsCmp (a, b) (c, d) := rfl
theorem V.cmp_regex (a b c d : String) :
    V.cmp (.regex a b) (.regex c d) = regexCmp (a, b) (c, d) := rfl

theorem V.null_inv : ∀ {a : V}, a.cls = .null → a = .null ∨ a = .missing
  | .null, _ => .inl rfl
  | .missing, _ => .inr rfl

theorem V.number_inv : ∀ {a : V}, a.cls = .number →
    (∃ n, a = .i32 n) ∨ (∃ n, a = .i64 n) ∨ (∃ b, a = .f64 b) ∨ ∃ h l, a = .dec h l
  | .i32 n, _ => .inl ⟨n, rfl⟩
  | .i64 n, _ => .inr (.inl ⟨n, rfl⟩)
  | .f64 b, _ => .inr (.inr (.inl ⟨b, rfl⟩))
  | .dec h l, _ => .inr (.inr (.inr ⟨h, l, rfl⟩))

theorem V.str_inv : ∀ {a : V}, a.cls = .string → ∃ s, a = .str s
  | .str s, _ => ⟨s, rfl⟩
theorem V.doc_inv : ∀ {a : V}, a.cls = .document → ∃ fs, a = .doc fs
  | .doc fs, _ => ⟨fs, rfl⟩
theorem V.arr_inv : ∀ {a : V}, a.cls = .array → ∃ xs, a = .arr xs
  | .arr xs, _ => ⟨xs, rfl⟩
theorem V.bin_inv : ∀ {a : V}, a.cls = .binary → ∃ s d, a = .bin s d
  | .bin s d, _ => ⟨s, d, rfl⟩
theorem V.oid_inv : ∀ {a : V}, a.cls = .objectID → ∃ b, a = .oid b
  | .oid b, _ => ⟨b, rfl⟩
theorem V.bool_inv : ∀ {a : V}, a.cls = .boolean → ∃ b, a = .bool b
  | .bool b, _ => ⟨b, rfl⟩
theorem V.date_inv : ∀ {a : V}, a.cls = .date → ∃ ms, a = .date ms
  | .date ms, _ => ⟨ms, rfl⟩
theorem V.ts_inv : ∀ {a : V}, a.cls = .timestamp → ∃ t i, a = .ts t i
  | .ts t i, _ => ⟨t, i, rfl⟩
theorem V.regex_inv : ∀ {a : V}, a.cls = .regex → ∃ p o, a = .regex p o
  | .regex p o, _ => ⟨p, o, rfl⟩

theorem V.cmp_number {a b : V} (ha : a.cls = .number) (hb : b.cls = .number) :
    V.cmp a b = compareNumbers a b := by
  rcases V.number_inv ha with ⟨_, rfl⟩ | ⟨_, rfl⟩ | ⟨_, rfl⟩ | ⟨_, _, rfl⟩ <;>
    rcases V.number_inv hb with ⟨_, rfl⟩ | ⟨_, rfl⟩ | ⟨_, rfl⟩ | ⟨_, _, rfl⟩ <;> rfl

theorem V.cmp_null {a b : V} (ha : a.cls = .null) (hb : b.cls = .null) : V.cmp a b = .eq := by
  rcases V.null_inv ha with rfl | rfl <;> rcases V.null_inv hb with rfl | rfl <;> rfl

/-- Within a class other than number, document and array `V.cmp` is a lawful comparator of the
    payloads, whatever the values. -/
theorem V.cmp_at_class (a b d : V) (hdoc : a.isDoc = false) (harr : a.isArr = false)
    (hn : a.cls ≠ .number) (hb : b.cls = a.cls) (hd : d.cls = a.cls) : LawsAt V.cmp a b d := by
  cases a with
  | null | missing =>
    rw [LawsAt, V.cmp_null rfl rfl, V.cmp_null rfl hb, V.cmp_null hb rfl, V.cmp_null hb hd,
      V.cmp_null rfl hd]
    exact ⟨rfl, rfl, fun h _ => h, fun _ => rfl, fun _ => rfl⟩
  | i32 _ | i64 _ | f64 _ | dec _ _ => exact absurd rfl hn
  | doc _ => cases hdoc
  | arr _ => cases harr
  | str s =>
    obtain ⟨t, rfl⟩ := V.str_inv hb; obtain ⟨u, rfl⟩ := V.str_inv hd
    exact cmpStr_lawful.at s t u
  | bin s x =>
    obtain ⟨t, y, rfl⟩ := V.bin_inv hb; obtain ⟨u, z, rfl⟩ := V.bin_inv hd
    exact binCmp_lawful.at (s, x) (t, y) (u, z)
  | oid x =>
    obtain ⟨y, rfl⟩ := V.oid_inv hb; obtain ⟨z, rfl⟩ := V.oid_inv hd
    exact cmpBytes_lawful.at x y z
  | bool x =>
    obtain ⟨y, rfl⟩ := V.bool_inv hb; obtain ⟨z, rfl⟩ := V.bool_inv hd
    exact cmpBool_lawful.at x y z
  | date x =>
    obtain ⟨y, rfl⟩ := V.date_inv hb; obtain ⟨z, rfl⟩ := V.date_inv hd
    exact intCmp_lawful.at x y z
  | ts s x =>
    obtain ⟨t, y, rfl⟩ := V.ts_inv hb; obtain ⟨u, z, rfl⟩ := V.ts_inv hd
    exact tsCmp_lawful.at (s, x) (t, y) (u, z)
  | regex s x =>
    obtain ⟨t, y, rfl⟩ := V.regex_inv hb; obtain ⟨u, z, rfl⟩ := V.regex_inv hd
    exact regexCmp_lawful.at (s, x) (t, y) (u, z)

/-! ### Numbers: reflexivity and swap hold for all payloads -/

theorem intCmp_eq_xr (l r : Int) : intCmp l r = XR.cmp (.fin (l : Rat)) (.fin (r : Rat)) :=
  intCmp_eq_ratCmp l r

/-- the last arm of `compareNumbers`: unless both are numbers the result is `.eq` -/
theorem compareNumbers_default {a b : V} (h : a.cls ≠ .number ∨ b.cls ≠ .number) : compareNumbers a b = .eq := by
  cases a <;> first | rfl | (cases b <;> first | rfl | exact h.elim (absurd rfl) (absurd rfl))

theorem compareNumbers_refl (a : V) : compareNumbers a a = .eq := by
  by_cases ha : a.cls = .number
  · rcases V.number_inv ha with ⟨_, rfl⟩ | ⟨_, rfl⟩ | ⟨_, rfl⟩ | ⟨_, _, rfl⟩ <;>
      simp only [compareNumbers, compareFloat64s_eq, compareExact, intCmp_eq_xr] <;>
      exact XR.cmp_lawful.refl _
  · exact compareNumbers_default (.inl ha)

/-- The dispatch table of `compareNumbers` is antisymmetric entry by entry. -/
theorem compareNumbers_swap (a b : V) : compareNumbers b a = (compareNumbers a b).swap := by
  by_cases h : a.cls = .number ∧ b.cls = .number
  · rcases V.number_inv h.1 with ⟨_, rfl⟩ | ⟨_, rfl⟩ | ⟨_, rfl⟩ | ⟨_, _, rfl⟩ <;>
      rcases V.number_inv h.2 with ⟨_, rfl⟩ | ⟨_, rfl⟩ | ⟨_, rfl⟩ | ⟨_, _, rfl⟩ <;>
      simp only [compareNumbers, compareFloat64s_eq, compareExact, compareFloat64ToInt64,
        intCmp_eq_xr, Ordering.swap_swap] <;>
      exact XR.cmp_lawful.swap _ _
  · have h' := Classical.not_and_iff_not_or_not.mp h
    rw [compareNumbers_default h', compareNumbers_default h'.symm]; rfl

/-- The int64 payload (if any) of a *top-level* number is in the int64 range. -/
def V.i64Top : V → Bool
  | .i64 n => inI64 n
  | _ => true

/-- `compareNumbers` is the exact order of the values; only the int64/double entries of the table
    need the int64 payload to be in range. -/
theorem compareNumbers_exact (a b : V) (ha : a.cls = .number) (hb : b.cls = .number)
    (oa : a.i64Top = true) (ob : b.i64Top = true) :
    compareNumbers a b = XR.cmp a.numVal b.numVal := by
  rcases V.number_inv ha with ⟨_, rfl⟩ | ⟨_, rfl⟩ | ⟨_, rfl⟩ | ⟨_, _, rfl⟩ <;>
    rcases V.number_inv hb with ⟨_, rfl⟩ | ⟨_, rfl⟩ | ⟨_, rfl⟩ | ⟨_, _, rfl⟩ <;>
    simp only [compareNumbers, V.numVal, compareFloat64s_eq, compareExact, compareFloat64ToInt64,
      intCmp_eq_xr]
  · exact compareInt64ToFloat64_exact _ oa _ (f64Val_like _)
  · rw [compareInt64ToFloat64_exact _ ob _ (f64Val_like _)]
    exact (XR.cmp_lawful.swap _ _).symm

/-! ### Documents and arrays are lists under the lexicographic order -/

def fieldCmp (p q : String × V) : Ordering := (cmpStr p.1 q.1).then (V.cmp p.2 q.2)

theorem cmpFields_cons (k : String) (v : V) (r : List (String × V)) (k' : String) (v' : V)
    (r' : List (String × V)) :
    cmpFields ((k, v) :: r) ((k', v') :: r') = (cmpStr k k').then ((V.cmp v v').then (cmpFields r r')) := by
  rw [cmpFields]; cases cmpStr k k' <;> cases V.cmp v v' <;> rfl

theorem cmpList_cons (v : V) (r : List V) (v' : V) (r' : List V) :
    cmpList (v :: r) (v' :: r') = (V.cmp v v').then (cmpList r r') := by
  rw [cmpList]; cases V.cmp v v' <;> rfl

theorem cmpFields_eq : ∀ fs gs : List (String × V), cmpFields fs gs = lexList fieldCmp fs gs
  | [], [] => by rw [cmpFields]; rfl
  | [], _ :: _ => by rw [cmpFields]; rfl
  | _ :: _, [] => by rw [cmpFields]; rfl
  | (k, v) :: r, (k', v') :: r' => by
      rw [cmpFields_cons, lexList, ← cmpFields_eq r r', fieldCmp, Ordering.then_assoc]

theorem cmpList_eq : ∀ xs ys : List V, cmpList xs ys = lexList V.cmp xs ys
  | [], [] => by rw [cmpList]; rfl
  | [], _ :: _ => by rw [cmpList]; rfl
  | _ :: _, [] => by rw [cmpList]; rfl
  | v :: r, v' :: r' => by rw [cmpList_cons, lexList, ← cmpList_eq r r']

/-! ### Reflexivity and swap (no hypotheses) -/

theorem V.cmp_refl : ∀ a : V, V.cmp a a = .eq := by
  refine V.induct_mem (fun fs ih => ?_) (fun xs ih => ?_) fun v hd ha => ?_
  · rw [V.cmp_doc, cmpFields_eq]
    exact lexList_refl fun kv h => by rw [fieldCmp, cmpStr_lawful.refl, ih kv h]; rfl
  · rw [V.cmp_arr, cmpList_eq]; exact lexList_refl ih
  · by_cases hn : v.cls = .number
    · rw [V.cmp_number hn hn]; exact compareNumbers_refl _
    · exact (V.cmp_at_class v v v hd ha hn rfl rfl).refl

theorem V.cmp_swap_of (a b : V) (h : b.cls = a.cls → V.cmp b a = (V.cmp a b).swap) :
    V.cmp b a = (V.cmp a b).swap := by
  rcases Nat.lt_trichotomy a.cls.rank b.cls.rank with h' | h' | h'
  · rw [V.cmp_rank _ _ h', V.cmp_of_rank_gt h']; rfl
  · exact h (Class.rank_inj h'.symm)
  · rw [V.cmp_of_rank_gt h', V.cmp_rank _ _ h']; rfl

theorem V.cmp_swap : ∀ a b : V, V.cmp b a = (V.cmp a b).swap := by
  refine V.induct_mem (fun fs ih b => ?_) (fun xs ih b => ?_) fun a hd ha b => ?_ <;>
    refine V.cmp_swap_of _ b fun hb => ?_
  · obtain ⟨gs, rfl⟩ := V.doc_inv hb
    rw [V.cmp_doc, V.cmp_doc, cmpFields_eq, cmpFields_eq]
    exact lexList_swap gs fun kv h kv' => by
      rw [fieldCmp, fieldCmp, Ordering.swap_then, ← cmpStr_lawful.swap, ← ih kv h]
  · obtain ⟨ys, rfl⟩ := V.arr_inv hb
    rw [V.cmp_arr, V.cmp_arr, cmpList_eq, cmpList_eq]
    exact lexList_swap ys ih
  · by_cases hn : a.cls = .number
    · rw [V.cmp_number hn (hb.trans hn), V.cmp_number (hb.trans hn) hn]
      exact compareNumbers_swap _ _
    · exact (V.cmp_at_class a b a hd ha hn hb rfl).swap

theorem fieldCmp_refl (p : String × V) : fieldCmp p p = .eq := by
  rw [fieldCmp, cmpStr_lawful.refl, V.cmp_refl]; rfl

theorem fieldCmp_swap (p q : String × V) : fieldCmp q p = (fieldCmp p q).swap := by
  rw [fieldCmp, fieldCmp, Ordering.swap_then, ← cmpStr_lawful.swap, ← V.cmp_swap]

/-! ### `V.i64Ok`: its members, and that `V.wf` implies it -/

theorem V.i64Top_of_i64Ok {a : V} (h : a.i64Ok = true) : a.i64Top = true := by
  cases a <;> first | rfl | exact h

theorem i64Ok_of_mem_fields : ∀ {fs : List (String × V)}, i64OkFields fs = true →
    ∀ kv ∈ fs, kv.2.i64Ok = true
  | (_, _) :: _, h, kv, hkv => by
      rw [i64OkFields, Bool.and_eq_true] at h
      rcases List.mem_cons.mp hkv with rfl | hkv
      · exact h.1
      · exact i64Ok_of_mem_fields h.2 kv hkv

theorem i64Ok_of_mem_list : ∀ {xs : List V}, i64OkList xs = true → ∀ x ∈ xs, x.i64Ok = true
  | _ :: _, h, x, hx => by
      rw [i64OkList, Bool.and_eq_true] at h
      rcases List.mem_cons.mp hx with rfl | hx
      · exact h.1
      · exact i64Ok_of_mem_list h.2 x hx

mutual
theorem V.i64Ok_of_wf : ∀ a : V, a.wf = true → a.i64Ok = true
  | .doc fs, h => by rw [V.wf] at h; rw [V.i64Ok]; exact i64OkFields_of_wf fs h
  | .arr xs, h => by rw [V.wf] at h; rw [V.i64Ok]; exact i64OkList_of_wf xs h
  | .i64 n, h => by rw [V.wf] at h; rw [V.i64Ok]; exact h
  | .null, _ | .missing, _ | .i32 _, _ | .f64 _, _ | .dec _ _, _ | .str _, _
  | .bin _ _, _ | .oid _, _ | .bool _, _ | .date _, _ | .ts _ _, _ | .regex _ _, _ => by
      simp [V.i64Ok]
theorem i64OkFields_of_wf : ∀ fs : List (String × V), wfFields fs = true → i64OkFields fs = true
  | [], _ => by rw [i64OkFields]
  | (_, v) :: r, h => by
      rw [wfFields, Bool.and_eq_true] at h
      rw [i64OkFields, Bool.and_eq_true]
      exact ⟨V.i64Ok_of_wf v h.1, i64OkFields_of_wf r h.2⟩
theorem i64OkList_of_wf : ∀ xs : List V, wfList xs = true → i64OkList xs = true
  | [], _ => by rw [i64OkList]
  | v :: r, h => by
      rw [wfList, Bool.and_eq_true] at h
      rw [i64OkList, Bool.and_eq_true]
      exact ⟨V.i64Ok_of_wf v h.1, i64OkList_of_wf r h.2⟩
end

/-! ### Transitivity and congruence (int64 payloads in range) -/

theorem V.cmp_num_exact' {a b : V} (ha : a.cls = .number) (hb : b.cls = .number)
    (oa : a.i64Ok = true) (ob : b.i64Ok = true) :
    V.cmp a b = XR.cmp a.numVal b.numVal := by
  rw [V.cmp_number ha hb,
    compareNumbers_exact a b ha hb (V.i64Top_of_i64Ok oa) (V.i64Top_of_i64Ok ob)]

theorem V.cmp_at_of_cls (a b d : V) (h : b.cls = a.cls → d.cls = a.cls → LawsAt V.cmp a b d) :
    LawsAt V.cmp a b d :=
  LawsAt.of_rank (fun v => v.cls.rank) V.cmp V.cmp_rank
    (fun _ _ => V.cmp_of_rank_gt) a b d (V.cmp_refl a) (fun _ => V.cmp_swap a b) fun h1 h2 =>
      h (Class.rank_inj h1.symm) (Class.rank_inj (h1.trans h2).symm)

/-- The comparator laws of `V.cmp` at every triple of values with in-range int64 payloads. -/
theorem V.cmp_at : ∀ a b d : V, a.i64Ok = true → b.i64Ok = true → d.i64Ok = true →
    LawsAt V.cmp a b d := by
  refine V.induct_mem (fun fs ih b d oa ob od => ?_) (fun xs ih b d oa ob od => ?_)
      fun a hdoc harr b d oa ob od => ?_ <;>
    refine V.cmp_at_of_cls _ b d fun hb hd => ?_
  · obtain ⟨gs, rfl⟩ := V.doc_inv hb
    obtain ⟨hs, rfl⟩ := V.doc_inv hd
    simp only [LawsAt, V.cmp_doc, cmpFields_eq]
    exact lexList_at fieldCmp_refl fieldCmp_swap fs gs hs fun p hp q hq r hr =>
      (cmpStr_lawful.at p.1 q.1 r.1).then (ih p hp q.2 r.2 (i64Ok_of_mem_fields oa p hp)
        (i64Ok_of_mem_fields ob q hq) (i64Ok_of_mem_fields od r hr))
  · obtain ⟨ys, rfl⟩ := V.arr_inv hb
    obtain ⟨zs, rfl⟩ := V.arr_inv hd
    simp only [LawsAt, V.cmp_arr, cmpList_eq]
    exact lexList_at V.cmp_refl V.cmp_swap xs ys zs fun x hx y hy z hz =>
      ih x hx y z (i64Ok_of_mem_list oa x hx) (i64Ok_of_mem_list ob y hy)
        (i64Ok_of_mem_list od z hz)
  · by_cases hn : a.cls = .number
    · have hb := hb.trans hn
      have hd := hd.trans hn
      rw [LawsAt, V.cmp_num_exact' hn hn oa oa, V.cmp_num_exact' hn hb oa ob,
        V.cmp_num_exact' hb hn ob oa, V.cmp_num_exact' hb hd ob od, V.cmp_num_exact' hn hd oa od]
      exact (XR.cmp_lawful.compareOn V.numVal).at a b d
    · exact V.cmp_at_class a b d hdoc harr hn hb hd

theorem cmpFields_at : ∀ fs gs hs : List (String × V), i64OkFields fs = true →
    i64OkFields gs = true → i64OkFields hs = true → LawsAt cmpFields fs gs hs :=
  fun fs gs hs => V.cmp_at (.doc fs) (.doc gs) (.doc hs)

theorem cmpList_at : ∀ xs ys zs : List V, i64OkList xs = true →
    i64OkList ys = true → i64OkList zs = true → LawsAt cmpList xs ys zs :=
  fun xs ys zs => V.cmp_at (.arr xs) (.arr ys) (.arr zs)

end Lungo
