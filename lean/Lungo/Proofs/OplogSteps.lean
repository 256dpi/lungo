/-
  Lungo.Proofs.OplogSteps — C08: what a successful transaction method returns (one inversion per method of
  transaction.go), that every driver call `Sys.step` extends the oplog by appended events only (`Ext`, by
  induction over the primitive steps `CatStep` of a transaction's catalog), and the oplog invariant
  `OplogInv` (event ids are 1..clock in order).
-/
import Lungo.Proofs.OplogLaws
import Lungo.Proofs.IndexColl
namespace Lungo

theorem IdxStep.docs {ac : ACtx} {c c' : Coll} (s : IdxStep ac c c') : c'.docs = c.docs := by
  cases s with
  | same => rfl
  | createIndex e => rcases createIndex_spec e with ⟨rfl, _⟩ | ⟨_, _, _, _, rfl, _⟩ <;> rfl
  | dropIndex e => exact (dropIndex_spec e).1

theorem Managed.silent {ac : ACtx} {t t' : Txn} (m : Managed ac t t') :
    t'.catalog.oplog = t.catalog.oplog ∧ t'.catalog.clock = t.catalog.clock := by
  rcases m with rfl | ⟨h, coll, hne, _, rfl⟩
  · exact ⟨rfl, rfl⟩
  · exact ⟨Catalog.oplog_set_other _ _ _ hne, Catalog.set_clock ..⟩

theorem Managed.same_or_dirty {ac : ACtx} {t t' : Txn} (m : Managed ac t t') : t' = t ∨ t'.dirty = true :=
  m.imp_right fun ⟨_, _, _, _, e⟩ => e ▸ rfl

theorem dirty_of_published {t t' : Txn} {cat : Catalog} (h : t' = t ∨ t' = { catalog := cat, dirty := true }) :
    t' = t ∨ t'.dirty = true := h.imp_right fun e => by rw [e]

/-- there is no way to change a transaction without setting its dirty flag -/
theorem TxnCall.Runs.same_or_dirty {sch : SchemaEval} {t t' : Txn} {nu nu' : Nu} {m : TxnCall}
    (h : m.Runs sch t nu t' nu') : t' = t ∨ t'.dirty = true := by
  cases h with
  | none => exact .inl rfl
  | create e => exact (Txn.create_ok (ac := acOf sch) e).same_or_dirty
  | insert e => obtain ⟨_, _, _, _, _, rfl⟩ := Txn.insert_ok e; exact dirty_of_published (ite_eq_or ..)
  | bulk e => obtain ⟨_, _, _, _, _, rfl⟩ := Txn.bulk_ok e; exact dirty_of_published (ite_eq_or ..).symm
  | replace e => exact (Txn.replace_ok e).2.elim (.inl ·.1) fun ⟨_, _, h⟩ => h ▸ dirty_of_published (ite_eq_or ..).symm
  | update e => exact (Txn.update_ok e).2.elim (.inl ·.1) fun ⟨_, _, h⟩ => h ▸ dirty_of_published (ite_eq_or ..).symm
  | delete e => exact (Txn.delete_ok e).2.elim (.inl ·.1) fun ⟨_, _, h⟩ => h ▸ dirty_of_published (ite_eq_or ..).symm
  | createIndex e => exact (Txn.createIndex_ok (ac := acOf sch) e).same_or_dirty
  | dropIndex e => exact (Txn.dropIndex_ok (ac := acOf sch) e).same_or_dirty
  | dropIndexByKey e => exact (Txn.dropIndexByKey_ok (ac := acOf sch) e).same_or_dirty
  | drop e => exact (Txn.drop_ok e).elim (.inl ·.1) fun ⟨_, _, _, h⟩ => .inr (h ▸ rfl)
  | expire e => obtain ⟨_, _, rfl⟩ := Txn.expire_ok e; exact dirty_of_published (ite_eq_or ..).symm

/-- each primitive step of a transaction's catalog appends events to the oplog and does nothing else to it
    (the `True` is `CatStep`'s parameter `strict`: no delete runs in the oplog namespace itself) -/
theorem CatStep.ext {ac : ACtx} {a b : Catalog × Nu} (k : CatStep ac True a b) : ∃ es, Ext a.1 b.1 es := by
  induction k with
  | refl | discard => exact ⟨[], Ext.refl _⟩
  | trans _ _ ih1 ih2 =>
    obtain ⟨_, h1⟩ := ih1
    obtain ⟨_, h2⟩ := ih2
    exact ⟨_, h1.trans h2⟩
  | write hne => exact ⟨[], Ext.set _ _ _ (hne trivial)⟩
  | filter p hp => exact ⟨[], Ext.filter _ p fun ⟨_, c⟩ e => by cases e; exact hp c⟩
  | oplog => exact ⟨_, Ext.append ..⟩

/-- a transaction method either returns the transaction itself or a dirty one whose catalog is
    the old one with events appended -/
def TStep (t t' : Txn) : Prop := t' = t ∨ (t'.dirty = true ∧ ∃ es, Ext t.catalog t'.catalog es)

/-- every successful driver call, run on any transaction, returns the transaction itself or a dirty
    one whose catalog extends the oplog by appended events only -/
theorem runCall_step (sch : SchemaEval) (t0 t : Txn) (nu nu' : Nu) (c : Call) (r : Reply)
    (hp : OplogPlain t0.catalog) (hr : runCall sch t0 nu c = .ok (t, nu', r)) : TStep t0 t :=
  (runCall_runs hr).same_or_dirty.imp_right fun hd => ⟨hd, (runCall_steps_of (fun _ => hp) hr).ext⟩

/-- a call whose transaction is not dirty leaves the committed catalog unchanged -/
theorem Sys.commit_clean (s : Sys) (t : Txn) (nu : Nu) (h : t.dirty = false) : (s.commit t nu).catalog = s.catalog := by
  simp [Sys.commit, h]

theorem Sys.commit_dirty (s : Sys) (t : Txn) (nu : Nu) (h : t.dirty = true) : (s.commit t nu).catalog = t.catalog := by
  simp [Sys.commit, h]

/-- every successful driver call extends the oplog by appended events only -/
theorem Sys.step_ext (sch : SchemaEval) (s s' : Sys) (c : Call) (oids : List V) (r : Reply)
    (hp : OplogPlain s.catalog) (hr : Sys.step sch s c oids = .ok (s', r)) : ∃ es, Ext s.catalog s'.catalog es := by
  obtain ⟨t, nu, hrun, rfl⟩ := Sys.step_ok hr
  rcases runCall_step sch _ t _ nu c r hp hrun with rfl | ⟨hd, he⟩
  · exact ⟨[], Sys.commit_clean s { catalog := s.catalog } nu rfl ▸ Ext.refl _⟩
  · exact Sys.commit_dirty s t nu hd ▸ he

theorem eventTs_oplogEvent (k : Nat) (h : Handle) (op : String) (doc : Option Doc) (ch : Option (List (String × V))) :
    eventTs (oplogEvent k h op doc ch) = some (0, k) := by
  simp [eventTs, oplogEvent, getP, tsPath, get, getField]

theorem evDocs_ts (k : Nat) (es : List EvSpec) :
    (evDocs k es).map eventTs = (List.range' (k + 1) es.length).map fun j => some (0, j) := by
  induction es generalizing k with
  | nil => rfl
  | cons e r ih =>
    simp only [evDocs, List.map_cons, eventTs_oplogEvent, ih, List.length_cons, List.range'_succ]

/-- event ids are exactly `(0,1), (0,2), …, (0,clock)` in log order, and the oplog carries no TTL index -/
structure OplogInv (cat : Catalog) : Prop where
  ids : cat.oplog.map (fun sd => eventTs sd.doc) = (List.range' 1 cat.clock).map fun k => some (0, k)
  plain : OplogPlain cat

theorem OplogInv.init : OplogInv newCatalog := by
  refine ⟨by decide, ?_⟩
  intro hc hm _
  simp only [newCatalog, List.mem_singleton] at hm
  subst hm
  rfl

theorem OplogInv.ext {cat cat' : Catalog} {es : List EvSpec} (hi : OplogInv cat) (he : Ext cat cat' es) : OplogInv cat' := by
  refine ⟨?_, he.plain hi.plain⟩
  have hmap : ∀ l : List SDoc, l.map (fun sd => eventTs sd.doc) = (l.map (·.doc)).map eventTs := fun l => by
    rw [List.map_map]; rfl
  rw [hmap, he.oplog, List.map_append, ← hmap, hi.ids, evDocs_ts, he.clock, ← List.map_append]
  congr 1
  have := @List.range'_append 1 cat.clock es.length 1
  rwa [Nat.one_mul, Nat.add_comm 1 cat.clock] at this

/-- states reachable from the empty engine by successful driver calls -/
inductive Reachable (sch : SchemaEval) : Sys → Prop where
  | init : Reachable sch Sys.init
  | step {s s' : Sys} {c : Call} {oids : List V} {r : Reply} :
      Reachable sch s → Sys.step sch s c oids = .ok (s', r) → Reachable sch s'

theorem Reachable.inv {sch : SchemaEval} {s : Sys} (h : Reachable sch s) : OplogInv s.catalog := by
  induction h with
  | init => exact OplogInv.init
  | step _ hs ih =>
    obtain ⟨es, he⟩ := Sys.step_ext sch _ _ _ _ _ ih.plain hs
    exact ih.ext he

end Lungo
