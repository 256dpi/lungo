/-
  Lungo.Proofs.AccessLaws — laws of bsonkit's path access (get / put / Put / Unset), stated over
  segment lists (`Path`).

  One level of a value is described once, in the vocabulary every user of paths shares: the child a
  segment addresses (`slot?`: the first field of that name, `Doc.find?`; the element at the parsed
  index), `child` (Missing where there is none), and `store`, which puts a child back (`upsert` on a
  document).  `get_cons` and `put_cons` say what one step of `get` (with and without fan-out) and of
  `put` does in these terms; the laws of a whole path are inductions on the path over the one-level
  laws (`Slot`, `child_store_other`), and what holds of every part of a value is inherited by what
  `get` returns (`get_part`).
-/
import Lungo.Model.Access
import Lungo.Proofs.ValueTree
namespace Lungo

theorem splitOnAux_ne_nil (s sep : String) (b i j : String.Pos.Raw) (r : List String) :
    String.splitOnAux s sep b i j r ≠ [] := by
  fun_induction String.splitOnAux s sep b i j r <;> simp_all

theorem splitPath_ne_nil (s : String) : splitPath s ≠ [] := by
  unfold splitPath String.splitOn
  split
  · simp
  · exact splitOnAux_ne_nil _ _ _ _ _ _

theorem listSet_eq_set {α} (l : List α) (n : Nat) (x : α) : listSet l n x = l.set n x := by
  induction l generalizing n with
  | nil => rfl
  | cons a r ih => cases n with
    | zero => rfl
    | succ n => simp [listSet, ih]

def upsert : Doc → String → V → Doc
  | [], k, v => [(k, v)]
  | (k', x) :: r, k, v => if k' == k then (k', v) :: r else (k', x) :: upsert r k v

theorem find_upsert (fs : Doc) (key : String) (nv : V) (k : String) :
    Doc.find? (upsert fs key nv) k = if k = key then some nv else Doc.find? fs k := by
  induction fs with
  | nil => grind [upsert, Doc.find?]
  | cons kv r ih => grind [upsert, Doc.find?]

theorem find_erase_ne (fs : Doc) {key k : String} (h : k ≠ key) :
    Doc.find? (fs.eraseP (·.1 == key)) k = Doc.find? fs k := by
  induction fs with
  | nil => rfl
  | cons kv r ih => grind [Doc.find?]

theorem erase_of_find_none {fs : Doc} {key : String} (h : Doc.find? fs key = none) :
    fs.eraseP (·.1 == key) = fs := by
  induction fs with
  | nil => rfl
  | cons kv r ih => grind [Doc.find?]

theorem upsert_self {fs : Doc} {key : String} {c : V} (h : Doc.find? fs key = some c) : upsert fs key c = fs := by
  induction fs with
  | nil => cases h
  | cons kv r ih => grind [upsert, Doc.find?]

theorem fieldIndex_some {fs : Doc} {key : String} {i : Nat} (h : fieldIndex fs key = some i) :
    ∃ old, fs[i]? = some (key, old) ∧ Doc.find? fs key = some old ∧
      (∀ nv, fs.set i (key, nv) = upsert fs key nv) ∧ fs.eraseIdx i = fs.eraseP (·.1 == key) := by
  induction fs generalizing i with
  | nil => simp [fieldIndex] at h
  | cons kv r ih =>
    simp only [fieldIndex, List.findIdx?_cons] at h ih
    by_cases hk : (kv.1 == key) = true
    · obtain rfl : kv.1 = key := by simpa using hk
      simp only [hk, if_true, Option.some.injEq] at h; subst h
      exact ⟨kv.2, rfl, by simp [Doc.find?], fun nv => by simp [upsert], by simp⟩
    · simp only [hk, Bool.false_eq_true, if_false, Option.map_eq_some_iff] at h
      obtain ⟨j, hj, rfl⟩ := h
      obtain ⟨old, h1, h2, h3, h4⟩ := ih hj
      exact ⟨old, by simpa using h1, by simp [Doc.find?, hk, h2], fun nv => by simp [upsert, hk, h3],
        by simp [hk, h4]⟩

theorem fieldIndex_none {fs : Doc} {key : String} (h : fieldIndex fs key = none) :
    Doc.find? fs key = none ∧ ∀ nv, upsert fs key nv = fs ++ [(key, nv)] := by
  induction fs with
  | nil => exact ⟨rfl, fun _ => rfl⟩
  | cons kv r ih =>
    simp only [fieldIndex, List.findIdx?_cons] at h ih
    by_cases hk : (kv.1 == key) = true
    · simp [hk] at h
    · simp only [hk, Bool.false_eq_true, if_false, Option.map_eq_none_iff] at h
      obtain ⟨h1, h2⟩ := ih h
      exact ⟨by simp [Doc.find?, hk, h1], fun nv => by simp [upsert, hk, h2]⟩

/-! ### one level of a value -/

/-- the child that segment `key` addresses in `v`, if there is one: the first field of that name, the
    element at the index the segment parses to (`ParseIndex`) -/
def slot? (v : V) (key : String) : Option V :=
  match v with
  | .doc fs => Doc.find? fs key
  | .arr xs =>
    match parseIndex key with
    | some i => xs[i]?
    | none => none
  | _ => none

/-- the value one segment down, as `get` without fan-out sees it: Missing where there is no child -/
def child (v : V) (key : String) : V := (slot? v key).getD .missing

theorem get_nil (v : V) (c k : Bool) : get v [] c k = (v, false) := by
  rw [get]

theorem get_missing (p : Path) (c k : Bool) : get .missing p c k = (.missing, false) := by
  cases p with
  | nil => exact get_nil _ _ _
  | cons a r => simp only [get]; split <;> rfl

theorem get_guard (v : V) (b : String) (q : Path) (c k : Bool) (h : (b == "" && q.isEmpty) = true) :
    get v (b :: q) c k = (.missing, false) := by
  unfold get; simp [h]

theorem getIdx_eq (xs : List V) (i : Nat) (rest : Path) (c k : Bool) :
    getIdx xs i rest c k = (xs[i]?).map (fun v => get v rest c k) := by
  induction xs generalizing i with
  | nil => simp [getIdx]
  | cons x r ih =>
    cases i with
    | zero => simp [getIdx]
    | succ n => simp [getIdx, ih]

theorem getField_find (fs : List (String × V)) (key : String) (rest : Path) (c k : Bool) :
    getField fs key rest c k = match Doc.find? fs key with
      | some v => get v rest c k
      | none => (.missing, false) := by
  induction fs with
  | nil => rfl
  | cons kv r ih =>
    obtain ⟨k', v⟩ := kv
    simp only [getField, Doc.find?]
    split
    · rfl
    · exact ih

/-- one step of `get`: into the child if the segment addresses one; else an array is fanned out over when
    collecting, and everything else is Missing -/
theorem get_cons (v : V) (key : String) (rest : Path) (c k : Bool) (h : ¬(key == "" && rest.isEmpty) = true) :
    get v (key :: rest) c k =
      match slot? v key with
      | some w => get w rest c k
      | none =>
        match v with
        | .arr xs => if c then (.arr (getCollect xs key rest c k), true) else (.missing, false)
        | _ => (.missing, false) := by
  cases v with
  | doc fs => simp only [get, h, slot?, getField_find]; cases Doc.find? fs key <;> rfl
  | arr xs =>
    simp only [get, h, slot?, getIdx_eq]
    cases parseIndex key with
    | none => simp
    | some i => cases hx : xs[i]? <;> simp [hx]
  | _ => simp only [get, slot?, h, if_false, Bool.false_eq_true]

/-- without fan-out `get` reads from the child -/
theorem get_child (v : V) (key : String) (rest : Path) (k : Bool) (h : ¬(key == "" && rest.isEmpty) = true) :
    get v (key :: rest) false k = get (child v key) rest false k := by
  rw [get_cons _ _ _ _ _ h, child]
  cases slot? v key with
  | some w => rfl
  | none => cases v <;> exact (get_missing _ _ _).symm

/-! one step of `get` on a document and on an array in the model's own terms (`Doc.find?`, `parseIndex`), and `getField`
    after the two ways `put` changes a document -/

theorem get_doc_find (fs : List (String × V)) (key : String) (rest : Path) (c k : Bool)
    (h : ¬(key == "" && rest.isEmpty) = true) :
    get (.doc fs) (key :: rest) c k = match Doc.find? fs key with
      | some v => get v rest c k
      | none => (.missing, false) := by
  rw [get_cons _ _ _ _ _ h, slot?]

theorem get_arr_index (xs : List V) (key : String) (rest : Path) (c k : Bool)
    (h : ¬(key == "" && rest.isEmpty) = true) :
    get (.arr xs) (key :: rest) c k = match (parseIndex key).bind (xs[·]?) with
      | some v => get v rest c k
      | none => if c then (.arr (getCollect xs key rest c k), true) else (.missing, false) := by
  rw [get_cons _ _ _ _ _ h, slot?]
  cases parseIndex key <;> rfl

theorem getField_upsert (fs : Doc) (key : String) (nv : V) (b : String) (q : Path) (c k : Bool) :
    getField (upsert fs key nv) b q c k = if b = key then get nv q c k else getField fs b q c k := by
  simp only [getField_find, find_upsert]
  by_cases h : b = key <;> simp only [h, if_true, if_false]

theorem getField_erase (fs : Doc) {key b : String} (h : b ≠ key) (q : Path) (c k : Bool) :
    getField (fs.eraseP (·.1 == key)) b q c k = getField fs b q c k := by
  rw [getField_find, getField_find, find_erase_ne fs h]

/-- what one item adds to the result of the fan-out loop: nothing (compact) for Missing, its elements for an
    array that itself comes from a fan-out (compact), else itself -/
def collectItem (compact : Bool) (g : V × Bool) : List V :=
  if g.1.isMissing then (if compact then [] else [g.1]) else
  match g.1 with
  | .arr a => if g.2 && compact then a else [g.1]
  | _ => [g.1]

theorem getCollect_eq (xs : List V) (key : String) (rest : Path) (c k : Bool) :
    getCollect xs key rest c k = xs.flatMap fun x => collectItem k (get x (key :: rest) c k) := by
  induction xs with
  | nil => rw [getCollect]; rfl
  | cons x r ih =>
    rw [getCollect, List.flatMap_cons, ← ih, collectItem]
    generalize get x (key :: rest) c k = g
    obtain ⟨value, nested⟩ := g
    cases value with
    | missing => cases k <;> rfl
    | arr a => cases nested <;> cases k <;> rfl
    | _ => rfl

theorem slot?_mem {v : V} {key : String} {w : V} (h : slot? v key = some w) : w ∈ v.members := by
  cases v with
  | doc fs =>
    simp only [slot?] at h
    induction fs with
    | nil => cases h
    | cons kv r ih =>
      simp only [Doc.find?] at h
      split at h
      · cases h; exact List.mem_cons_self
      · exact List.mem_cons_of_mem _ (ih h)
  | arr xs =>
    simp only [slot?] at h
    split at h
    · exact List.mem_of_getElem? h
    · cases h
  | _ => cases h

theorem child_part {P : V → Prop} (hm : P .missing) (mem : ∀ v, P v → ∀ w ∈ v.members, P w) {v : V}
    (key : String) (hv : P v) : P (child v key) := by
  unfold child
  cases hs : slot? v key with
  | none => exact hm
  | some w => exact mem v hv w (slot?_mem hs)

/-- an item is offered itself, or — an array — through its elements -/
theorem collectItem_part {P : V → Prop} (mem : ∀ v, P v → ∀ w ∈ v.members, P w) {k : Bool} {g : V × Bool}
    (h : P g.1) : ∀ y ∈ collectItem k g, P y := by
  intro y hy
  unfold collectItem at hy
  split at hy
  · split at hy
    · cases hy
    · rwa [List.mem_singleton.mp hy]
  · split at hy
    · rename_i a ha
      split at hy
      · exact mem _ h y (by rw [ha]; exact hy)
      · rwa [List.mem_singleton.mp hy]
    · rwa [List.mem_singleton.mp hy]

/-- What `get` returns is put together from parts of the value: a property of values that Missing has,
    that the members of a value inherit and that an array has when its elements do, is inherited by
    what `get` returns, with or without fan-out. -/
theorem get_part {P : V → Prop} (hm : P .missing) (mem : ∀ v, P v → ∀ w ∈ v.members, P w)
    (arr : ∀ xs, (∀ x ∈ xs, P x) → P (.arr xs)) (c k : Bool) :
    ∀ (v : V) (p : Path), P v → P (get v p c k).1 := by
  refine V.induct fun v ih p hv => ?_
  cases p with
  | nil => rwa [get_nil]
  | cons key rest =>
    by_cases hg : (key == "" && rest.isEmpty) = true
    · rwa [get_guard _ _ _ _ _ hg]
    rw [get_cons _ _ _ _ _ hg]
    cases hs : slot? v key with
    | some w => exact ih w (slot?_mem hs) rest (mem v hv w (slot?_mem hs))
    | none =>
      cases v with
      | arr xs =>
        cases c with
        | false => exact hm
        | true =>
          refine arr _ fun y hy => ?_
          rw [getCollect_eq] at hy
          obtain ⟨x, hx, hy⟩ := List.mem_flatMap.mp hy
          exact collectItem_part mem (ih x hx (key :: rest) (mem _ hv x hx)) y hy
      | _ => exact hm

/-- … and by what `All` returns: merging replaces arrays among the collected values by their elements -/
theorem All_part {P : V → Prop} (hm : P .missing) (mem : ∀ v, P v → ∀ w ∈ v.members, P w)
    (arr : ∀ xs, (∀ x ∈ xs, P x) → P (.arr xs)) (d : Doc) (path : Path) (compact merge : Bool) (h : P (.doc d)) :
    P (All d path compact merge).1 := by
  have h0 := get_part hm mem arr true compact (.doc d) path h
  simp only [All]
  split
  · exact h0
  · split
    · rename_i array harr
      rw [harr] at h0
      refine arr _ fun y hy => ?_
      have h1 := mem _ h0
      clear harr h0
      revert hy
      induction array with
      | nil => exact fun hy => nomatch hy
      | cons item r ih =>
        intro hy
        simp only [V.members, List.forall_mem_cons] at h1
        simp only [List.foldr_cons] at hy
        split at hy
        · exact (List.mem_append.mp hy).elim (mem _ h1.1 y) (ih h1.2)
        · exact (List.mem_cons.mp hy).elim (fun e => e ▸ h1.1) (ih h1.2)
    · exact h0

/-! ### `put`, one step -/

theorem put_nil (v x : V) (pre : Bool) : put v [] x pre = .ok (x, v) := by
  rw [put]

/-- `put` may descend below segment `key` of `v`: to write (`x` present) it needs a document, an
    array index within `MaxArrayPadding` of the end, or nothing at all (a document is created);
    to remove (`x` Missing) it needs the field or element to be there. -/
def admitsPut (v : V) (key : String) (x : V) : Bool :=
  match v with
  | .doc fs => (Doc.find? fs key).isSome || !x.isMissing
  | .arr xs =>
    match parseIndex key with
    | some idx =>
      if idx == maxInt then false        -- math.MaxInt is rejected
      else if idx < xs.length then true
      else !x.isMissing && !decide (idx - xs.length > maxArrayPadding)
    | none => false
  | .missing => !x.isMissing
  | _ => false

/-- `v` with `c` put back as its child `key`: the field replaced in place or added (in front when
    `pre`), the element replaced or padded up to with nulls; a Missing `c` removes the field and
    nulls the element. -/
def store (v : V) (key : String) (c : V) (pre : Bool) : V :=
  match v with
  | .doc fs =>
    if (Doc.find? fs key).isSome then
      if c.isMissing then .doc (fs.eraseP (·.1 == key)) else .doc (upsert fs key c)
    else if pre then .doc ((key, c) :: fs) else .doc (upsert fs key c)
  | .arr xs =>
    match parseIndex key with
    | some idx =>
      if idx < xs.length then .arr (xs.set idx (if c.isMissing then .null else c))
      else .arr (xs ++ List.replicate (idx - xs.length) .null ++ [if c.isMissing then .null else c])
    | none => v
  | _ => .doc [(key, c)]

theorem put_missing_prev {p : Path} {x nv prev : V} {pre : Bool}
    (h : put .missing p x pre = .ok (nv, prev)) : prev = .missing := by
  cases p with
  | nil => rw [put_nil] at h; cases h; rfl
  | cons key rest =>
    rw [put] at h
    split at h
    · cases h
    · split at h
      · cases h
      · split at h <;> cases h
        rfl

theorem put_cons (v : V) (key : String) (rest : Path) (x : V) (pre : Bool) :
    put v (key :: rest) x pre =
      if (key == "" && rest.isEmpty) = true ∨ admitsPut v key x = false then .error .err else
      match put (child v key) rest x pre with
      | .ok (c, prev) => .ok (store v key c pre, prev)
      | .error e => .error e := by
  cases v with
  | doc fs =>
    rw [put]
    by_cases hk : (key == "" && rest.isEmpty) = true
    · simp [hk]
    cases hi : fieldIndex fs key with
    | some i =>
      obtain ⟨old, he, hf, hs, her⟩ := fieldIndex_some hi
      simp only [hk, admitsPut, child, slot?, Option.getD_some, store, hf, he, listSet_eq_set, hs, her]
      cases hp : put old rest x pre with
      | error e => simp
      | ok r => cases hm : r.1.isMissing <;> simp [hm]
    | none =>
      obtain ⟨hf, hu⟩ := fieldIndex_none hi
      simp only [hk, admitsPut, child, slot?, Option.getD_none, store, hf, hu]
      cases hx : x.isMissing with
      | true => simp
      | false =>
        cases hc : put .missing rest x pre with
        | error e => simp
        | ok r => cases pre <;> simp [put_missing_prev hc]
  | arr xs =>
    rw [put]
    by_cases hk : (key == "" && rest.isEmpty) = true
    · simp [hk]
    cases hp : parseIndex key with
    | none => simp [hk, admitsPut, hp]
    | some idx =>
      simp only [hk, admitsPut, child, slot?, store, hp]
      by_cases hmax : (idx == maxInt) = true
      · simp [hmax]
      by_cases hlt : idx < xs.length
      · simp only [hmax, hlt, List.getElem?_eq_getElem hlt, listSet_eq_set, Option.getD_some]
        cases hp : put xs[idx] rest x pre <;> simp
      · rw [List.getElem?_eq_none (Nat.le_of_not_lt hlt), Option.getD_none]
        cases hx : x.isMissing with
        | true => simp [hmax, hlt]
        | false =>
          by_cases hpad : idx - xs.length > maxArrayPadding
          · simp [hmax, hlt, hpad]
          · cases hc : put .missing rest x pre with
            | error e => simp [hmax, hlt, hpad]
            | ok r => simp [hmax, hlt, hpad, put_missing_prev hc]
  | missing =>
    rw [put]
    by_cases hk : (key == "" && rest.isEmpty) = true
    · simp [hk]
    simp only [hk, admitsPut, child, slot?, Option.getD_none, store]
    cases hx : x.isMissing with
    | true => simp
    | false =>
      cases hc : put .missing rest x pre with
      | error e => simp
      | ok r => simp [put_missing_prev hc]
  | _ => simp only [put, admitsPut, ite_self, or_true, if_true]

/-! one step of `put` on a document and on an array in the model's own terms: hit, miss, removal, padding -/

theorem put_doc_find (fs : Doc) (key : String) (rest : Path) (x : V) (pre : Bool)
    (h : ¬(key == "" && rest.isEmpty) = true) :
    put (.doc fs) (key :: rest) x pre =
      match Doc.find? fs key with
      | some old =>
        match put old rest x pre with
        | .ok (nv, prev) => .ok (.doc (if nv.isMissing then fs.eraseP (·.1 == key) else upsert fs key nv), prev)
        | .error e => .error e
      | none =>
        if x.isMissing then .error .err else
        match put .missing rest x pre with
        | .ok (nv, prev) => .ok (.doc (if pre then (key, nv) :: fs else upsert fs key nv), prev)
        | .error e => .error e := by
  rw [put_cons]
  cases hf : Doc.find? fs key with
  | some old =>
    simp only [h, admitsPut, child, slot?, store, hf, Option.isSome_some, Bool.true_or, Option.getD_some]
    cases put old rest x pre with
    | error e => simp
    | ok r => cases hm : r.1.isMissing <;> simp [hm]
  | none =>
    simp only [h, admitsPut, child, slot?, store, hf, Option.isSome_none, Bool.false_or, Option.getD_none]
    cases hx : x.isMissing with
    | true => simp
    | false =>
      cases put .missing rest x pre with
      | error e => simp
      | ok r => cases pre <;> simp

theorem put_arr_index (xs : List V) (key : String) (rest : Path) (x : V) (pre : Bool)
    (h : ¬(key == "" && rest.isEmpty) = true) :
    put (.arr xs) (key :: rest) x pre =
      match parseIndex key with
      | none => .error .err
      | some idx =>
        if idx == maxInt then .error .err else
        match xs[idx]? with
        | some old =>
          match put old rest x pre with
          | .ok (nv, prev) => .ok (.arr (xs.set idx (if nv.isMissing then .null else nv)), prev)
          | .error e => .error e
        | none =>
          if x.isMissing || decide (idx - xs.length > maxArrayPadding) then .error .err else
          match put .missing rest x pre with
          | .ok (nv, prev) =>
            .ok (.arr (xs ++ List.replicate (idx - xs.length) .null ++ [if nv.isMissing then .null else nv]), prev)
          | .error e => .error e := by
  rw [put_cons]
  cases hp : parseIndex key with
  | none => simp [admitsPut, hp]
  | some idx =>
    simp only [h, admitsPut, child, slot?, store, hp]
    by_cases hmax : (idx == maxInt) = true
    · simp [hmax]
    by_cases hlt : idx < xs.length
    · simp only [hmax, hlt, List.getElem?_eq_getElem hlt, Option.getD_some]
      cases put xs[idx] rest x pre <;> simp
    · rw [List.getElem?_eq_none (Nat.le_of_not_lt hlt), Option.getD_none]
      cases hx : x.isMissing with
      | true => simp [hmax, hlt]
      | false =>
        by_cases hpad : idx - xs.length > maxArrayPadding
        · simp [hmax, hlt, hpad]
        · cases put .missing rest x pre <;> simp [hmax, hlt, hpad]
theorem put_cons_ok {v : V} {key : String} {rest : Path} {x nv prev : V} {pre : Bool}
    (h : put v (key :: rest) x pre = .ok (nv, prev)) :
    ¬(key == "" && rest.isEmpty) = true ∧ admitsPut v key x = true ∧
      ∃ c, put (child v key) rest x pre = .ok (c, prev) ∧ nv = store v key c pre := by
  rw [put_cons] at h
  split at h
  · cases h
  · rename_i hg
    split at h
    · cases h; exact ⟨fun hk => hg (.inl hk), by simpa using fun ha => hg (.inr ha), _, ‹_›, rfl⟩
    · cases h

/-- `put` never panics: its only error is the plain error. -/
theorem put_error_err (v : V) (p : Path) (x : V) (pre : Bool) (e : Err)
    (h : put v p x pre = .error e) : e = .err := by
  induction p generalizing v with
  | nil => rw [put_nil] at h; cases h
  | cons key rest ih =>
    rw [put_cons] at h
    split at h
    · cases h; rfl
    · split at h
      · cases h
      · cases h; exact ih _ ‹_›

/-- what comes back is a document, or — from an array — an array -/
theorem store_node (v : V) (key : String) (c : V) (pre : Bool) :
    (∃ fs, store v key c pre = .doc fs) ∨ (v.isArr = true ∧ ∃ xs, store v key c pre = .arr xs) := by
  unfold store
  split
  · left; split <;> split <;> exact ⟨_, rfl⟩
  · right; split
    · split <;> exact ⟨rfl, _, rfl⟩
    · exact ⟨rfl, _, rfl⟩
  · exact .inl ⟨_, rfl⟩

theorem store_isMissing (v : V) (key : String) (c : V) (pre : Bool) : (store v key c pre).isMissing = false := by
  rcases store_node v key c pre with ⟨_, e⟩ | ⟨_, _, e⟩ <;> rw [e] <;> rfl

/-- only an empty path makes `put` return the "remove me" marker. -/
theorem put_missing_nil (v : V) (p : Path) (x : V) (pre : Bool) (nv prev : V)
    (h : put v p x pre = .ok (nv, prev)) (hm : nv.isMissing = true) : p = [] := by
  cases p with
  | nil => rfl
  | cons key rest =>
    obtain ⟨_, _, c, _, rfl⟩ := put_cons_ok h
    rw [store_isMissing] at hm; cases hm

theorem put_not_missing (v : V) (p : Path) (x : V) (pre : Bool) (nv prev : V)
    (h : put v p x pre = .ok (nv, prev)) (hx : x.isMissing = false) : nv.isMissing = false := by
  cases hm : nv.isMissing with
  | false => rfl
  | true =>
    rw [put_missing_nil _ _ _ _ _ _ h hm, put_nil] at h
    cases h; rw [hx] at hm; cases hm

theorem put_doc_isDoc (fs : List (String × V)) (key : String) (rest : Path) (x : V) (pre : Bool)
    (nv prev : V) (h : put (.doc fs) (key :: rest) x pre = .ok (nv, prev)) : ∃ fs', nv = .doc fs' := by
  obtain ⟨_, _, c, _, rfl⟩ := put_cons_ok h
  exact (store_node (.doc fs) key c pre).resolve_right fun h => nomatch h.1

/-- below a non-empty path `put` returns a document or an array -/
theorem put_cons_container (v : V) (key : String) (rest : Path) (x : V) (pre : Bool) (nv prev : V)
    (h : put v (key :: rest) x pre = .ok (nv, prev)) : (∃ fs, nv = .doc fs) ∨ ∃ xs, nv = .arr xs := by
  obtain ⟨_, _, c, _, rfl⟩ := put_cons_ok h
  exact (store_node v key c pre).imp id (·.2)

theorem admitsPut_arr {xs : List V} {key : String} {x : V} (ha : admitsPut (.arr xs) key x = true) :
    ∃ idx, parseIndex key = some idx ∧ (idx == maxInt) = false ∧ (x.isMissing = true → idx < xs.length) := by
  simp only [admitsPut] at ha
  split at ha
  · rename_i idx hp
    refine ⟨idx, hp, ?_⟩
    split at ha
    · cases ha
    · rename_i hmax
      refine ⟨by simpa using hmax, fun hx => ?_⟩
      split at ha
      · assumption
      · simp [hx] at ha
  · cases ha

/-! ### the laws of one level -/

/-- `v` holds `c` in the slot that `key` addresses, and `put` may write there -/
def Slot (v : V) (key : String) (c : V) : Prop := slot? v key = some c ∧ ∀ x, admitsPut v key x = true

theorem Slot.doc {fs : Doc} {key : String} {c : V} (h : Doc.find? fs key = some c) : Slot (.doc fs) key c :=
  ⟨h, fun _ => by simp only [admitsPut, h, Option.isSome_some, Bool.true_or]⟩

theorem Slot.arr {xs : List V} {key : String} {idx : Nat} {c : V} (hp : parseIndex key = some idx)
    (hmax : (idx == maxInt) = false) (he : xs[idx]? = some c) : Slot (.arr xs) key c :=
  ⟨by simp only [slot?, hp, he], fun _ => by
    simp only [admitsPut, hp, hmax, (List.getElem?_eq_some_iff.mp he).1, if_true, Bool.false_eq_true, if_false]⟩

theorem Slot.child {v : V} {key : String} {c : V} (h : Slot v key c) : child v key = c := by
  rw [Lungo.child, h.1]; rfl

theorem Slot.store_self {v : V} {key : String} {c : V} (h : Slot v key c) (hm : c.isMissing = false)
    (pre : Bool) : store v key c pre = v := by
  obtain ⟨h, -⟩ := h
  cases v with
  | doc fs => simp only [slot?] at h; simp only [store, h, hm, Option.isSome_some, if_true, Bool.false_eq_true, if_false, upsert_self h]
  | arr xs =>
    simp only [slot?] at h
    split at h
    · rename_i hp
      obtain ⟨hlt, rfl⟩ := List.getElem?_eq_some_iff.mp h
      simp only [store, hp, hlt, hm, if_true, Bool.false_eq_true, if_false, List.set_getElem_self]
    · cases h
  | _ => cases h

/-- the element written by array padding is where the index says. -/
theorem getElem?_pad {α} (xs : List α) {idx : Nat} (a e : α) (h : xs.length ≤ idx) :
    (xs ++ List.replicate (idx - xs.length) a ++ [e])[idx]? = some e := by
  rw [List.getElem?_append_right (by simp; omega)]
  have : idx - (xs ++ List.replicate (idx - xs.length) a).length = 0 := by simp; omega
  rw [this]; rfl

theorem store_slot {v : V} {key : String} {x c : V} (pre : Bool) (ha : admitsPut v key x = true)
    (hm : c.isMissing = false) : Slot (store v key c pre) key c := by
  cases v with
  | doc fs =>
    simp only [store, hm, Bool.false_eq_true, if_false]
    split
    · exact .doc (by rw [find_upsert, if_pos rfl])
    · split
      · exact .doc (by rw [Doc.find?, if_pos (beq_self_eq_true key)])
      · exact .doc (by rw [find_upsert, if_pos rfl])
  | arr xs =>
    obtain ⟨idx, hp, hmax, _⟩ := admitsPut_arr ha
    simp only [store, hp, hm, Bool.false_eq_true, if_false]
    split
    · exact .arr hp hmax (List.getElem?_set_self ‹_›)
    · exact .arr hp hmax (getElem?_pad xs _ _ (Nat.le_of_not_lt ‹_›))
  | _ => exact .doc (by rw [Doc.find?, if_pos (beq_self_eq_true key)])

theorem mem_upsert {fs : Doc} {key : String} {c w : V} (h : w ∈ (upsert fs key c).map (·.2)) :
    w ∈ fs.map (·.2) ∨ w = c := by
  induction fs with
  | nil => exact .inr (by simpa [upsert] using h)
  | cons a r ih => grind [upsert]

/-- the members of a value with a child put back are members of the value, the child, or null -/
theorem store_members {v : V} {key : String} {c : V} {pre : Bool} {w : V} (h : w ∈ (store v key c pre).members) :
    w ∈ v.members ∨ w = c ∨ w = .null := by
  cases v with
  | doc fs =>
    simp only [store] at h
    split at h
    · split at h
      · exact .inl ((List.eraseP_sublist.map _).subset h)
      · exact (mem_upsert h).elim .inl (.inr ∘ .inl)
    · split at h
      · exact (List.mem_cons.mp h).elim (.inr ∘ .inl) .inl
      · exact (mem_upsert h).elim .inl (.inr ∘ .inl)
  | arr xs =>
    simp only [store] at h
    have e : ∀ x : V, x = (if c.isMissing then V.null else c) → x = c ∨ x = .null := fun x hx => by
      rw [hx]; split <;> simp
    split at h
    · split at h
      · exact (List.mem_or_eq_of_mem_set h).imp_right (e _)
      · simp only [V.members, List.mem_append, List.mem_replicate, List.mem_singleton] at h
        rcases h with (h | h) | h
        · exact .inl h
        · exact .inr (.inr h.2)
        · exact .inr (e _ h)
    · exact .inl h
  | _ =>
    all_goals
      simp only [store, V.members, List.map_cons, List.map_nil, List.mem_singleton] at h
      exact .inr (.inl h)

/-- `put` only rearranges: a property of values that Missing and null have, that members inherit and that
    documents and arrays have when their members do holds of the new value and of the previous one. -/
theorem put_part {P : V → Prop} (hm : P .missing) (hnull : P .null) (mem : ∀ v, P v → ∀ w ∈ v.members, P w)
    (doc : ∀ fs : List (String × V), (∀ w ∈ (V.doc fs).members, P w) → P (.doc fs))
    (arr : ∀ xs, (∀ x ∈ xs, P x) → P (.arr xs))
    {x : V} (hx : P x) {pre : Bool} :
    ∀ (p : Path) (v nv prev : V), P v → put v p x pre = .ok (nv, prev) → P nv ∧ P prev := by
  intro p
  induction p with
  | nil => intro v nv prev hv h; rw [put_nil] at h; cases h; exact ⟨hx, hv⟩
  | cons key rest ih =>
    intro v nv prev hv h
    obtain ⟨-, -, c, hc, rfl⟩ := put_cons_ok h
    have hch := child_part hm mem key hv
    obtain ⟨h1, h2⟩ := ih _ _ _ hch hc
    have hmem : ∀ w ∈ (store v key c pre).members, P w := fun w hw => by
      rcases store_members hw with h | rfl | rfl
      · exact mem v hv w h
      · exact h1
      · exact hnull
    refine ⟨?_, h2⟩
    rcases store_node v key c pre with ⟨fs, e⟩ | ⟨-, xs, e⟩ <;> rw [e] at hmem ⊢
    · exact doc fs hmem
    · exact arr xs hmem

/-- No side condition on the path: `put` and `get` parse array indexes identically (ParseIndex). -/
theorem get_put_same (v : V) (p : Path) (x : V) (pre : Bool) (nv prev : V) (k : Bool)
    (h : put v p x pre = .ok (nv, prev)) (hx : x.isMissing = false) :
    get nv p false k = (x, false) := by
  induction p generalizing v nv prev with
  | nil => rw [put_nil] at h; cases h; exact get_nil _ _ _
  | cons key rest ih =>
    obtain ⟨hk, ha, c, hc, rfl⟩ := put_cons_ok h
    rw [get_child _ _ _ _ hk, (store_slot pre ha (put_not_missing _ _ _ _ _ _ hc hx)).child]
    exact ih _ _ _ hc

theorem put_idempotent (v : V) (p : Path) (x : V) (pre : Bool) (nv prev : V)
    (h : put v p x pre = .ok (nv, prev)) (hx : x.isMissing = false) :
    put nv p x pre = .ok (nv, x) := by
  induction p generalizing v nv prev with
  | nil => rw [put_nil] at h; cases h; exact put_nil _ _ _
  | cons key rest ih =>
    obtain ⟨hk, ha, c, hc, rfl⟩ := put_cons_ok h
    have hm := put_not_missing _ _ _ _ _ _ hc hx
    have S := store_slot pre ha hm
    rw [put_cons, if_neg (by simp [hk, S.2]), S.child, ih _ _ _ hc]
    simp only [S.store_self hm]

/-- `bsonkit.Put` never panics on a non-empty path (the type assertion `v.(bson.D)` holds). -/
theorem Put_error_err (d : Doc) (p : Path) (x : V) (pre : Bool) (e : Err) (hp : p ≠ [])
    (h : Put d p x pre = .error e) : e = .err := by
  unfold Put at h
  split at h
  · cases h; rfl
  · split at h
    · cases h
    · rename_i hne hput
      cases p with
      | nil => exact absurd rfl hp
      | cons key rest =>
        obtain ⟨fs', e'⟩ := put_doc_isDoc _ _ _ _ _ _ _ hput
        exact (hne _ e').elim
    · rename_i hput; cases h; exact put_error_err _ _ _ _ _ hput

theorem Put_ok_iff (d : Doc) (p : Path) (x : V) (pre : Bool) (d' : Doc) (prev : V) :
    Put d p x pre = .ok (d', prev) ↔
      (x.isMissing = false ∧ put (.doc d) p x pre = .ok (.doc d', prev)) := by
  unfold Put
  constructor
  · intro h
    split at h
    · cases h
    · rename_i hx
      split at h
      · rename_i hput; cases h; exact ⟨by simpa using hx, hput⟩
      · cases h
      · cases h
  · rintro ⟨hx, hput⟩
    simp [hx, hput]

/-- the result of `put` on a document in the terms `put` itself uses (index of the field) -/
theorem put_doc_shape (fs : List (String × V)) (key : String) (rest : Path) (x : V) (pre : Bool)
    (nv prev : V) (h : put (.doc fs) (key :: rest) x pre = .ok (nv, prev)) :
    match fieldIndex fs key with
    | some i => ∃ old, fs[i]? = some (key, old) ∧
        ((x.isMissing = true ∧ nv = .doc (fs.eraseIdx i)) ∨ ∃ nvc, nv = .doc (fs.set i (key, nvc)))
    | none => x.isMissing = false ∧ ∃ nvc, nv = .doc (if pre then (key, nvc) :: fs else fs ++ [(key, nvc)]) := by
  obtain ⟨_, ha, c, hc, rfl⟩ := put_cons_ok h
  simp only [store, admitsPut] at ha ⊢
  cases hi : fieldIndex fs key with
  | some i =>
    obtain ⟨old, he, hf, hs, her⟩ := fieldIndex_some hi
    refine ⟨old, he, ?_⟩
    simp only [hf, Option.isSome_some, if_true, hs, her]
    cases hm : c.isMissing with
    | false => exact .inr ⟨c, by simp⟩
    | true =>
      refine .inl ⟨?_, by simp⟩
      cases hx : x.isMissing with
      | true => rfl
      | false => rw [put_not_missing _ _ _ _ _ _ hc hx] at hm; cases hm
  | none =>
    obtain ⟨hf, hu⟩ := fieldIndex_none hi
    rw [hf] at ha
    exact ⟨by simpa using ha, c, by simp only [hf, hu]; cases pre <;> rfl⟩

theorem Unset_eq (d : Doc) (key : String) (rest : Path) :
    Unset d (key :: rest) =
      match put (.doc d) (key :: rest) .missing false with
      | .ok (nv, prev) => (match nv with | .doc d' => (d', prev) | _ => (d, .missing))
      | .error _ => (d, .missing) := by
  unfold Unset
  split
  · rename_i h; rw [h]
  · rename_i hne
    split
    · split
      · rename_i h; exact (hne _ _ h).elim
      · rfl
    · rfl

mutual
/-- no document inside the value has two fields with the same key. -/
def V.nodupKeys : V → Bool
  | .doc fs => nodupFields fs
  | .arr xs => nodupList xs
  | _ => true
def nodupFields : List (String × V) → Bool
  | [] => true
  | (k, v) :: r => !(r.any fun kv => kv.1 == k) && v.nodupKeys && nodupFields r
def nodupList : List V → Bool
  | [] => true
  | v :: r => v.nodupKeys && nodupList r
end

theorem nodupKeys_mem (v : V) (h : v.nodupKeys = true) : ∀ w ∈ v.members, w.nodupKeys = true := by
  cases v with
  | doc fs =>
    simp only [V.nodupKeys] at h
    induction fs with
    | nil => exact fun _ hw => nomatch hw
    | cons a r ih =>
      simp only [nodupFields, Bool.and_eq_true] at h
      simp only [V.members, List.map_cons, List.forall_mem_cons]
      exact ⟨h.1.2, ih h.2⟩
  | arr xs =>
    simp only [V.nodupKeys] at h
    induction xs with
    | nil => exact fun _ hw => nomatch hw
    | cons a r ih =>
      simp only [nodupList, Bool.and_eq_true] at h
      simp only [V.members, List.forall_mem_cons]
      exact ⟨h.1, ih h.2⟩
  | _ => exact fun _ hw => nomatch hw

theorem child_nodup {v : V} (key : String) (h : v.nodupKeys = true) : (child v key).nodupKeys = true :=
  child_part (P := fun v => v.nodupKeys = true) rfl nodupKeys_mem key h

theorem find_erase_self {fs : List (String × V)} {key : String} (h : nodupFields fs = true) :
    Doc.find? (fs.eraseP (·.1 == key)) key = none := by
  induction fs with
  | nil => rfl
  | cons a r ih =>
    obtain ⟨k', v'⟩ := a
    simp only [nodupFields, Bool.and_eq_true] at h
    by_cases hk : (k' == key) = true
    · obtain rfl : k' = key := by simpa using hk
      have h1 := h.1.1
      simp only [List.eraseP_cons, hk, cond_true]
      clear ih h
      induction r with
      | nil => rfl
      | cons b r ihr => grind [Doc.find?]
    · simp only [List.eraseP_cons, hk, cond_false, Doc.find?]
      exact ih h.2

/-- the slot after a removal: a document has lost the field (no duplicate keys); an array holds null
    there, and removing again changes nothing. -/
theorem store_missing {v : V} {key : String} {x : V} (c : V) (pre : Bool) (ha : admitsPut v key x = true)
    (hx : x.isMissing = true) (hm : c.isMissing = true) (hn : v.nodupKeys = true) :
    (child (store v key c pre) key = .missing ∧ admitsPut (store v key c pre) key x = false) ∨
      (Slot (store v key c pre) key .null ∧ store (store v key c pre) key c pre = store v key c pre) := by
  cases v with
  | doc fs =>
    simp only [admitsPut, hx] at ha
    left
    simp only [Bool.not_true, Bool.or_false] at ha
    simp [store, child, slot?, admitsPut, ha, hm, hx, find_erase_self hn]
  | arr xs =>
    obtain ⟨idx, hp, hmax, hlt⟩ := admitsPut_arr ha
    have hlt := hlt hx
    right
    simp only [store, hp, hlt, hm, if_true, List.length_set, List.set_set]
    exact ⟨.arr hp hmax (List.getElem?_set_self hlt), trivial⟩
  | missing => simp [admitsPut, hx] at ha
  | _ => simp [admitsPut] at ha

theorem put_missing_twice (v : V) (p : Path) (pre : Bool) (nv prev : V)
    (h : put v p .missing pre = .ok (nv, prev)) (hn : v.nodupKeys = true) :
    (∃ e, put nv p .missing pre = .error e) ∨ (∃ pv, put nv p .missing pre = .ok (nv, pv)) := by
  induction p generalizing v nv prev with
  | nil => rw [put_nil] at h; cases h; exact .inr ⟨_, put_nil _ _ _⟩
  | cons key rest ih =>
    obtain ⟨hk, ha, c, hc, rfl⟩ := put_cons_ok h
    rw [put_cons]
    cases hm : c.isMissing with
    | false =>
      have S := store_slot pre ha hm
      rw [if_neg (by simp [hk, S.2]), S.child]
      rcases ih _ _ _ hc (child_nodup key hn) with ⟨e, h'⟩ | ⟨pv, h'⟩
      · exact .inl ⟨e, by rw [h']⟩
      · exact .inr ⟨pv, by simp only [h', S.store_self hm]⟩
    | true =>
      rcases store_missing c pre ha rfl hm hn with ⟨_, h2⟩ | ⟨S, h2⟩
      · exact .inl ⟨.err, by rw [if_pos (.inr h2)]⟩
      · rw [if_neg (by simp [hk, S.2]), S.child]
        obtain rfl := put_missing_nil _ _ _ _ _ _ hc hm
        rw [put_nil] at hc ⊢
        cases hc
        exact .inr ⟨.null, by simp only [h2]⟩

theorem get_null (p : Path) (c k : Bool) : get .null p c k = (.null, false) ∨ get .null p c k = (.missing, false) := by
  cases p with
  | nil => exact .inl (get_nil _ _ _)
  | cons a r => right; simp only [get]; split <;> rfl

/-- after a successful unset the path reads Missing (field removed) or null (array element). -/
theorem get_after_unset (v : V) (p : Path) (pre : Bool) (nv prev : V) (k : Bool)
    (h : put v p .missing pre = .ok (nv, prev)) (hn : v.nodupKeys = true) :
    get nv p false k = (.missing, false) ∨ get nv p false k = (.null, false) := by
  induction p generalizing v nv prev with
  | nil => rw [put_nil] at h; cases h; exact .inl (get_nil _ _ _)
  | cons key rest ih =>
    obtain ⟨hk, ha, c, hc, rfl⟩ := put_cons_ok h
    rw [get_child _ _ _ _ hk]
    cases hm : c.isMissing with
    | false => rw [(store_slot pre ha hm).child]; exact ih _ _ _ hc (child_nodup key hn)
    | true =>
      rcases store_missing c pre ha rfl hm hn with ⟨h1, _⟩ | ⟨S, _⟩
      · rw [h1]; exact .inl (get_missing _ _ _)
      · rw [S.child]; exact (get_null rest false k).symm

/-- two segments may address the same child: equal strings, or array indexes (ParseIndex) with
    the same value ("1", "01", "001" all index element 1 of an array, for `put` and for `get`). -/
def segAlias (a b : String) : Bool :=
  a == b || (match parseIndex a, parseIndex b with
    | some i, some j => i == j
    | _, _ => false)

/-- the paths part at some position before either ends (up to numeral aliasing): neither is a
    prefix of the other. -/
def diverge : Path → Path → Bool
  | a :: p, b :: q => if segAlias a b then diverge p q else true
  | _, _ => false

/-- "unchanged, or was Missing and is now null (array padding)". -/
def Stab (after before : V × Bool) : Prop :=
  after = before ∨ (before = (.missing, false) ∧ after = (.null, false))

theorem segAlias_self (a : String) : segAlias a a = true := by simp [segAlias]

theorem segAlias_parseIndex {a b : String} {i : Nat} (ha : parseIndex a = some i) (hb : parseIndex b = some i) :
    segAlias a b = true := by simp [segAlias, ha, hb]

theorem diverge_cons (a b : String) (p q : Path) :
    diverge (a :: p) (b :: q) = if segAlias a b then diverge p q else true := by
  rw [diverge]

theorem diverge_nil_left (q : Path) : diverge [] q = false := by
  rw [diverge]; intros; simp_all

theorem diverge_nil_right (p : Path) : diverge p [] = false := by
  cases p <;> rfl

/-- Putting a child back leaves the other slots alone — except that padding an array turns the
    absent elements below the new one into null.  `b` can address the slot of `key` only if the
    two alias. -/
theorem child_store_other {v : V} {key : String} {x : V} (c : V) (pre : Bool) (b : String)
    (ha : admitsPut v key x = true) :
    child (store v key c pre) b = child v b ∨
      (child v b = .missing ∧ child (store v key c pre) b = .null) ∨
      (segAlias key b = true ∧ child v b = child v key ∧
        child (store v key c pre) b = child (store v key c pre) key) := by
  by_cases hkb : key = b
  · subst hkb
    exact .inr (.inr ⟨segAlias_self _, rfl, rfl⟩)
  have hne : (key == b) = false := by simpa using hkb
  cases v with
  | doc fs =>
    left
    simp only [store]
    split
    · split
      · simp only [child, slot?, find_erase_ne fs (Ne.symm hkb)]
      · simp only [child, slot?, find_upsert, if_neg (Ne.symm hkb)]
    · split
      · simp only [child, slot?, Doc.find?, hne, Bool.false_eq_true, if_false]
      · simp only [child, slot?, find_upsert, if_neg (Ne.symm hkb)]
  | arr xs =>
    obtain ⟨idx, hp, _⟩ := admitsPut_arr ha
    cases hq : parseIndex b with
    | none => left; simp only [store, hp]; split <;> simp only [child, slot?, hq]
    | some j =>
      by_cases hj : idx = j
      · subst hj
        exact .inr (.inr ⟨segAlias_parseIndex hp hq, by simp only [child, slot?, hp, hq],
          by simp only [store, hp]; split <;> simp only [child, slot?, hp, hq]⟩)
      by_cases hlt : idx < xs.length
      · left; simp only [store, hp, hlt, if_true, child, slot?, hq, List.getElem?_set_ne hj]
      simp only [store, hp, hlt, if_false, child, slot?, hq]
      rcases Nat.lt_or_ge j xs.length with hjl | hjl
      · left; rw [List.append_assoc, List.getElem?_append_left hjl]
      rw [List.getElem?_eq_none hjl]
      rcases Nat.lt_or_ge j idx with hji | hji
      · refine .inr (.inl ⟨rfl, ?_⟩)
        rw [List.getElem?_append_left (by simp; omega), List.getElem?_append_right hjl,
          List.getElem?_replicate, if_pos (by omega)]; rfl
      · left
        rw [List.getElem?_eq_none (by simp; omega)]
  | _ => left; simp [store, child, slot?, Doc.find?, hne]

/-- A successful write (or unset) at `p` leaves what is read at any path `q` that parts from `p`
    unchanged — except that array padding turns Missing into null. -/
theorem put_other_path_stable (v : V) (p : Path) (x : V) (pre : Bool) (nv prev : V) (q : Path) (k : Bool)
    (h : put v p x pre = .ok (nv, prev)) (hd : diverge p q = true) :
    Stab (get nv q false k) (get v q false k) := by
  induction p generalizing v nv prev q with
  | nil => rw [diverge_nil_left] at hd; cases hd
  | cons key rest ih =>
    cases q with
    | nil => rw [diverge_nil_right] at hd; cases hd
    | cons b q' =>
      by_cases hg : (b == "" && q'.isEmpty) = true
      · rw [get_guard _ _ _ _ _ hg, get_guard _ _ _ _ _ hg]; exact .inl rfl
      obtain ⟨hk, ha, c, hc, rfl⟩ := put_cons_ok h
      rw [get_child _ _ _ _ hg, get_child _ _ _ _ hg]
      rw [diverge_cons] at hd
      rcases child_store_other c pre b ha with e | ⟨e1, e2⟩ | ⟨hs, e1, e2⟩
      · rw [e]; exact .inl rfl
      · rw [e1, e2, get_missing]
        rcases get_null q' false k with h' | h'
        · exact .inr ⟨rfl, h'⟩
        · exact .inl h'
      · rw [hs, if_pos rfl] at hd
        -- the child written is present: the "remove me" marker comes from an empty rest, which parts from nothing
        have hm : c.isMissing = false := by
          cases hm : c.isMissing with
          | false => rfl
          | true => rw [put_missing_nil _ _ _ _ _ _ hc hm, diverge_nil_left] at hd; cases hd
        rw [e1, e2, (store_slot pre ha hm).child]
        exact ih _ _ _ _ hc hd

theorem set_self_of_getElem? {α} {l : List α} {i : Nat} {a : α} (h : l[i]? = some a) : l.set i a = l := by
  obtain ⟨hlt, e⟩ := List.getElem?_eq_some_iff.mp h
  rw [← e, List.set_getElem_self]

/-- `put_keeps_field_order` (top level, append mode): the key sequence is unchanged or extended by
    the new key at the end, and every field with another key keeps its position and value. -/
theorem put_field_order (fs : List (String × V)) (key : String) (rest : Path) (x : V)
    (fs' : List (String × V)) (prev : V)
    (h : put (.doc fs) (key :: rest) x false = .ok (.doc fs', prev)) (hx : x.isMissing = false) :
    (fs'.map Prod.fst = fs.map Prod.fst ∨ fs'.map Prod.fst = fs.map Prod.fst ++ [key]) ∧
      ∀ (j : Nat) (k : String) (v : V), fs[j]? = some (k, v) → k ≠ key → fs'[j]? = some (k, v) := by
  have := put_doc_shape fs key rest x false _ _ h
  split at this
  · obtain ⟨old, he, ⟨hm, _⟩ | ⟨nvc, e⟩⟩ := this
    · rw [hx] at hm; cases hm
    · cases e
      refine ⟨.inl ?_, fun j k v hj hk => ?_⟩
      · rw [List.map_set]
        exact set_self_of_getElem? (by simp [he])
      · rw [List.getElem?_set_ne (fun e => hk (by rw [e, hj] at he; cases he; rfl))]; exact hj
  · obtain ⟨_, nvc, e⟩ := this
    simp only [Bool.false_eq_true, if_false] at e
    cases e
    refine ⟨.inr (by simp), fun j k v hj _ => ?_⟩
    rw [List.getElem?_append_left (List.getElem?_eq_some_iff.mp hj).1]; exact hj
end Lungo
