/-
  Lungo.Proofs.SeqOk — C01: the Spec keeps "every stored document is a Go value" (`OkDB`) under
  well-formed calls, so a history needs `OkDB` only for its first state (which is empty). The
  well-formedness predicate `WF` of a call with respect to the Spec's state lives here.
-/
import Lungo.Proofs.SeqExpire
namespace Lungo.SeqRef
open Lungo Lungo.Spec

variable {sch : SchemaEval}

/-- well-formedness of a call with respect to the Spec's state `db` -/
def WF (sch : SchemaEval) (db : SeqDB) (oids : List V) : Call → Prop
  | .insertOne _ doc => InsertOk [doc] oids
  | .insertMany _ docs _ => InsertOk docs oids
  | .find h q _ => h ≠ oplogHandle ∧ QueryOk sch db h q
  | .findOne h q _ => h ≠ oplogHandle ∧ QueryOk sch db h q
  | .count h q _ _ => h ≠ oplogHandle ∧ QueryOk sch db h q
  | .distinct h _ q => h ≠ oplogHandle ∧ QueryOk sch db h q
  | .estCount h => h ≠ oplogHandle
  | .listIndexes h => h ≠ oplogHandle
  | .deleteOne h q => QueryOk sch db h q
  | .deleteMany h q => QueryOk sch db h q
  | .findOneAndDelete h q _ _ => QueryOk sch db h q
  | .updateOne h q u upsert fs => UpdateOk (acOf sch) db h q u upsert fs oids
  | .updateMany h q u upsert fs => UpdateOk (acOf sch) db h q u upsert fs oids
  | .findOneAndUpdate h q u _ _ upsert _ fs => UpdateOk (acOf sch) db h q u upsert fs oids
  | .replaceOne h q repl upsert => ReplaceOk (acOf sch) db h q repl upsert oids
  | .findOneAndReplace h q repl _ _ upsert _ => ReplaceOk (acOf sch) db h q repl upsert oids
  | .bulkWrite h models ordered => BulkCallOk (acOf sch) db h ordered oids models
  | .expire nowMs => TtlOk sch nowMs db.colls
  | _ => True

theorem filterPlain_mem {q : Doc} : ∀ {l r : List Doc}, filterPlain sch q l = .ok r → ∀ d ∈ r, d ∈ l
  | [], r, h, d, hd => by
    cases h; cases hd
  | x :: l, r, h, d, hd => by
    rw [filterPlain] at h
    split at h
    · cases h
    · split at h
      · cases h
      · rename_i hr
        cases h
        have ih := filterPlain_mem hr d
        split at hd
        · exact (List.mem_cons.mp hd).elim (· ▸ List.mem_cons_self) fun hd => List.mem_cons_of_mem _ (ih hd)
        · exact List.mem_cons_of_mem _ (ih hd)

theorem window_mem {α} (skip limit : Int) (l : List α) : ∀ x ∈ window skip limit l, x ∈ l := by
  intro x hx
  unfold window at hx
  split at hx
  · exact List.mem_of_mem_drop (List.mem_of_mem_take hx)
  · exact List.mem_of_mem_drop hx

theorem select_mem {docs r : List Doc} {q : Doc} {sort : Option Doc} {skip limit : Int}
    (h : select sch docs q sort skip limit = .ok r) : ∀ d ∈ r, d ∈ docs := by
  unfold select at h
  split at h
  · cases h
  · split at h
    · cases h
    · rename_i cols _
      split at h
      · cases h
      · rename_i ms hms
        cases h
        intro d hd
        have h1 := window_mem _ _ _ d hd
        refine filterPlain_mem hms d ?_
        cases cols with
        | none => exact h1
        | some cs => exact (sortDocs_perm ms cs).mem_iff.mp h1

theorem SColl.delete_ok {c c' : SColl} {q : Doc} {sort : Option Doc} {skip limit : Int} {gone : List Doc}
    (hc : DocsOkS c.docs) (e : c.delete sch q sort skip limit = .ok (c', gone)) : DocsOkS c'.docs := by
  unfold SColl.delete at e
  split at e
  · cases e
  · cases e
    exact fun d hd => hc d (List.mem_filter.mp hd).1

theorem SColl.upsert_ok {ac : ACtx} {c c' : SColl} {q : Doc} {repl update : Option Doc} {fs : List Doc}
    {d' : Doc} {oids r : List V} (hc : DocsOkS c.docs) (hu : UpsertOk ac q repl update fs)
    (ho : ∀ o ∈ oids, o.i64Ok = true) (e : c.upsert ac q repl update fs oids = .ok (c', d', r)) :
    DocsOkS c'.docs := by
  unfold SColl.upsert at e
  split at e
  · cases e
  · rename_i hd
    exact (SColl.insert_ok hc (hu _ hd) ho e).1

theorem applyEach_facts {ac : ACtx} {u : Doc} {fs : List Doc} : ∀ {targets : List Doc} {pairs : List (Doc × Doc)},
    applyEach ac u fs targets = .ok pairs →
    ∀ p ∈ pairs, p.1 ∈ targets ∧ ∃ ch, Apply { ac with upsert := false } p.1 u fs = .ok (p.2, ch)
  | [], pairs, h, p, hp => by
    cases h; cases hp
  | d :: r, pairs, h, p, hp => by
    rw [applyEach] at h
    split at h
    · cases h
    · rename_i d' ch hap
      split at h
      · cases h
      · rename_i hr
        cases h
        rcases List.mem_cons.mp hp with rfl | hp
        · exact ⟨List.mem_cons_self, ch, hap⟩
        · obtain ⟨h1, h2⟩ := applyEach_facts hr p hp
          exact ⟨List.mem_cons_of_mem _ h1, h2⟩

theorem swapAll_mem {docs : List Doc} {pairs : List (Doc × Doc)} :
    ∀ d ∈ swapAll docs pairs, d ∈ docs ∨ ∃ p ∈ pairs, d = p.2 := by
  intro d hd
  unfold swapAll at hd
  obtain ⟨x, hx, rfl⟩ := List.mem_map.mp hd
  cases hf : pairs.find? (fun p => sameDoc x p.1) with
  | none => exact .inl hx
  | some p => exact .inr ⟨p, List.mem_of_find?_eq_some hf, rfl⟩

theorem SColl.update_ok {ac : ACtx} {c c' : SColl} {q u : Doc} {sort : Option Doc} {skip limit : Int}
    {fs : List Doc} {m md : List Doc} (hc : DocsOkS c.docs) (hap : ApplyOkOn ac c.docs u fs)
    (e : c.update ac q u sort skip limit fs = .ok (c', m, md)) : DocsOkS c'.docs := by
  unfold SColl.update at e
  split at e
  · cases e
  · rename_i hsel
    split at e
    · cases e
    · rename_i hpairs
      split at e
      · cases e
      · split at e
        · cases e
        · cases e
          intro d hd
          rcases swapAll_mem d hd with h1 | ⟨p, hp, rfl⟩
          · exact hc d h1
          · obtain ⟨h1, ch, h2⟩ := applyEach_facts hpairs p hp
            exact hap p.1 (select_mem hsel p.1 h1) p.2 ch h2

theorem SColl.replace_ok {c c' : SColl} {q repl : Doc} {sort : Option Doc} {m md : List Doc}
    (hc : DocsOkS c.docs) (hr : DocOk repl) (e : c.replace sch q repl sort = .ok (c', m, md)) :
    DocsOkS c'.docs := by
  unfold SColl.replace at e
  split at e
  · cases e
  · cases e; exact hc
  · rename_i old _ hsel
    split at e
    · cases e
    · rename_i hnw
      split at e
      · cases e
      · cases e
        intro d hd
        obtain ⟨x, hx, rfl⟩ := List.mem_map.mp hd
        split
        · exact replacementFor_ok (hc old (select_mem hsel old List.mem_cons_self)) hr hnw
        · exact hc x hx

theorem okDB_keepIf {db db' : SeqDB} (b : Bool) (h1 : OkDB db') (h2 : OkDB db) : OkDB (keepIf b db' db) := by
  unfold keepIf; split <;> assumption

/-- the common end of `opReplace` and `opUpdate`: the upserted or the rewritten collection is put back -/
theorem okDB_written {ac : ACtx} {db db' : SeqDB} {h : Handle} {q : Doc} {repl update : Option Doc} {fs : List Doc}
    {upsert : Bool} {oids oids' : List V} {c' : SColl} {matched modified : List Doc} {r : TResult} (ok : OkDB db)
    (hc' : DocsOkS c'.docs) (hu : upsert = true → UpsertOk ac q repl update fs) (ho : ∀ o ∈ oids, o.i64Ok = true)
    (e : (if matched.isEmpty && upsert then
        match (db.coll h).upsert ac q repl update fs oids with
        | .error e => .error e
        | .ok (c', d, oids) => .ok ((db.put h c').log, { upserted := some d }, oids)
      else .ok (if modified.isEmpty then db.put h c' else (db.put h c').log,
        { matched := matched, modified := modified }, oids) : Res (SeqDB × TResult × List V)) =
      .ok (db', r, oids')) : OkDB db' := by
  split at e
  · rename_i hcond
    split at e
    · cases e
    · rename_i hups
      cases e
      exact okDB_log (okDB_put ok (SColl.upsert_ok (okDB_coll ok h) (hu (Bool.and_eq_true_iff.mp hcond).2) ho hups))
  · cases e
    split
    · exact okDB_put ok hc'
    · exact okDB_log (okDB_put ok hc')

theorem opUpdate_ok {ac : ACtx} {db db' : SeqDB} {h : Handle} {q u : Doc} {sort : Option Doc} {upsert : Bool}
    {skip limit : Int} {fs : List Doc} {oids oids' : List V} {r : TResult} (ok : OkDB db)
    (hw : UpdateOk ac db h q u upsert fs oids)
    (e : opUpdate ac db h q u sort upsert skip limit fs oids = .ok (db', r, oids')) : OkDB db' := by
  unfold opUpdate at e
  simp only at e
  split at e
  · cases e
  · rename_i hupd
    exact okDB_written ok (SColl.update_ok (okDB_coll ok h) hw.apply hupd) hw.ups hw.oids e

theorem opReplace_ok {ac : ACtx} {db db' : SeqDB} {h : Handle} {q repl : Doc} {sort : Option Doc} {upsert : Bool}
    {oids oids' : List V} {r : TResult} (ok : OkDB db) (hw : ReplaceOk ac db h q repl upsert oids)
    (e : opReplace ac db h q repl sort upsert oids = .ok (db', r, oids')) : OkDB db' := by
  unfold opReplace at e
  simp only at e
  split at e
  · cases e
  · rename_i hrep
    exact okDB_written ok (SColl.replace_ok (okDB_coll ok h) hw.replOk hrep) hw.ups hw.oids e

theorem insertAll_ok {h : Handle} {ordered : Bool} : ∀ (docs : List Doc) (db : SeqDB) (oids : List V)
    (acc : List Doc) (err : Option Err), OkDB db → (∀ d ∈ docs, DocOk d) → (∀ o ∈ oids, o.i64Ok = true) →
    OkDB (insertAll sch h ordered db oids acc err docs).1
  | [], db, oids, acc, err, ok, _, _ => ok
  | d :: r, db, oids, acc, err, ok, hd, ho => by
    rw [List.forall_mem_cons] at hd
    rw [insertAll]
    split
    · dsimp only
      split
      · exact ok
      · exact insertAll_ok r db oids acc _ ok hd.2 ho
    · rename_i hi
      obtain ⟨ok1, _, ho1⟩ := opInsert_ok ok hd.1 ho hi
      exact insertAll_ok r _ _ _ err ok1 hd.2 ho1

theorem bulkOne_ok {ac : ACtx} {db db' : SeqDB} {h : Handle} {oids oids' : List V} {m : BulkModel} {r : TResult}
    (ok : OkDB db) (hw : BulkOneOk ac db h oids m) (e : bulkOne ac db h oids m = .ok (db', r, oids')) :
    OkDB db' := by
  cases m with
  | insertOne d =>
    simp only [bulkOne] at e
    split at e
    · cases e
    · rename_i hi
      cases e
      exact (opInsert_ok ok hw.1 hw.2 hi).1
  | replaceOne q r up => exact opReplace_ok ok hw e
  | updateOne q u up fs | updateMany q u up fs => exact opUpdate_ok ok hw e
  | deleteOne q | deleteMany q =>
    simp only [bulkOne] at e
    split at e
    · cases e
    · rename_i hd
      cases e
      exact okDB_opDelete ok hd

theorem bulkAll_ok {ac : ACtx} {h : Handle} {ordered : Bool} : ∀ (ms : List BulkModel) (db : SeqDB) (oids : List V)
    (acc : List TResult) (ch : Nat), OkDB db → BulkOk ac h ordered db oids ms →
    OkDB (bulkAll ac h ordered db oids acc ch ms).1
  | [], db, oids, acc, ch, ok, _ => ok
  | m :: r, db, oids, acc, ch, ok, hb => by
    obtain ⟨_, hw, hrest⟩ := hb
    rw [bulkAll]
    cases hone : bulkOne ac db h oids m with
    | error e =>
      rw [hone] at hrest
      cases ordered with
      | true => exact ok
      | false => exact bulkAll_ok r db oids _ ch ok (hrest rfl)
    | ok res =>
      rw [hone] at hrest
      exact bulkAll_ok r _ _ _ _ (bulkOne_ok ok hw hone) hrest

theorem expireAll_ok {nowMs : Int} : ∀ {l l' : List (Handle × SColl)} {n : Nat},
    expireAll sch nowMs l = .ok (l', n) → (∀ p ∈ l, DocsOkS p.2.docs) → ∀ p ∈ l', DocsOkS p.2.docs
  | [], l', n, e, _ => by
    cases e; exact fun _ hp => nomatch hp
  | (h0, c0) :: r, l', n, e, hl => by
    rw [List.forall_mem_cons] at hl
    rw [expireAll_cons] at e
    split at e
    · split at e
      · cases e
      · rename_i hr
        cases e
        exact List.forall_mem_cons.mpr ⟨hl.1, expireAll_ok hr hl.2⟩
    · split at e
      · cases e
      · rename_i hdel
        split at e
        · cases e
        · rename_i hr
          cases e
          exact List.forall_mem_cons.mpr ⟨SColl.delete_ok hl.1 hdel, expireAll_ok hr hl.2⟩

theorem okDB_filter {db : SeqDB} (ok : OkDB db) (p : Handle × SColl → Bool) (lg : Bool) :
    OkDB { colls := db.colls.filter p, logged := lg } :=
  fun h c hm => ok h c (List.mem_filter.mp hm).1

theorem okDB_get? {db : SeqDB} (ok : OkDB db) {h : Handle} {c : SColl} (hg : db.get? h = some c) :
    DocsOkS c.docs := by
  have := okDB_coll ok h
  rwa [SeqDB.coll, hg] at this

theorem updateCall_ok {ac : ACtx} {db db' : SeqDB} {h : Handle} {q u : Doc} {sort : Option Doc} {upsert : Bool}
    {limit : Int} {fs : List Doc} {oids : List V} {r : TResult} (ok : OkDB db)
    (hw : UpdateOk ac db h q u upsert fs oids)
    (e : updateCall ac db h q u sort upsert limit fs oids = .ok (db', r)) : OkDB db' := by
  unfold updateCall at e
  split at e
  · cases e
  · split at e
    · cases e; exact ok
    · split at e
      · cases e
      · rename_i hop
        cases e
        exact okDB_keepIf _ (opUpdate_ok ok hw hop) ok

theorem replaceCall_ok {ac : ACtx} {db db' : SeqDB} {h : Handle} {q repl : Doc} {sort : Option Doc} {upsert : Bool}
    {oids : List V} {r : TResult} (ok : OkDB db) (hw : ReplaceOk ac db h q repl upsert oids)
    (e : replaceCall ac db h q repl sort upsert oids = .ok (db', r)) : OkDB db' := by
  unfold replaceCall at e
  split at e
  · cases e
  · split at e
    · cases e
    · split at e
      · cases e; exact ok
      · split at e
        · cases e
        · rename_i hop
          cases e
          exact okDB_keepIf _ (opReplace_ok ok hw hop) ok

theorem deleteCall_ok {db db' : SeqDB} {h : Handle} {q : Doc} {sort : Option Doc} {limit : Int} {r : TResult}
    (ok : OkDB db) (e : deleteCall sch db h q sort limit = .ok (db', r)) : OkDB db' := by
  unfold deleteCall at e
  split at e
  · cases e
  · split at e
    · cases e; exact ok
    · split at e
      · cases e
      · rename_i hop
        cases e
        exact okDB_keepIf _ (okDB_opDelete ok hop) ok

theorem insertCall_ok {db db' : SeqDB} {h : Handle} {docs : List Doc} {ordered : Bool} {oids : List V}
    {ins : List Doc} {err : Option Err} (ok : OkDB db) (hw : InsertOk docs oids)
    (e : insertCall sch db h docs ordered oids = .ok (db', ins, err)) : OkDB db' := by
  unfold insertCall at e
  split at e
  · cases e
  · cases e
    exact okDB_keepIf _ (insertAll_ok docs _ oids [] none (okDB_base ok h) hw.1 hw.2) ok

theorem SColl.dropIndex_docs {c c' : SColl} {name : String} (e : c.dropIndex name = .ok c') :
    c'.docs = c.docs := by
  unfold SColl.dropIndex at e
  split at e
  · cases e
  · split at e
    · cases e
    · cases e; rfl

theorem dropIndexCall_ok {db db' : SeqDB} {h : Handle} {name : String} (ok : OkDB db)
    (e : dropIndexCall db h name = .ok db') : OkDB db' := by
  unfold dropIndexCall at e
  split at e
  · cases e
  · split at e
    · cases e
    · rename_i c hg
      have hc := okDB_get? ok hg
      unfold dropIn at e
      split at e
      · cases e
        unfold dropAllIn
        split
        · exact ok
        · exact okDB_put ok hc
      · split at e
        · cases e
        · rename_i hd
          cases e
          exact okDB_put ok (SColl.dropIndex_docs hd ▸ hc)

theorem createIndex_docs {c c' : SColl} {name nm : String} {cfg : IndexConfig}
    (e : c.createIndex sch name cfg = .ok (c', nm)) : c'.docs = c.docs := by
  unfold SColl.createIndex at e
  split at e
  · cases e
  · split at e
    · cases e; rfl
    · split at e
      · cases e
      · split at e
        · cases e
        · split at e
          · cases e
          · split at e
            · cases e
            · cases e; rfl

theorem okDB_init : OkDB (abs Sys.init.catalog) := by
  rw [show abs Sys.init.catalog = SeqDB.init from abs_init]
  intro h c hm d hd
  cases List.mem_singleton.mp hm
  cases hd

/-- **the Spec keeps Go values**: a well-formed call on a database of Go values leaves one -/
theorem okDB_step {db db' : SeqDB} {c : Call} {oids : List V} {r : Reply} (ok : OkDB db)
    (hw : WF sch db oids c) (e : Spec.step sch db c oids = .ok (db', r)) : OkDB db' := by
  cases c with
  | count h q skip limit | estCount h | distinct h field q | listDatabases q =>
    simp only [Spec.step] at e
    split at e
    · cases e
    · cases e; exact ok
  | find h q o | listCollections name q =>
    simp only [Spec.step] at e
    split at e
    · cases e
    · split at e
      · cases e
      · cases e; exact ok
  | findOne h q o =>
    simp only [Spec.step] at e
    split at e
    · cases e
    · cases e; exact ok
    · split at e
      · cases e
      · cases e; exact ok
  | listIndexes h =>
    simp only [Spec.step] at e
    split at e
    · cases e
    · split at e <;> cases e <;> exact ok
  | insertOne h doc =>
    simp only [Spec.step] at e
    split at e
    · cases e
    · rename_i hi
      split at e
      · cases e
      · cases e; exact insertCall_ok ok hw hi
      · cases e
  | insertMany h docs ordered =>
    simp only [Spec.step] at e
    split at e
    · cases e
    · rename_i hi
      cases e
      exact insertCall_ok ok hw hi
  | updateOne h q u upsert fs | updateMany h q u upsert fs =>
    simp only [Spec.step] at e
    split at e
    · cases e
    · rename_i hc
      cases e
      exact updateCall_ok ok hw hc
  | replaceOne h q repl upsert =>
    simp only [Spec.step] at e
    split at e
    · cases e
    · rename_i hc
      cases e
      exact replaceCall_ok ok hw hc
  | deleteOne h q | deleteMany h q =>
    simp only [Spec.step] at e
    split at e
    · cases e
    · rename_i hc
      cases e
      exact deleteCall_ok ok hc
  | findOneAndDelete h q sort proj =>
    simp only [Spec.step] at e
    split at e
    · cases e
    · rename_i hc
      split at e
      · cases e
      · cases e; exact deleteCall_ok ok hc
  | findOneAndReplace h q repl sort proj upsert after =>
    simp only [Spec.step] at e
    split at e
    · cases e
    · rename_i hc
      split at e
      · cases e
      · cases e; exact replaceCall_ok ok hw hc
  | findOneAndUpdate h q u sort proj upsert after fs =>
    simp only [Spec.step] at e
    split at e
    · cases e
    · rename_i hc
      split at e
      · cases e
      · cases e; exact updateCall_ok ok hw hc
  | bulkWrite h models ordered =>
    simp only [Spec.step] at e
    split at e
    · cases e
    · split at e
      · cases e
      · cases e
        exact okDB_keepIf _ (bulkAll_ok models _ oids [] 0 (okDB_base ok h) hw) ok
  | createIndex h name config =>
    simp only [Spec.step] at e
    split at e
    · cases e
    · split at e
      · cases e
      · rename_i hci
        cases e
        exact okDB_put ok (createIndex_docs hci ▸ okDB_coll ok h)
  | dropIndex h name | dropAllIndexes h =>
    simp only [Spec.step] at e
    split at e
    · cases e
    · rename_i hd
      cases e
      exact dropIndexCall_ok ok hd
  | dropIndexByKey h key =>
    simp only [Spec.step] at e
    split at e
    · cases e
    · split at e
      · cases e
      · split at e
        · cases e
        · split at e
          · cases e
          · rename_i hd
            cases e
            exact dropIndexCall_ok ok hd
  | createCollection h =>
    simp only [Spec.step] at e
    split at e
    · cases e
    · cases e; exact okDB_base ok h
  | dropCollection h | dropDatabase name =>
    simp only [Spec.step] at e
    split at e
    · cases e
    · split at e <;> cases e
      · exact ok
      · exact okDB_filter ok _ _
  | expire nowMs =>
    simp only [Spec.step] at e
    split at e
    · cases e
    · rename_i hex
      cases e
      split
      · exact fun h c hm => expireAll_ok hex (fun p hp => ok p.1 p.2 hp) (h, c) hm
      · exact ok

end Lungo.SeqRef
