/-
  Lungo.Proofs.OwnHeap — heap lemmas for the ownership layer: allocation never disturbs an existing
  object, a write disturbs only its target; the `Step` relation ("only writable objects changed, and
  collection objects written keep pointing at fresh parts") and its closure properties.
-/
import Lungo.Model.Own
namespace Lungo.Own

namespace Heap
variable (h : Heap) (x : Obj)

@[simp] theorem size_alloc : (h.alloc x).1.size = h.size + 1 := by simp [alloc, size]
@[simp] theorem alloc_id : (h.alloc x).2 = h.size := rfl
theorem get_alloc_lt {o : ObjId} (ho : o < h.size) : (h.alloc x).1.get o = h.get o :=
  List.getElem?_append_left ho
@[simp] theorem get_alloc_new : (h.alloc x).1.get h.size = some x := by
  simp [alloc, get, size]
@[simp] theorem size_write (o : ObjId) : (h.write o x).size = h.size := by simp [write, size]
theorem get_write_ne {o p : ObjId} (hne : p ≠ o) : (h.write o x).get p = h.get p :=
  List.getElem?_set_ne (Ne.symm hne)
theorem get_write_eq {o : ObjId} (ho : o < h.size) : (h.write o x).get o = some x := by
  simp only [write, get, size] at *; simp [ho]
theorem get_lt {o : ObjId} {y : Obj} (hg : h.get o = some y) : o < h.size :=
  (List.getElem?_eq_some_iff.mp hg).1
theorem get_none_of_ge {o : ObjId} (ho : h.size ≤ o) : h.get o = none := by
  simp only [get, size] at *; exact List.getElem?_eq_none ho

@[simp] theorem size_writes (ws : List (ObjId × Obj)) : (h.writes ws).size = h.size := by
  induction ws generalizing h with
  | nil => rfl
  | cons w ws ih => simp [writes, ih]

/-! ### allocs: the new objects get the next ids, in order -/

theorem allocs_snd (xs : List Obj) : (h.allocs xs).2 = List.range' h.size xs.length := by
  induction xs generalizing h with
  | nil => rfl
  | cons x xs ih => simp [allocs, ih, List.range'_succ]

@[simp] theorem allocs_size (xs : List Obj) : (h.allocs xs).1.size = h.size + xs.length := by
  induction xs generalizing h with
  | nil => rfl
  | cons x xs ih => simp [allocs, ih]; omega

theorem allocs_get_lt (xs : List Obj) {o : ObjId} (ho : o < h.size) : (h.allocs xs).1.get o = h.get o := by
  induction xs generalizing h with
  | nil => rfl
  | cons x xs ih =>
    exact (ih (h.alloc x).1 (by rw [size_alloc]; omega)).trans (h.get_alloc_lt x ho)

theorem allocs_ids (xs : List Obj) : ∀ o ∈ (h.allocs xs).2, h.size ≤ o ∧ o < (h.allocs xs).1.size := by
  simp [allocs_snd, List.mem_range'_1]

end Heap

theorem Heap.allocs_length (h : Heap) (xs : List Obj) : (h.allocs xs).2.length = xs.length := by
  simp [Heap.allocs_snd]

/-- the analysis context of one call: `base` = heap size at call start; `ex` = the caller's documents;
    with `strict` nothing below `base` may be written, otherwise the caller's documents may -/
structure Ctx where
  base : Nat
  strict : Bool
  ex : List ObjId

def Writable (cx : Ctx) (o : ObjId) : Prop := cx.base ≤ o ∨ (cx.strict = false ∧ o ∈ cx.ex)

/-- a collection object points at parts allocated in this call -/
def FreshObj (base : Nat) (x : Obj) : Prop :=
  ∀ s idxs, x = .coll s idxs → base ≤ s ∧ ∀ p ∈ idxs, base ≤ p.2

theorem FreshObj.cat {b ns} : FreshObj b (.cat ns) := nofun
theorem FreshObj.set {b l} : FreshObj b (.set l) := nofun
theorem FreshObj.idx {b l} : FreshObj b (.idx l) := nofun
theorem FreshObj.doc {b v} : FreshObj b (.doc v) := nofun

structure Step (cx : Ctx) (h h' : Heap) : Prop where
  size : h.size ≤ h'.size
  old : ∀ o, o < h.size → h'.get o = h.get o ∨ (Writable cx o ∧ ∀ x, h'.get o = some x → FreshObj cx.base x)

theorem Step.refl (cx : Ctx) (h : Heap) : Step cx h h := ⟨Nat.le_refl _, fun _ _ => .inl rfl⟩

theorem Step.trans {cx : Ctx} {h1 h2 h3 : Heap} (a : Step cx h1 h2) (b : Step cx h2 h3) : Step cx h1 h3 := by
  refine ⟨Nat.le_trans a.size b.size, fun o ho => ?_⟩
  rcases b.old o (Nat.lt_of_lt_of_le ho a.size) with e | ⟨w, f⟩
  · rcases a.old o ho with e' | ⟨w, f⟩
    · exact .inl (e.trans e')
    · exact .inr ⟨w, fun x hx => f x (e ▸ hx)⟩
  · exact .inr ⟨w, f⟩

theorem Step.alloc (cx : Ctx) (h : Heap) (x : Obj) : Step cx h (h.alloc x).1 :=
  ⟨by simp, fun _ ho => .inl (h.get_alloc_lt x ho)⟩

theorem Step.allocs (cx : Ctx) (h : Heap) (xs : List Obj) : Step cx h (h.allocs xs).1 :=
  ⟨by simp, fun _ ho => .inl (h.allocs_get_lt xs ho)⟩

theorem Step.write {cx : Ctx} (h : Heap) {o : ObjId} {x : Obj} (w : Writable cx o) (f : FreshObj cx.base x) :
    Step cx h (h.write o x) := by
  refine ⟨by simp, fun p hp => ?_⟩
  by_cases e : p = o
  · subst e
    refine .inr ⟨w, fun y hy => ?_⟩
    rw [h.get_write_eq x hp] at hy; cases hy; exact f
  · exact .inl (h.get_write_ne x e)

theorem Step.writes {cx : Ctx} (h : Heap) (ws : List (ObjId × Obj))
    (hw : ∀ w ∈ ws, Writable cx w.1 ∧ FreshObj cx.base w.2) : Step cx h (h.writes ws) := by
  induction ws generalizing h with
  | nil => exact Step.refl _ _
  | cons w ws ih =>
    have := hw w (List.mem_cons_self ..)
    exact (Step.write h this.1 this.2).trans (ih _ fun w hw' => hw w (List.mem_cons_of_mem _ hw'))

/-- objects below `base` outside the exception set are untouched -/
theorem Step.frozen {cx : Ctx} {h h' : Heap} (s : Step cx h h') {o : ObjId} (ho : o < h.size)
    (hb : o < cx.base) (hx : cx.strict = true ∨ o ∉ cx.ex) : h'.get o = h.get o := by
  rcases s.old o ho with e | ⟨w | ⟨w1, w2⟩, _⟩
  · exact e
  · exact absurd w (Nat.not_le.mpr hb)
  · rcases hx with hx | hx
    · rw [hx] at w1; cases w1
    · exact absurd w2 hx

/-- `o` was allocated in this call and, if it is a collection, so were its Set and indexes -/
structure Own (cx : Ctx) (h : Heap) (o : ObjId) : Prop where
  fresh : cx.base ≤ o
  lt : o < h.size
  parts : ∀ x, h.get o = some x → FreshObj cx.base x

theorem Own.step {cx : Ctx} {h h' : Heap} {o : ObjId} (s : Step cx h h') (w : Own cx h o) : Own cx h' o := by
  refine ⟨w.fresh, Nat.lt_of_lt_of_le w.lt s.size, fun x hx => ?_⟩
  rcases s.old o w.lt with e | ⟨_, f⟩
  · exact w.parts x (e ▸ hx)
  · exact f x hx

theorem Own.writable {cx : Ctx} {h : Heap} {o : ObjId} (w : Own cx h o) : Writable cx o := .inl w.fresh

/-- the object just allocated is owned if it is fresh-pointing -/
theorem Own.alloc {cx : Ctx} (h : Heap) (x : Obj) (hb : cx.base ≤ h.size) (f : FreshObj cx.base x) :
    Own cx (h.alloc x).1 h.size :=
  ⟨hb, by simp, fun y hy => by simp at hy; subst hy; exact f⟩

end Lungo.Own
