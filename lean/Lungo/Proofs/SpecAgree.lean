/-
  Lungo.Proofs.SpecAgree — operator by operator.  `evalC` is the matcher's own reading of a parsed
  condition: tests over the values it offers.  For each operator, `match…_eval` says that on a
  well-formed argument the matcher returns `toRes` of it, for EVERY document; `…_core` says why
  the test over the offered values is the reference test over the leaves on the core domain.
-/
import Lungo.Proofs.LeafLemma
import Lungo.Proofs.CompareLaws
namespace Lungo
open Lungo.Spec

/-- matchExists' "the path reaches something": over a fan-out the list of collected values, which
    are not merged (so an empty array that is reached counts), is non-empty -/
def reaches (d : Doc) (path : String) : Bool :=
  let (value, multi) := All d (splitPath path) true false
  if multi then
    match value with
    | .arr arr => !arr.isEmpty
    | _ => !value.isMissing
  else !value.isMissing

/-- matchSize's test: without a fan-out the value is an array of the size; over a fan-out some
    collected item is -/
def sized (d : Doc) (path : String) (n : Int) : Bool :=
  let (value, multi) := All d (splitPath path) false false
  match value with
  | .arr arr => if multi then arr.any (arrOfLength n) else (arr.length : Int) == n
  | _ => false

/-- matchMod's test of an offered value -/
def modTest (dv r : Int) (l : V) : Bool :=
  match numberToInt64 l with
  | some n => Int.tmod n dv == r
  | none => false

/-- the elements `$elemMatch` iterates over: those of the array the path reaches -/
def elems (d : Doc) (path : String) : List V :=
  match (All d (splitPath path) true true).1 with
  | .arr a => a
  | _ => []

mutual
/-- the truth value lungo computes for condition `c` on `path` of `d` -/
def evalC (d : Doc) (path : String) : Cond → Bool
  | .cmp o v => unwindAny d path true false (cmpHolds o v)
  | .ne v => !unwindAny d path true false (cmpHolds .eq v)
  | .in_ vs => unwindAny d path true false (memberOf vs)
  | .nin vs => !unwindAny d path true false (memberOf vs)
  | .exists_ arg => truthy arg == reaches d path
  | .type number ts => unwindAny d path true false (typeHolds number ts)
  | .size n => sized d path n
  | .all vs => !vs.isEmpty && vs.all fun v => unwindAny d path true false (cmpHolds .eq v)
  | .mod dv r => unwindAny d path true false (modTest dv r)
  | .bits o ps => unwindAny d path true false (bitsHolds o ps)
  | .not cs => !evalCs d path cs
  | .elemOps cs => (elems d path).any fun x => evalCs [("item", x)] "item" cs
  | .elemFields fcs => (elems d path).any fun x => x.isDoc && evalFCs [("item", x)] "item" fcs
def evalCs (d : Doc) (path : String) : List Cond → Bool
  | [] => true
  | c :: cs => evalC d path c && evalCs d path cs
/-- a field condition below the prefix `pfx` (`$elemMatch` runs them on the virtual document `{item: x}` below `item`) -/
def evalFC (d : Doc) (pfx : String) : FieldCond → Bool
  | .mk key cs => evalCs d (joinKey pfx key) cs
def evalFCs (d : Doc) (pfx : String) : List FieldCond → Bool
  | [] => true
  | fc :: r => evalFC d pfx fc && evalFCs d pfx r
end

theorem any_congr_mem {α} {l : List α} {p q : α → Bool} (h : ∀ x ∈ l, p x = q x) : l.any p = l.any q := by
  induction l with
  | nil => rfl
  | cons a r ih =>
    rw [List.any_cons, List.any_cons, h a (List.mem_cons_self ..),
      ih fun x hx => h x (List.mem_cons_of_mem _ hx)]

theorem all_congr_mem {α} {l : List α} {p q : α → Bool} (h : ∀ x ∈ l, p x = q x) : l.all p = l.all q := by
  induction l with
  | nil => rfl
  | cons a r ih =>
    rw [List.all_cons, List.all_cons, h a (List.mem_cons_self ..),
      ih fun x hx => h x (List.mem_cons_of_mem _ hx)]

theorem scalar_cls {v : V} (h : scalarOperand v = true) : v.cls ≠ .null ∧ v.cls ≠ .array := by
  cases v <;> first | exact ⟨Class.noConfusion, Class.noConfusion⟩ | cases h

/-- a type-bracketed test against a non-null scalar ignores Missing and arrays, whatever it asks of the comparison -/
theorem bracket_ignores {v : V} (h : scalarOperand v = true) (r : Ordering → Bool) :
    (V.missing.cls == v.cls && r (V.cmp .missing v)) = false ∧
      ∀ xs, ((V.arr xs).cls == v.cls && r (V.cmp (.arr xs) v)) = false := by
  obtain ⟨h1, h2⟩ := scalar_cls h
  have aux : ∀ l : V, l.cls ≠ v.cls → (l.cls == v.cls && r (V.cmp l v)) = false := fun l hl => by
    rw [beq_eq_false_iff_ne.mpr hl]; rfl
  exact ⟨aux _ fun e => h1 e.symm, fun xs => aux _ fun e => h2 e.symm⟩

theorem cmp_core {d : Doc} {path : String} (hd : PathDom d path) (v : V) (r : Ordering → Bool)
    (hc : fans (.doc d) (splitPath path) = true → scalarOperand v = true) :
    unwindAny d path true false (fun l => l.cls == v.cls && r (V.cmp l v))
      = (leafs d (splitPath path)).any fun l => l.cls == v.cls && r (V.cmp l v) :=
  leaf_any hd _ fun hf => bracket_ignores (hc hf) r

/-- the model's comparison operator names and the spec's relations -/
def cmpName : CmpOp → String
  | .eq => "$eq" | .gt => "$gt" | .gte => "$gte" | .lt => "$lt" | .lte => "$lte"

theorem compTest_cmpName (o : CmpOp) (v : V) :
    ∃ p, compTest (cmpName o) v = some p ∧ ∀ l, p l = cmpHolds o v l := by
  cases o <;> exact ⟨_, rfl, fun l => by unfold cmpHolds; cases V.cmp l v <;> rfl⟩

theorem matchComp_eval (d : Doc) (path : String) (o : CmpOp) (v : V) :
    matchComp d (cmpName o) path v = toRes (unwindAny d path true false (cmpHolds o v)) := by
  obtain ⟨p, h, hp⟩ := compTest_cmpName o v
  rw [matchComp_toRes d path v h, funext hp]

theorem matchLit_eval (d : Doc) (path : String) (v : V) :
    matchComp d "" path v = toRes (unwindAny d path true false (cmpHolds .eq v)) :=
  matchComp_toRes d path v rfl

theorem member_ignores {vs : List V} (h : vs.all scalarOperand = true) :
    memberOf vs .missing = false ∧ ∀ xs, memberOf vs (.arr xs) = false := by
  have aux : ∀ l : V, (l.cls = .null ∨ l.cls = .array) → memberOf vs l = false := by
    intro l hl
    rw [memberOf, List.any_eq_false]
    intro v hv he
    have hs := scalar_cls (List.all_eq_true.mp h v hv)
    have hcl := V.cls_eq_of_cmp_eq (eq_of_beq he)
    rcases hl with hl | hl
    · exact hs.1 (hcl ▸ hl)
    · exact hs.2 (hcl ▸ hl)
  exact ⟨aux _ (Or.inl rfl), fun xs => aux _ (Or.inr rfl)⟩

theorem matchIn_eval (d : Doc) (path : String) (vs : List V) :
    matchIn d path (.arr vs) = toRes (unwindAny d path true false (memberOf vs)) := by
  rw [matchIn_bool, matchUnwind_toRes]; rfl

theorem in_core {d : Doc} {path : String} (hd : PathDom d path) (vs : List V)
    (hc : fans (.doc d) (splitPath path) = true → vs.all scalarOperand = true) :
    unwindAny d path true false (memberOf vs) = (leafs d (splitPath path)).any (memberOf vs) :=
  leaf_any hd _ fun hf => member_ignores (hc hf)

theorem pow10_ne_zero (e : Int) : pow10 e ≠ 0 := by
  unfold pow10
  split
  · have : (10 ^ e.toNat : Nat) ≠ 0 := Nat.pos_iff_ne_zero.mp (Nat.pow_pos (by decide))
    intro h
    exact this (by exact_mod_cast h)
  · have : (10 ^ (-e).toNat : Nat) ≠ 0 := Nat.pos_iff_ne_zero.mp (Nat.pow_pos (by decide))
    rw [Ne, Rat.mkRat_eq_zero this]
    decide

theorem rat_neg_eq_zero (q : Rat) : -q = 0 ↔ q = 0 := by
  constructor
  · intro h; have := congrArg (fun x => -x) h; simpa [Rat.neg_neg] using this
  · intro h; subst h; rfl

/-- a decoded finite Decimal128 (sign, coefficient, exponent) is zero exactly when its coefficient is -/
theorem decFin_ne_zero (neg : Bool) (c : Nat) (e : Int) :
    ((if neg = true then -((c : Rat) * pow10 e) else (c : Rat) * pow10 e) != 0) = (c != 0) := by
  have hq : ((c : Rat) * pow10 e = 0) ↔ c = 0 := by
    rw [Rat.mul_eq_zero]
    constructor
    · rintro (h | h)
      · exact_mod_cast h
      · exact absurd h (pow10_ne_zero e)
    · intro h; subst h; exact Or.inl rfl
  by_cases hc : c = 0
  · subst hc; cases neg <;> simp
  · have h1 : ¬ ((c : Rat) * pow10 e = 0) := fun h => hc (hq.mp h)
    have h2 : ¬ (-((c : Rat) * pow10 e) = 0) := fun h => h1 ((rat_neg_eq_zero _).mp h)
    have hb : (c != 0) = true := by rw [bne_iff_ne]; exact hc
    rw [hb]
    cases neg
    · simp only [Bool.false_eq_true, ↓reduceIte, bne_iff_ne]; exact h1
    · simp only [↓reduceIte, bne_iff_ne]; exact h2

/-- lungo's reading of the `$exists` argument is MongoDB's truthiness, for EVERY value (Decimal128
    included: ±0 of any exponent is falsy, NaN and the infinities are truthy) -/
theorem existsArg_truthy (v : V) : existsArg v = truthy v := by
  cases v with
  | f64 b => simp only [existsArg, truthy]; cases f64Val b <;> rfl
  | dec h l =>
    simp only [existsArg, truthy, decVal]
    cases decParts h l with
    | fin neg c e => exact (decFin_ne_zero neg c e).symm
    | _ => rfl
  | _ => rfl

theorem matchExists_eval (d : Doc) (path : String) (arg : V) :
    matchExists d path arg = toRes (truthy arg == reaches d path) := by
  rw [matchExists, existsArg_truthy]; rfl

theorem cand_not_missing {d : Doc} {p : Path} (hd : noNestedArrays (.doc d) = true)
    {c : V × Bool} (hc : c ∈ cand (.doc d) p) : c.1.isMissing = false :=
  nna_not_missing (cand_nna p (.doc d) false hd c hc)

theorem exists_core {d : Doc} {path : String} (hd : PathDom d path) :
    reaches d path = !(cand (.doc d) (splitPath path)).isEmpty := by
  unfold reaches
  cases hf : fans (.doc d) (splitPath path) with
  | true => rw [(All_fan d _ hd.nna hd.segs hf).1]; exact congrArg (!·) List.isEmpty_map
  | false =>
    obtain ⟨h1, h2⟩ := All_noFan d (splitPath path) true false hd.nna hd.segs hf
    rw [h1]
    rcases length_le_one h2 with e | ⟨c, e⟩
    · rw [e]; rfl
    · have hm := cand_not_missing hd.nna (c := c) (by rw [e]; exact List.mem_singleton_self c)
      rw [e]
      show (!c.1.isMissing) = true
      rw [hm]; rfl

/-- matchType's callback (which skips Missing first) is exactly the reference test `typeHolds` -/
theorem typeCb_bool (number : Bool) (ts : List Nat) :
    (fun field : V => if field.isMissing = true then notMatched
        else if (number && field.cls == .number) = true then (Except.ok () : Res Unit)
        else if ts.contains field.typ = true then .ok () else notMatched)
      = boolOp (typeHolds number ts) := by
  funext field
  unfold boolOp typeHolds
  cases field.isMissing <;> cases (number && field.cls == .number) <;> cases ts.contains field.typ <;> rfl

/-- a well-formed `$type` argument: a non-empty array of operands, or one operand that is not an array, which
    `resolveTypes` accepts -/
theorem parseType_inv {v : V} {c : Cond} (h : parseType v = some c) :
    ∃ ops nc ts, ((v.isArr = false ∧ ops = [v]) ∨ (v = .arr ops ∧ ops.isEmpty = false)) ∧
      resolveTypes ops = .ok (nc, ts) ∧ c = .type nc ts := by
  unfold parseType at h
  dsimp only at h
  split at h
  · cases h
  · rename_i ops hops
    split at h
    · refine ⟨ops, _, _, ?_, ‹_›, (Option.some.inj h).symm⟩
      split at hops
      · split at hops
        · cases hops
        · cases hops; exact .inr ⟨rfl, Bool.eq_false_iff.mpr ‹_›⟩
      · rename_i hne; cases hops; exact .inl ⟨by cases v <;> first | rfl | exact (hne _ rfl).elim, rfl⟩
    · cases h

theorem matchType_eval (d : Doc) (path : String) (v : V) (c : Cond) (hp : parseType v = some c) :
    matchType d path v = toRes (evalC d path c) := by
  obtain ⟨ops, nc, ts, hops, hr, rfl⟩ := parseType_inv hp
  have : matchType d path v = matchUnwind d path true false (boolOp (typeHolds nc ts)) := by
    rw [← typeCb_bool]
    rcases hops with ⟨hv, rfl⟩ | ⟨rfl, he⟩
    · cases v <;> first | (simp only [matchType, hr]; done) | cases hv
    · simp only [matchType, he, Bool.false_eq_true, if_false, hr]
  rw [this, matchUnwind_toRes]; rfl

theorem type_core {d : Doc} {path : String} (hd : PathDom d path) (number : Bool) (ts : List Nat)
    (hc : fans (.doc d) (splitPath path) = true → scalarTypes ts = true) :
    unwindAny d path true false (typeHolds number ts)
      = (leafs d (splitPath path)).any (typeHolds number ts) := by
  refine leaf_any hd _ fun hf => ⟨rfl, fun xs => ?_⟩
  have hs := hc hf
  simp only [scalarTypes, Bool.and_eq_true, Bool.not_eq_true'] at hs
  simpa [typeHolds, V.isMissing, V.cls, V.typ] using hs.2

theorem leafInt_numberToInt64 (l : V) (h : isDec l = false) : leafInt l = numberToInt64 l := by
  cases l with
  | f64 b =>
    simp only [leafInt, numberToInt64, V.numVal]
    cases f64Val b with
    | fin q =>
      simp only
      by_cases h1 : q < ((i64Min : Int) : Rat)
      · have : ¬ ((i64Min : Int) : Rat) ≤ q := Rat.not_le.mpr h1
        simp [h1, this]
      · have h1' : ((i64Min : Int) : Rat) ≤ q := Rat.not_lt.mp h1
        by_cases h2 : q < ((two63 : Int) : Rat)
        · have : ¬ ((two63 : Int) : Rat) ≤ q := Rat.not_le.mpr h2
          simp [h1, h1', h2, this]
        · have : ((two63 : Int) : Rat) ≤ q := Rat.not_lt.mp h2
          simp [h1, h1', h2, this]
    | _ => rfl
  | dec a b => cases h
  | _ => rfl

theorem modCb_bool (dv r : Int) :
    (fun field : V => match numberToInt64 field with
        | none => notMatched
        | some n => if goMod n dv != r then notMatched else (Except.ok () : Res Unit))
      = boolOp (modTest dv r) := by
  funext field
  unfold boolOp modTest goMod
  cases numberToInt64 field with
  | none => rfl
  | some n => by_cases h : Int.tmod n dv = r <;> simp [h, notMatched]

/-- a well-formed `$mod` argument: `[divisor, remainder]`, both read by `modOperand`, the divisor not 0 -/
theorem parseMod_inv {v : V} {c : Cond} (h : parseMod v = some c) :
    ∃ a b dv r, v = .arr [a, b] ∧ modOperand a = .ok dv ∧ modOperand b = .ok r ∧ (dv == 0) = false ∧ c = .mod dv r := by
  unfold parseMod at h
  split at h
  · split at h
    · split at h
      · cases h
      · exact ⟨_, _, _, _, rfl, ‹_›, ‹_›, Bool.eq_false_iff.mpr ‹_›, (Option.some.inj h).symm⟩
    · cases h
  · cases h

theorem matchMod_eval (d : Doc) (path : String) (v : V) (c : Cond) (hp : parseMod v = some c) :
    matchMod d path v = toRes (evalC d path c) := by
  obtain ⟨a, b, dv, r, rfl, ha, hb, hz, rfl⟩ := parseMod_inv hp
  simp only [matchMod, ha, hb, hz, Bool.false_eq_true, if_false]
  exact (congrArg _ (modCb_bool dv r)).trans (matchUnwind_toRes ..)

theorem mod_core {d : Doc} {path : String} (hd : PathDom d path) (dv r : Int)
    (hdec : (leafs d (splitPath path)).all (fun l => !isDec l) = true) :
    unwindAny d path true false (modTest dv r) = (leafs d (splitPath path)).any (modHolds dv r) := by
  rw [leaf_any hd _ fun _ => ⟨rfl, fun _ => rfl⟩]
  refine any_congr_mem fun l hl => ?_
  have : isDec l = false := by simpa using List.all_eq_true.mp hdec l hl
  rw [modHolds, leafInt_numberToInt64 l this]; rfl

theorem filter_len_all {α} (p : α → Bool) (l : List α) : ((l.filter p).length == l.length) = l.all p :=
  Bool.eq_iff_iff.mpr (by rw [beq_iff_eq, List.length_filter_eq_length_iff, List.all_eq_true])

theorem filter_len_pos {α} (p : α → Bool) (l : List α) : decide ((l.filter p).length > 0) = l.any p :=
  Bool.eq_iff_iff.mpr (by rw [decide_eq_true_iff, gt_iff_lt, List.length_filter_pos_iff, List.any_eq_true])

theorem filter_len_compl {α} (p : α → Bool) (l : List α) :
    l.length - (l.filter p).length = (l.filter (fun x => !p x)).length := by
  induction l with
  | nil => rfl
  | cons a r ih =>
    have hle := List.length_filter_le p r
    by_cases h : p a = true
    · simp only [List.filter_cons, h, ↓reduceIte, List.length_cons, Bool.not_true, Bool.false_eq_true]
      omega
    · simp only [Bool.not_eq_true] at h
      simp only [List.filter_cons, h, Bool.false_eq_true, ↓reduceIte, List.length_cons, Bool.not_false]
      omega

def bitsName : BitsOp → String
  | .allSet => "$bitsAllSet" | .allClear => "$bitsAllClear" | .anySet => "$bitsAnySet" | .anyClear => "$bitsAnyClear"

theorem bitsCb_bool (o : BitsOp) (ps : List Nat) :
    (fun field : V => match bitAccessor field with
      | none => notMatched
      | some bitAt =>
        let set := (ps.filter bitAt).length
        let clear := ps.length - set
        let matched : Res Bool := match bitsName o with
          | "$bitsAllSet" => .ok (set == ps.length)
          | "$bitsAllClear" => .ok (clear == ps.length)
          | "$bitsAnySet" => .ok (decide (set > 0))
          | "$bitsAnyClear" => .ok (decide (clear > 0))
          | _ => .error .err
        match matched with
        | .ok true => (Except.ok () : Res Unit)
        | .ok false => notMatched
        | .error e => .error e)
      = boolOp (bitsHolds o ps) := by
  funext field
  unfold boolOp bitsHolds
  cases bitAccessor field with
  | none => rfl
  | some bit =>
    cases o
    · simp only [bitsName, filter_len_all]; exact okBool_toRes _
    · simp only [bitsName, filter_len_compl, filter_len_all]; exact okBool_toRes _
    · simp only [bitsName, filter_len_pos]; exact okBool_toRes _
    · simp only [bitsName, filter_len_compl, filter_len_pos]; exact okBool_toRes _

theorem parseBits_inv {o : BitsOp} {v : V} {c : Cond} (h : parseBits o v = some c) :
    ∃ ps, parseBitMask v = .ok ps ∧ c = .bits o ps := by
  unfold parseBits at h
  split at h
  · exact ⟨_, ‹_›, (Option.some.inj h).symm⟩
  · cases h

theorem matchBits_eval (d : Doc) (path : String) (o : BitsOp) (v : V) (c : Cond)
    (hp : parseBits o v = some c) :
    matchBits d (bitsName o) path v = toRes (evalC d path c) := by
  obtain ⟨ps, hm, rfl⟩ := parseBits_inv hp
  simp only [matchBits, hm]
  exact (congrArg _ (bitsCb_bool o ps)).trans (matchUnwind_toRes ..)

theorem bits_ignores (o : BitsOp) (ps : List Nat) :
    bitsHolds o ps .missing = false ∧ ∀ xs, bitsHolds o ps (.arr xs) = false :=
  ⟨rfl, fun _ => rfl⟩

theorem bits_core {d : Doc} {path : String} (hd : PathDom d path) (o : BitsOp) (ps : List Nat) :
    unwindAny d path true false (bitsHolds o ps) = (leafs d (splitPath path)).any (bitsHolds o ps) :=
  leaf_any hd _ fun _ => bits_ignores o ps

theorem sizeCb (n : Int) :
    (fun item : V => match item with
      | .arr a => (a.length : Int) == n
      | _ => false) = arrOfLength n := by
  funext item; cases item <;> rfl

/-- a well-formed `$size` argument: a non-negative integer as `intArg` reads it -/
theorem parseSize_inv {v : V} {c : Cond} (h : parseSize v = some c) :
    ∃ n, intArg v = .ok n ∧ ¬ n < 0 ∧ c = .size n := by
  unfold parseSize at h
  split at h
  · split at h
    · cases h
    · exact ⟨_, ‹_›, ‹_›, (Option.some.inj h).symm⟩
  · cases h

theorem matchSize_eval (d : Doc) (path : String) (v : V) (c : Cond) (hp : parseSize v = some c) :
    matchSize d path v = toRes (evalC d path c) := by
  obtain ⟨m, hi, hneg, rfl⟩ := parseSize_inv hp
  simp only [matchSize, hi, hneg, if_false, evalC, sized]
  generalize All d (splitPath path) false false = r
  obtain ⟨value, multi⟩ := r
  cases multi <;> cases value <;> rfl

theorem getCollect_nocompact (xs : List V) (k : String) (rest : Path) :
    getCollect xs k rest true false = xs.map fun x => (Lungo.get x (k :: rest) true false).1 := by
  induction xs with
  | nil => rw [getCollect]; rfl
  | cons x r ih =>
    rw [getCollect, ih]
    simp only [Bool.not_false, ↓reduceIte, Bool.and_false, Bool.false_eq_true, List.map_cons]
    split <;> (try split) <;> rfl

theorem arrOfLength_single (n : Int) {cs : List (V × Bool)} (h : cs.length ≤ 1) :
    arrOfLength n (single cs) = cs.any fun c => arrOfLength n c.1 := by
  rcases length_le_one h with e | ⟨c, e⟩ <;> rw [e]
  · rfl
  · exact (Bool.or_false _).symm

/-- below ONE fan-out, `get … compact=false` returns one item per array element: the element's
    candidate or `missing`; so "some item is an array of length n" is "some candidate is". -/
theorem size_get (n : Int) (p : Path) : ∀ (v : V) (f : Bool), noNestedArrays v = true → segsOK p = true →
    fans v p = true → fans2 v p = false →
    ∃ L, Lungo.get v p true false = (.arr L, true) ∧
      L.any (arrOfLength n) = (candF v p f).any (fun c => arrOfLength n c.1) := by
  induction p with
  | nil => intro v f _ _ h; cases h
  | cons k rest ih =>
    intro v f hv hp hf hf2
    rw [segsOK, List.all_cons, Bool.and_eq_true] at hp
    have hne := segOK_ne hp.1
    cases v with
    | doc fs =>
      rw [noNestedArrays] at hv
      rw [get_doc _ _ _ _ _ hne, candF]
      rw [fans] at hf
      rw [fans2] at hf2
      cases hl : fs.lookup k with
      | none => rw [hl] at hf; cases hf
      | some w =>
        rw [hl] at hf hf2
        exact ih w f (nna_lookup hv hl) hp.2 hf hf2
    | arr xs =>
      rw [noNestedArrays] at hv
      rw [get_arr _ _ _ _ hne (segOK_idx hp.1), candF]
      rw [fans] at hf
      rw [fans2] at hf2
      cases he : elemAt xs k with
      | some x =>
        rw [he] at hf hf2
        exact ih x f (nna_elem hv (elemAt_some he)).2 hp.2 hf hf2
      | none =>
        rw [he] at hf2
        refine ⟨_, rfl, ?_⟩
        rw [getCollect_nocompact]
        clear he hf
        induction xs with
        | nil => rfl
        | cons x r ihx =>
          rw [nnaElems, Bool.and_eq_true, Bool.and_eq_true, Bool.not_eq_true'] at hv
          rw [List.any_cons, Bool.or_eq_false_iff] at hf2
          rw [List.map_cons, List.any_cons, List.flatMap_cons, List.any_append, ihx hv.2 hf2.2]
          congr 1
          cases x with
          | doc gs =>
            have hgs : nnaFields gs = true := by simpa [noNestedArrays] using hv.1.2
            rw [get_doc _ _ _ _ _ hne]
            dsimp only
            cases hl : gs.lookup k with
            | none => rfl
            | some w =>
              have hw := nna_lookup hgs hl
              have hfw : fans w rest = false := by simpa [hl] using hf2.1
              obtain ⟨h1, hlen⟩ := (get_cand rest w true hw hp.2).1 hfw
              dsimp only
              rw [h1 false]
              exact arrOfLength_single n hlen
          | arr ys => exact absurd hv.1.1 (by simp [V.isArr])
          | _ => rw [get_scalar _ _ _ _ _ rfl rfl]; rfl
    | _ => cases hf

theorem size_core {d : Doc} {path : String} (hd : PathDom d path) (n : Int)
    (hc : fans2 (.doc d) (splitPath path) = false) :
    sized d path n = (cand (.doc d) (splitPath path)).any fun c => arrOfLength n c.1 := by
  unfold sized
  cases hf : fans (.doc d) (splitPath path) with
  | true =>
    obtain ⟨L, hL, hany⟩ := size_get n (splitPath path) (.doc d) false hd.nna hd.segs hf hc
    have hall : All d (splitPath path) false false = (.arr L, true) := by
      unfold All; rw [hL]; rfl
    rw [hall]
    exact hany
  | false =>
    obtain ⟨h1, h2⟩ := All_noFan d (splitPath path) false false hd.nna hd.segs hf
    rw [h1, ← arrOfLength_single n h2]
    cases single (cand (.doc d) (splitPath path)) <;> rfl

theorem matchAll_eval (d : Doc) (path : String) (vs : List V) :
    matchAll d path (.arr vs) =
      toRes (!vs.isEmpty && vs.all fun v => unwindAny d path true false (cmpHolds .eq v)) := by
  have e : ∀ v, matchComp d "$eq" path v = toRes (unwindAny d path true false (cmpHolds .eq v)) :=
    matchComp_eval d path .eq
  rw [matchAll, allLoop_conj]
  simp only [e]
  rw [conj_toRes]
  cases vs <;> rfl

theorem all_core {d : Doc} {path : String} (hd : PathDom d path) (vs : List V)
    (hfan : fans (.doc d) (splitPath path) = true → vs.all scalarOperand = true) :
    (vs.all fun v => unwindAny d path true false (cmpHolds .eq v))
      = vs.all fun v => (leafs d (splitPath path)).any fun l => V.cmp l v == .eq := by
  refine all_congr_mem fun v hv => ?_
  exact (cmp_core hd v CmpOp.eq.rel fun hf => List.all_eq_true.mp (hfan hf) v hv).trans
    (any_congr_mem fun l _ => bracket_eq l v)

end Lungo
