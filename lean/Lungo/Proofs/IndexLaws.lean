/-
  Lungo.Proofs.IndexLaws — one index: `tupleEq`, key tuples, and what `Index.baseAdd` / `baseRemove` /
  `add` / `remove` do to the entries; coherence and uniqueness of one index under them.
-/
import Lungo.Spec.IndexSpec
import Lungo.Proofs.SortLaws
namespace Lungo

theorem TupOk.cons {x : V} {r : List V} : TupOk (x :: r) ↔ x.i64Ok = true ∧ TupOk r :=
  List.forall_mem_cons

theorem tupleEq_refl : ∀ t : List V, tupleEq t t = true
  | [] => rfl
  | x :: r => by simp [tupleEq, V.cmp_refl, tupleEq_refl r]

theorem tupleEq_symm : ∀ a b : List V, tupleEq a b = tupleEq b a
  | [], [] => rfl
  | [], _ :: _ => rfl
  | _ :: _, [] => rfl
  | x :: r, y :: s => by
    simp only [tupleEq, tupleEq_symm r s]
    rw [V.cmp_swap x y]
    cases V.cmp x y <;> rfl

theorem tupleEq_trans : ∀ a b c : List V, TupOk a → TupOk b → TupOk c →
    tupleEq a b = true → tupleEq b c = true → tupleEq a c = true
  | [], [], [], _, _, _, _, _ => rfl
  | [], [], _ :: _, _, _, _, _, h => by simp [tupleEq] at h
  | [], _ :: _, _, _, _, _, h, _ => by simp [tupleEq] at h
  | _ :: _, [], _, _, _, _, h, _ => by simp [tupleEq] at h
  | _ :: _, _ :: _, [], _, _, _, _, h => by simp [tupleEq] at h
  | x :: r, y :: s, z :: u, oa, ob, oc, h1, h2 => by
    simp only [tupleEq, Bool.and_eq_true, beq_iff_eq] at h1 h2 ⊢
    obtain ⟨ox, oa⟩ := TupOk.cons.mp oa
    obtain ⟨oy, ob⟩ := TupOk.cons.mp ob
    obtain ⟨oz, oc⟩ := TupOk.cons.mp oc
    exact ⟨((V.cmp_at x y z ox oy oz).congr_l h1.1).trans h2.1, tupleEq_trans r s u oa ob oc h1.2 h2.2⟩

/-- the expanded values of one column (body of the loop in `Index.tuples`) -/
def colValues (d : Doc) (col : Column) : List V :=
  match (All d (splitPath col.path) true true).1 with
  | .arr [] => [(All d (splitPath col.path) true true).1]
  | .arr a => a
  | v => [v]

def tuplesStep (d : Doc) (acc : List (List V)) (col : Column) : List (List V) :=
  acc.flatMap fun t => (colValues d col).map fun x => t ++ [x]

theorem tuples_eq (cols : List Column) (d : Doc) : tuples cols d = cols.foldl (tuplesStep d) [[]] := by
  unfold tuples
  congr 1
  funext acc col
  unfold tuplesStep colValues
  split <;> simp_all

theorem colValues_ne_nil (d : Doc) (col : Column) : colValues d col ≠ [] := by
  unfold colValues
  split
  · simp
  · rename_i a h1 h2
    intro h; subst h; exact h1 rfl
  · simp

theorem tuplesStep_ne_nil (d : Doc) (acc : List (List V)) (col : Column) (h : acc ≠ []) :
    tuplesStep d acc col ≠ [] := by
  unfold tuplesStep
  cases acc with
  | nil => exact absurd rfl h
  | cons t r =>
    cases hv : colValues d col with
    | nil => exact absurd hv (colValues_ne_nil d col)
    | cons v vs => simp

theorem foldl_tuplesStep_ne_nil (d : Doc) : ∀ (cols : List Column) (acc : List (List V)), acc ≠ [] →
    cols.foldl (tuplesStep d) acc ≠ []
  | [], _, h => h
  | col :: r, acc, h => foldl_tuplesStep_ne_nil d r _ (tuplesStep_ne_nil d acc col h)

theorem tuples_ne_nil (cols : List Column) (d : Doc) : tuples cols d ≠ [] := by
  rw [tuples_eq]; exact foldl_tuplesStep_ne_nil d cols [[]] (by simp)

/-- Induction along the columns: what holds of the empty tuple for no columns, and survives
    appending a value of the next column, holds of every key tuple. -/
theorem tuples_induct {d : Doc} {P : List Column → List V → Prop} (nil : P [] [])
    (snoc : ∀ cs col t x, P cs t → x ∈ colValues d col → P (cs ++ [col]) (t ++ [x]))
    (cols : List Column) : ∀ t ∈ tuples cols d, P cols t := by
  have key : ∀ (cols pre : List Column) (acc : List (List V)), (∀ t ∈ acc, P pre t) →
      ∀ t ∈ cols.foldl (tuplesStep d) acc, P (pre ++ cols) t := by
    intro cols
    induction cols with
    | nil => intro pre acc h; simpa using h
    | cons col r ih =>
      intro pre acc h
      rw [List.foldl_cons, List.append_cons]
      refine ih _ _ fun t ht => ?_
      simp only [tuplesStep, List.mem_flatMap, List.mem_map] at ht
      obtain ⟨t0, ht0, x, hx, rfl⟩ := ht
      exact snoc pre col t0 x (h t0 ht0) hx
  rw [tuples_eq]
  simpa using key cols [] [[]] (by simpa using nil)

theorem tuples_length (cols : List Column) (d : Doc) : ∀ t ∈ tuples cols d, t.length = cols.length :=
  tuples_induct (P := fun cs t => t.length = cs.length) rfl (fun _ _ _ _ h _ => by simp [h]) cols

/-! `get` and `All` only return parts of the value they are given, so its well-formedness is inherited
  (Proofs/SortLaws.lean). -/

theorem getField_ok : ∀ (fs : List (String × V)) (key : String) (rest : Path) (c k : Bool),
    i64OkFields fs = true → (getField fs key rest c k).1.i64Ok = true := getField_i64Ok

theorem getIdx_ok : ∀ (xs : List V) (idx : Nat) (rest : Path) (c k : Bool),
    i64OkList xs = true → ∀ r, getIdx xs idx rest c k = some r → r.1.i64Ok = true := getIdx_i64Ok

theorem getCollect_ok : ∀ (xs : List V) (key : String) (rest : Path) (c k : Bool),
    i64OkList xs = true → i64OkList (getCollect xs key rest c k) = true := getCollect_i64Ok

theorem colValues_ok (d : Doc) (col : Column) (h : DocOk d) : ∀ v ∈ colValues d col, v.i64Ok = true := by
  have h1 := All_i64Ok d (splitPath col.path) true true h
  unfold colValues
  split
  · intro v hv; simp only [List.mem_singleton] at hv; subst hv; exact h1
  · rename_i a _ heq
    rw [heq, V.i64Ok] at h1; exact i64OkList_iff.mp h1
  · intro v hv; simp only [List.mem_singleton] at hv; subst hv; exact h1

theorem tuples_ok (cols : List Column) (d : Doc) (h : DocOk d) : ∀ t ∈ tuples cols d, TupOk t :=
  tuples_induct (P := fun _ t => TupOk t) (fun _ hv => nomatch hv)
    (fun _ col _ x ht hx v hv => (List.mem_append.mp hv).elim (ht v)
      fun hv => List.mem_singleton.mp hv ▸ colValues_ok d col h x hx) cols

theorem hasEntry_iff (i : Index) (t : List V) (id : Nat) :
    i.hasEntry t id = true ↔ ∃ k, (k, id) ∈ i.entries ∧ tupleEq k t = true := by
  simp only [Index.hasEntry, List.any_eq_true, Bool.and_eq_true, beq_iff_eq]
  constructor
  · rintro ⟨⟨k, d⟩, hm, rfl, hk⟩; exact ⟨k, hm, hk⟩
  · rintro ⟨k, hm, hk⟩; exact ⟨(k, id), hm, rfl, hk⟩

theorem hasKey_iff (i : Index) (t : List V) :
    i.hasKey t = true ↔ ∃ k id, (k, id) ∈ i.entries ∧ tupleEq k t = true := by
  simp only [Index.hasKey, List.any_eq_true]
  constructor
  · rintro ⟨⟨k, d⟩, hm, hk⟩; exact ⟨k, d, hm, hk⟩
  · rintro ⟨k, d, hm, hk⟩; exact ⟨(k, d), hm, hk⟩

/-- one `btree.Set`: keep the set if an equivalent entry of the same document exists -/
def addEntry (id : Nat) (es : List (List V × Nat)) (t : List V) : List (List V × Nat) :=
  if es.any (fun (k, d) => d == id && tupleEq k t) then es else es ++ [(t, id)]

def addEntries (es : List (List V × Nat)) (id : Nat) (ts : List (List V)) : List (List V × Nat) :=
  ts.foldl (addEntry id) es

theorem addEntry_sub {id es t e} (h : e ∈ es) : e ∈ addEntry id es t := by
  unfold addEntry; split
  · exact h
  · exact List.mem_append_left _ h

theorem addEntry_mem {id es t e} (h : e ∈ addEntry id es t) : e ∈ es ∨ e = (t, id) := by
  unfold addEntry at h; split at h
  · exact .inl h
  · simpa using h

theorem addEntry_has (id : Nat) (es : List (List V × Nat)) (t : List V) :
    ∃ k, (k, id) ∈ addEntry id es t ∧ tupleEq k t = true := by
  unfold addEntry; split
  · rename_i h
    simp only [List.any_eq_true, Bool.and_eq_true, beq_iff_eq] at h
    obtain ⟨⟨k, d⟩, hm, rfl, hk⟩ := h
    exact ⟨k, hm, hk⟩
  · exact ⟨t, by simp, tupleEq_refl t⟩

abbrev EntriesNodup (es : List (List V × Nat)) : Prop :=
  es.Pairwise fun e1 e2 => ¬ (e1.2 = e2.2 ∧ tupleEq e1.1 e2.1 = true)

theorem addEntry_nodup {id es t} (h : EntriesNodup es) : EntriesNodup (addEntry id es t) := by
  unfold addEntry; split
  · exact h
  · rename_i hn
    rw [EntriesNodup, List.pairwise_append]
    refine ⟨h, by simp, fun a ha b hb hab => hn ?_⟩
    simp only [List.mem_singleton] at hb; subst hb
    simp only [List.any_eq_true, Bool.and_eq_true, beq_iff_eq]
    exact ⟨a, ha, hab⟩

theorem addEntries_sub {id e} : ∀ {ts es}, e ∈ es → e ∈ addEntries es id ts
  | [], _, h => h
  | t :: r, _, h => addEntries_sub (ts := r) (addEntry_sub (t := t) h)

theorem addEntries_mem {id e} : ∀ {ts es}, e ∈ addEntries es id ts → e ∈ es ∨ (e.2 = id ∧ e.1 ∈ ts)
  | [], _, h => .inl h
  | t :: r, es, h => by
    rcases addEntries_mem (ts := r) h with h | ⟨h1, h2⟩
    · rcases addEntry_mem h with h | rfl
      · exact .inl h
      · exact .inr ⟨rfl, by simp⟩
    · exact .inr ⟨h1, by simp [h2]⟩

theorem addEntries_has {id} : ∀ {ts es t}, t ∈ ts → ∃ k, (k, id) ∈ addEntries es id ts ∧ tupleEq k t = true
  | t0 :: r, es, t, h => by
    rcases List.mem_cons.mp h with rfl | h
    · obtain ⟨k, hm, hk⟩ := addEntry_has id es t
      exact ⟨k, addEntries_sub (ts := r) hm, hk⟩
    · exact addEntries_has (ts := r) h

theorem addEntries_nodup {id} : ∀ {ts es}, EntriesNodup es → EntriesNodup (addEntries es id ts)
  | [], _, h => h
  | t :: r, _, h => addEntries_nodup (ts := r) (addEntry_nodup (t := t) h)

/-! What `baseAdd`, `baseRemove`, `add` and `remove` return.
  Only the entries of an index ever change, so the results are stated as `{ i with entries := _ }`:
  configuration, columns, `partialMatches` and `belongs` of such an index are those of `i` by
  computation. -/

theorem baseAdd_true {i i' : Index} {sd : SDoc} (h : i.baseAdd sd = (i', true)) :
    i' = { i with entries := addEntries i.entries sd.id (tuples i.columns sd.doc) } ∧
    (i.config.unique = true → ∀ t ∈ tuples i.columns sd.doc, i.hasKey t = false) := by
  unfold Index.baseAdd at h
  simp only at h
  split at h
  · simp at h
  · rename_i hts
    split at h
    · simp at h
    · split at h
      · simp at h
      · rename_i h2
        simp only [Prod.mk.injEq, and_true] at h
        refine ⟨by rw [← h, hts]; rfl, fun hu t ht => ?_⟩
        simp only [hu, Bool.true_and, List.any_eq_true, not_exists, not_and, Bool.not_eq_true] at h2
        exact h2 t ht

theorem baseAdd_false {i i' : Index} {sd : SDoc} (h : i.baseAdd sd = (i', false)) :
    i' = i ∧ ((∃ t0 ∈ tuples i.columns sd.doc, i.hasEntry t0 sd.id = true) ∨
      (i.config.unique = true ∧ ∃ t ∈ tuples i.columns sd.doc, i.hasKey t = true)) := by
  unfold Index.baseAdd at h
  simp only at h
  split at h
  · rename_i hts; exact absurd hts (tuples_ne_nil _ _)
  · rename_i t0 r hts
    split at h
    · rename_i h1
      simp only [Prod.mk.injEq, and_true] at h
      exact ⟨h.symm, .inl ⟨t0, by rw [hts]; simp, h1⟩⟩
    · split at h
      · rename_i h2
        simp only [Prod.mk.injEq, and_true] at h
        simp only [Bool.and_eq_true, List.any_eq_true] at h2
        exact ⟨h.symm, .inr h2⟩
      · simp at h

theorem baseRemove_true {i i' : Index} {sd : SDoc} (h : i.baseRemove sd = (i', true)) :
    i' = { i with entries :=
      i.entries.filter fun (k, d) => !(d == sd.id && (tuples i.columns sd.doc).any (tupleEq k)) } := by
  unfold Index.baseRemove at h
  simp only at h
  split at h
  · simp at h
  · rename_i hts
    split at h
    · simp at h
    · simp only [Prod.mk.injEq, and_true] at h
      rw [← h, hts]

/-- `baseRemove` succeeds as soon as the first tuple has an entry -/
theorem baseRemove_ok {i : Index} {sd : SDoc}
    (h : ∀ t ∈ tuples i.columns sd.doc, i.hasEntry t sd.id = true) : ∃ i', i.baseRemove sd = (i', true) := by
  unfold Index.baseRemove
  simp only
  split
  · rename_i hts; exact absurd hts (tuples_ne_nil _ _)
  · rename_i t0 r hts
    rw [h t0 (by rw [hts]; simp)]
    exact ⟨_, rfl⟩

variable {sch : SchemaEval}

/-! `Index.add` / `Index.remove` by the verdict of the partial filter: a document that falls under the
  index is handed to `baseAdd` / `baseRemove`, for one that does not the index is left alone and the
  call succeeds, and a filter that cannot be evaluated is the error of the call. -/

theorem Index.add_eq (i : Index) (sd : SDoc) :
    i.add sch sd = (partialMatches sch i sd.doc).map fun b => bif b then i.baseAdd sd else (i, true) := by
  unfold Index.add
  rcases partialMatches sch i sd.doc with e | _ | _ <;> rfl

theorem Index.remove_eq (i : Index) (sd : SDoc) :
    i.remove sch sd = (partialMatches sch i sd.doc).map fun b => bif b then i.baseRemove sd else (i, true) := by
  unfold Index.remove
  rcases partialMatches sch i sd.doc with e | _ | _ <;> rfl

theorem add_ok {i i' : Index} {sd : SDoc} {b : Bool} (h : i.add sch sd = .ok (i', b)) :
    (partialMatches sch i sd.doc = .ok false ∧ i' = i ∧ b = true) ∨
    (belongs sch i sd.doc ∧ i.baseAdd sd = (i', b)) := by
  rw [Index.add_eq] at h
  rcases hp : partialMatches sch i sd.doc with e | _ | _ <;> rw [hp] at h
  · cases h
  · cases h; exact .inl ⟨rfl, rfl, rfl⟩
  · exact .inr ⟨hp, Except.ok.inj h⟩

theorem remove_true {i i' : Index} {sd : SDoc} (h : i.remove sch sd = .ok (i', true)) :
    (partialMatches sch i sd.doc = .ok false ∧ i' = i) ∨
    (belongs sch i sd.doc ∧ i.baseRemove sd = (i', true)) := by
  rw [Index.remove_eq] at h
  rcases hp : partialMatches sch i sd.doc with e | _ | _ <;> rw [hp] at h
  · cases h
  · cases h; exact .inl ⟨rfl, rfl⟩
  · exact .inr ⟨hp, Except.ok.inj h⟩

theorem add_shape {i i' : Index} {sd : SDoc} {b : Bool} (h : i.add sch sd = .ok (i', b)) :
    i'.config = i.config ∧ i'.columns = i.columns := by
  rcases add_ok h with ⟨_, rfl, _⟩ | ⟨_, h⟩
  · exact ⟨rfl, rfl⟩
  · cases b with
    | true => rw [(baseAdd_true h).1]; exact ⟨rfl, rfl⟩
    | false => rw [(baseAdd_false h).1]; exact ⟨rfl, rfl⟩

theorem remove_shape {i i' : Index} {sd : SDoc} (h : i.remove sch sd = .ok (i', true)) :
    i'.config = i.config ∧ i'.columns = i.columns := by
  rcases remove_true h with ⟨_, rfl⟩ | ⟨_, h⟩
  · exact ⟨rfl, rfl⟩
  · rw [baseRemove_true h]; exact ⟨rfl, rfl⟩

theorem partialMatches_config {i i' : Index} (h : i'.config = i.config) (d : Doc) :
    partialMatches sch i' d = partialMatches sch i d := by
  unfold partialMatches; rw [h]

theorem belongs_config {i i' : Index} (h : i'.config = i.config) (d : Doc) :
    belongs sch i' d ↔ belongs sch i d := by
  unfold belongs; rw [partialMatches_config h]

theorem IndexCoherent.congr {S S' : SDoc → Prop} {i : Index} (hc : IndexCoherent sch S i)
    (h : ∀ x, S' x ↔ S x) : IndexCoherent sch S' i where
  cols := hc.cols
  total x hx := hc.total x ((h x).mp hx)
  sound k id hm := by
    obtain ⟨x, hx, r⟩ := hc.sound k id hm
    exact ⟨x, (h x).mpr hx, r⟩
  complete x hx := hc.complete x ((h x).mp hx)
  nodup := hc.nodup

theorem IndexCoherent.add {S : SDoc → Prop} {i i' : Index} {sd : SDoc}
    (hc : IndexCoherent sch S i) (h : i.add sch sd = .ok (i', true)) :
    IndexCoherent sch (fun x => S x ∨ x = sd) i' := by
  rcases add_ok h with ⟨hb, rfl, _⟩ | ⟨hb, h⟩
  · -- outside the partial filter: the index is untouched
    refine ⟨hc.cols, ?_, fun k id hm => ?_, ?_, hc.nodup⟩
    · rintro x (hx | rfl)
      · exact hc.total x hx
      · exact ⟨false, hb⟩
    · obtain ⟨x, hx, r⟩ := hc.sound k id hm
      exact ⟨x, .inl hx, r⟩
    · rintro x (hx | rfl) hbx
      · exact hc.complete x hx hbx
      · rw [belongs, hb] at hbx; cases hbx
  · rw [(baseAdd_true h).1]
    refine ⟨hc.cols, ?_, fun k id hm => ?_, ?_, addEntries_nodup hc.nodup⟩
    · rintro x (hx | rfl)
      · exact hc.total x hx
      · exact ⟨true, hb⟩
    · rcases addEntries_mem hm with hm | ⟨h1, h2⟩
      · obtain ⟨x, hx, r⟩ := hc.sound k id hm
        exact ⟨x, .inl hx, r⟩
      · exact ⟨sd, .inr rfl, h1.symm, hb, h2⟩
    · rintro x (hx | rfl) hbx t ht
      · obtain ⟨k, hm, hk⟩ := hc.complete x hx hbx t ht
        exact ⟨k, addEntries_sub hm, hk⟩
      · exact addEntries_has ht

theorem IndexCoherent.remove {S : SDoc → Prop} {i i' : Index} {sd : SDoc}
    (hc : IndexCoherent sch S i) (hinj : ∀ x, S x → x.id = sd.id → x = sd)
    (h : i.remove sch sd = .ok (i', true)) :
    IndexCoherent sch (fun x => S x ∧ x.id ≠ sd.id) i' := by
  rcases remove_true h with ⟨hb, rfl⟩ | ⟨_, h⟩
  · -- outside the partial filter: no entry carries the identity of `sd`
    refine ⟨hc.cols, fun x hx => hc.total x hx.1, fun k id hm => ?_,
      fun x hx => hc.complete x hx.1, hc.nodup⟩
    obtain ⟨x, hx, hid, hbx, hk⟩ := hc.sound k id hm
    refine ⟨x, ⟨hx, fun heq => ?_⟩, hid, hbx, hk⟩
    rw [hinj x hx heq, belongs, hb] at hbx; cases hbx
  · rw [baseRemove_true h]
    refine ⟨hc.cols, fun x hx => hc.total x hx.1, fun k id hm => ?_, fun x hx hbx t ht => ?_,
      hc.nodup.filter _⟩
    · -- a surviving entry of `sd` would be a tuple of `sd`, and those were all filtered out
      obtain ⟨hm, hf⟩ := List.mem_filter.mp hm
      obtain ⟨x, hx, hid, hbx, hk⟩ := hc.sound k id hm
      refine ⟨x, ⟨hx, fun heq => ?_⟩, hid, hbx, hk⟩
      have hsd := hinj x hx heq
      subst hsd
      have : (tuples i.columns x.doc).any (tupleEq k) = true :=
        List.any_eq_true.mpr ⟨k, hk, tupleEq_refl k⟩
      simp [hid, this] at hf
    · obtain ⟨k, hm, hk⟩ := hc.complete x hx.1 hbx t ht
      refine ⟨k, List.mem_filter.mpr ⟨hm, ?_⟩, hk⟩
      simp [hx.2]

/-- removing a stored document from a coherent index never fails
    ("unable to remove document from index" is unreachable) -/
theorem IndexCoherent.remove_ok {S : SDoc → Prop} {i : Index} {sd : SDoc}
    (hc : IndexCoherent sch S i) (hs : S sd) : ∃ i', i.remove sch sd = .ok (i', true) := by
  obtain ⟨_ | _, hb⟩ := hc.total sd hs
  · exact ⟨i, by rw [Index.remove_eq, hb]; rfl⟩
  · obtain ⟨i', h⟩ := baseRemove_ok fun t ht => (hasEntry_iff i t sd.id).mpr (hc.complete sd hs hb t ht)
    exact ⟨i', by rw [Index.remove_eq, hb, ← h]; rfl⟩

theorem IndexUnique.mono {S S' : SDoc → Prop} {i i' : Index} (hu : IndexUnique sch S i)
    (hs : ∀ x, S' x → S x) (hcfg : i'.config = i.config) (hcol : i'.columns = i.columns) :
    IndexUnique sch S' i' := by
  intro hun x y hx hy hne bx hby
  rw [hcol]
  rw [belongs_config hcfg] at bx hby
  rw [hcfg] at hun
  exact hu hun x y (hs x hx) (hs y hy) hne bx hby

/-- identities determine the stored documents of `S` -/
def IdInj (S : SDoc → Prop) : Prop := ∀ x y, S x → S y → x.id = y.id → x = y

theorem IdInj.insert {S : SDoc → Prop} {sd : SDoc} (h : IdInj S) (hf : ∀ x, S x → x.id ≠ sd.id) :
    IdInj (fun x => S x ∨ x = sd) := by
  rintro x y (hx | rfl) (hy | rfl) e
  · exact h x y hx hy e
  · exact absurd e (hf x hx)
  · exact absurd e.symm (hf y hy)
  · rfl

theorem IdInj.mono {S S' : SDoc → Prop} (h : IdInj S) (hs : ∀ x, S' x → S x) : IdInj S' :=
  fun x y hx hy e => h x y (hs x hx) (hs y hy) e

/-- after a successful `baseAdd` into a unique index the new document shares no key with a
    stored one (needs transitivity of `tupleEq`, hence well-formed tuples) -/
theorem no_collision_of_baseAdd {S : SDoc → Prop} {i i' : Index} {sd : SDoc}
    (hc : IndexCoherent sch S i) (hinj : IdInj S) (hsd : DocOk sd.doc)
    (hun : i.config.unique = true) (h : i.baseAdd sd = (i', true)) :
    ∀ x, S x → DocOk x.doc → belongs sch i x.doc →
      ∀ t1 ∈ tuples i.columns x.doc, ∀ t2 ∈ tuples i.columns sd.doc, tupleEq t1 t2 = false := by
  intro x hx hxo hbx t1 ht1 t2 ht2
  cases heq : tupleEq t1 t2 with
  | false => rfl
  | true =>
    -- the entry `k ≈ t1` of `x` would be a key `≈ t2` in the index, which `baseAdd` excluded
    obtain ⟨k, hm, hk⟩ := hc.complete x hx hbx t1 ht1
    obtain ⟨x', hx', hid, _, hk'⟩ := hc.sound k x.id hm
    have := hinj x' x hx' hx hid
    subst this
    have := tupleEq_trans k t1 t2 (tuples_ok _ _ hxo k hk') (tuples_ok _ _ hxo t1 ht1)
      (tuples_ok _ _ hsd t2 ht2) hk heq
    rw [← (baseAdd_true h).2 hun t2 ht2]
    exact ((hasKey_iff i t2).mpr ⟨k, x'.id, hm, this⟩).symm

theorem IndexUnique.add {S : SDoc → Prop} {i i' : Index} {sd : SDoc}
    (hc : IndexCoherent sch S i) (hinj : IdInj S)
    (hu : IndexUnique sch (fun x => S x ∧ DocOk x.doc) i)
    (h : i.add sch sd = .ok (i', true)) :
    IndexUnique sch (fun x => (S x ∨ x = sd) ∧ DocOk x.doc) i' := by
  obtain ⟨hcfg, hcol⟩ := add_shape h
  intro hun x y ⟨hx, hxo⟩ ⟨hy, hyo⟩ hne bx hby t1 ht1 t2 ht2
  rw [hcol] at ht1 ht2
  rw [belongs_config hcfg] at bx hby
  rw [hcfg] at hun
  -- a stored document against the new one: `sd` belongs, so `baseAdd` ran and found no key of it
  have key : ∀ z, S z → DocOk z.doc → DocOk sd.doc → belongs sch i z.doc → belongs sch i sd.doc →
      ∀ u1 ∈ tuples i.columns z.doc, ∀ u2 ∈ tuples i.columns sd.doc, tupleEq u1 u2 = false := by
    intro z hz hzo hsd hbz hbs
    rcases add_ok h with ⟨hb, _⟩ | ⟨_, h⟩
    · rw [belongs, hb] at hbs; cases hbs
    · exact no_collision_of_baseAdd hc hinj hsd hun h z hz hzo hbz
  rcases hx with hx | rfl
  · rcases hy with hy | rfl
    · exact hu hun x y ⟨hx, hxo⟩ ⟨hy, hyo⟩ hne bx hby t1 ht1 t2 ht2
    · exact key x hx hxo hyo bx hby t1 ht1 t2 ht2
  · rcases hy with hy | rfl
    · rw [tupleEq_symm]; exact key y hy hyo hxo hby bx t2 ht2 t1 ht1
    · exact absurd rfl hne

end Lungo
