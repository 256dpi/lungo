/-
  Lungo.Proofs.StreamTSDrop — invariants about `dropped` / invalidate and frozen streams.
-/
import Lungo.Proofs.StreamTSData
namespace Lungo.StreamTS

/-- never-created stream ids carry the default stream state -/
def InvDef (s : State) : Prop := Streams (fun x st => x ∉ s.created → st = {}) s

theorem InvDef_init : InvDef init := by
  intro x _; rfl

theorem InvDef_step {s s' a} (h : StepCase s a s') (i : InvDef s) (ipc : InvPC s) : InvDef s' := by
  cases h with
  | none eq => exact eq ▸ i
  | commit evs trim _ eq =>
    subst eq
    intro x hx
    simp only [stepCommit, i x hx]
    rfl
  | rule al cl cr sid l' st' r eq =>
    subst eq
    refine i.rule (fun x h hx => h fun hc => hx (r.glob.1 _ hc)) fun i1 hx => ?_
    have p1 := (ipc a sid).1
    -- the stream is not created: the stepper's pc does not name it, and Engine.Close finds it closed
    cases r with
    | callNext _ _ hc | callClose _ hc => exact absurd hc hx
    | eDone | eStart => exact i1 hx
    | eVisit => rw [i1 hx]; rfl
    | watch => exact absurd List.mem_cons_self hx
    | _ => exact absurd (p1 (by rw [‹(s.actors a).pc = _›]; rfl)) hx

/-- `invalidated` implies closed and dropped; the lost-position error comes with a closed stream -/
def InvV3 (s : State) : Prop :=
  Streams (fun _ st => (st.invalidated = true → st.closed = true ∧ st.dropped = true) ∧
                       (st.error = some .lost → st.closed = true)) s

theorem InvV3_init : InvV3 init := by
  intro x; simp [init]

theorem InvV3_step {s s' a} (h : StepCase s a s') (i : InvV3 s) : InvV3 s' := by
  cases h with
  | none eq => exact eq ▸ i
  | commit evs trim _ eq => exact eq ▸ i.commit (fun _ _ _ _ h => h) evs trim
  | rule al cl cr sid l' st' r eq =>
    subst eq
    refine i.rule (fun _ h => h) fun i1 => ?_
    cases r with
    | nLockInval | nReadDeliver | nLost | nSigClosed | cLock => simp_all
    | nReadEmpty | nCtx =>
      refine ⟨i1.1, fun he => ?_⟩
      split at he <;> first | cases he | exact i1.2 he
    | cSend | eVisit => split <;> simp_all
    | watch => exact ⟨nofun, nofun⟩
    | _ => exact i1

/-- the drop event that set `dropped` is the last delivered event, and the only such one -/
def InvV (s : State) : Prop :=
  Streams (fun _ st => (st.dropped = false → ∀ e ∈ st.delivered, setsDropped st.handle e = false) ∧
    (st.dropped = true → ∃ pre e, st.delivered = pre ++ [e] ∧ setsDropped st.handle e = true ∧
      ∀ e' ∈ pre, setsDropped st.handle e' = false)) s

theorem InvV_init : InvV init := by
  intro x; simp [init]

theorem InvV_step {s s' a} (h : StepCase s a s') (i : InvV s) (ih : InvH s) : InvV s' := by
  cases h with
  | none eq => exact eq ▸ i
  | commit evs trim _ eq => exact eq ▸ i.commit (fun _ _ _ _ h => h) evs trim
  | rule al cl cr sid l' st' r eq =>
    subst eq
    refine i.rule (fun _ h => h) fun ix => ?_
    cases r with
    | nReadDeliver _ ni ev hpc =>
      -- the consumer reads only while `dropped` is unset: the delivered event is the first to set it
      have hd : (s.streams sid).dropped = false := ((ih a sid).2.1 _ hpc).2.1
      have ix := ix.1 hd
      simp only [hd, Bool.false_or]
      refine ⟨?_, fun hs => ⟨_, ev, rfl, hs, ix⟩⟩
      intro hs e he
      rcases List.mem_append.mp he with he | he
      · exact ix e he
      · simp only [List.mem_singleton] at he; subst he; exact hs
    | cSend | eVisit => split <;> exact ix
    | watch => simp
    | _ => exact ix

/-! ### frozen streams -/

/-- from `s` to `s'` no dropped and no closed stream has delivered anything, and `dropped`, `closed`
    (of a created stream: Watch opens the others) and `invalidated` have stayed set -/
def Frozen (s s' : State) : Prop :=
  Streams (fun x st' =>
    ((s.streams x).dropped = true → st'.delivered = (s.streams x).delivered ∧ st'.dropped = true) ∧
    ((s.streams x).closed = true → x ∈ s.created →
       st'.delivered = (s.streams x).delivered ∧ st'.closed = true ∧ x ∈ s'.created) ∧
    ((s.streams x).invalidated = true → st'.invalidated = true)) s'

theorem Frozen.refl (s : State) : Frozen s s :=
  fun _ => ⟨fun h => ⟨rfl, h⟩, fun h hc => ⟨rfl, h, hc⟩, id⟩

theorem Frozen.trans {s s₁ s₂ : State} (f : Frozen s s₁) (g : Frozen s₁ s₂) : Frozen s s₂ := by
  intro x
  obtain ⟨g1, g2, g3⟩ := g x
  refine ⟨fun h => ?_, fun h hc => ?_, fun h => g3 ((f x).2.2 h)⟩
  · have j := (f x).1 h
    exact ⟨(g1 j.2).1.trans j.1, (g1 j.2).2⟩
  · have j := (f x).2.1 h hc
    exact ⟨(g2 j.2.1 j.2.2).1.trans j.1, (g2 j.2.1 j.2.2).2⟩

theorem frozen_step {s s' a} (h : StepCase s a s') (ih : InvH s) (idf : InvDef s) : Frozen s s' := by
  cases h with
  | none eq => exact eq ▸ .refl s
  | commit evs trim _ eq => exact eq ▸ (Frozen.refl s).commit (fun _ _ _ _ h => h) evs trim
  | rule al cl cr sid l' st' r eq =>
    subst eq
    refine (Frozen.refl s).rule (fun x h => ⟨h.1, fun hc hx => ⟨(h.2.1 hc hx).1, (h.2.1 hc hx).2.1,
      r.glob.1 _ hx⟩, h.2.2⟩) fun i1 => ?_
    cases r with
    | nReadDeliver _ _ _ hpc =>
      -- the consumer reads only an open stream on which `dropped` is unset
      have n1 := (ih a sid).2.1 _ hpc
      refine ⟨fun h => ?_, fun h => ?_, id⟩
      · rw [n1.2.1] at h; cases h
      · rw [n1.1] at h; cases h
    | watch _ _ _ _ _ fresh =>
      rw [idf sid fresh]
      exact ⟨nofun, fun _ hc => absurd hc fresh, nofun⟩
    | nLockInval => exact ⟨fun h => ⟨rfl, h⟩, fun _ hc => ⟨rfl, rfl, hc⟩, fun _ => rfl⟩
    | nLost | nSigClosed | cLock => exact ⟨fun h => ⟨rfl, h⟩, fun _ hc => ⟨rfl, rfl, hc⟩, id⟩
    | cSend => split <;> exact i1
    | eVisit =>
      split
      · exact i1
      · exact ⟨fun h => ⟨rfl, h⟩, fun _ hc => ⟨rfl, rfl, hc⟩, id⟩
    | _ => exact i1

end Lungo.StreamTS
