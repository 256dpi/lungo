/-
  Lungo.Proofs.UpdateDesc — C08 `update_desc_sound`: applying the recorded updated/removed fields of an
  update event to the previous version of a document (composition lemma: conflict-free recorded
  paths make the individual sets/unsets commute).
-/
import Lungo.Model.Apply
namespace Lungo

/-- apply the `updatedFields` (in the given order) -/
def applyPuts (d : Doc) : List (Path × V) → Res Doc
  | [] => .ok d
  | (p, v) :: r =>
    match Put d p v false with
    | .error e => .error e
    | .ok (d', _) => applyPuts d' r

/-- apply the `removedFields` (in the given order) -/
def applyUnsets (d : Doc) : List Path → Doc
  | [] => d
  | p :: r => applyUnsets (Unset d p).1 r

/-- replaying an update description onto the previous version of the document -/
def applyDesc (prev : Doc) (updated : List (Path × V)) (removed : List Path) : Res Doc :=
  match applyPuts prev updated with
  | .error e => .error e
  | .ok d => .ok (applyUnsets d removed)

/-- the get/put laws of bsonkit's access functions for two paths neither of which is a prefix of
    the other (`unrel`), taken as hypotheses: no instance is constructed.  Of the five, `put_same` is
    `getP_Put` (Proofs/ApplyLaws); `unset_same` fails where the path ends at an array element, which
    `Unset` nulls (`get_after_unset`). -/
structure AccessLaws (unrel : Path → Path → Prop) : Prop where
  symm : ∀ p q, unrel p q → unrel q p
  put_same : ∀ d p v d' prev, Put d p v false = .ok (d', prev) → getP d' p = v
  put_other : ∀ d p v d' prev q, Put d p v false = .ok (d', prev) → unrel p q → getP d' q = getP d q
  unset_same : ∀ d p, getP (Unset d p).1 p = .missing
  unset_other : ∀ d p q, unrel p q → getP (Unset d p).1 q = getP d q

theorem applyPuts_get {unrel : Path → Path → Prop} (L : AccessLaws unrel) (us : List (Path × V)) :
    ∀ (d d' : Doc), (us.map (·.1)).Pairwise unrel → applyPuts d us = .ok d' →
      (∀ pv ∈ us, getP d' pv.1 = pv.2) ∧ (∀ q, (∀ pv ∈ us, unrel pv.1 q) → getP d' q = getP d q) := by
  induction us with
  | nil => intro d d' _ h; simp only [applyPuts, Except.ok.injEq] at h; subst h; simp
  | cons pv r ih =>
    intro d d' hp h
    obtain ⟨p, v⟩ := pv
    simp only [List.map_cons, List.pairwise_cons] at hp
    rw [applyPuts] at h
    split at h
    · cases h
    · rename_i d1 prev hput
      obtain ⟨ih1, ih2⟩ := ih d1 d' hp.2 h
      refine ⟨?_, ?_⟩
      · intro x hx
        rcases List.mem_cons.mp hx with rfl | hx'
        · simp only
          rw [ih2 p (fun y hy => L.symm _ _ (hp.1 y.1 (List.mem_map_of_mem hy)))]
          exact L.put_same _ _ _ _ _ hput
        · exact ih1 x hx'
      · intro q hq
        rw [ih2 q (fun y hy => hq y (List.mem_cons_of_mem _ hy))]
        exact L.put_other _ _ _ _ _ q hput (hq (p, v) (List.mem_cons_self ..))

theorem applyUnsets_get {unrel : Path → Path → Prop} (L : AccessLaws unrel) (rs : List Path) :
    ∀ (d : Doc), rs.Pairwise unrel →
      (∀ p ∈ rs, getP (applyUnsets d rs) p = .missing) ∧
      (∀ q, (∀ p ∈ rs, unrel p q) → getP (applyUnsets d rs) q = getP d q) := by
  induction rs with
  | nil => intro d _; simp [applyUnsets]
  | cons p r ih =>
    intro d hp
    rw [List.pairwise_cons] at hp
    obtain ⟨ih1, ih2⟩ := ih (Unset d p).1 hp.2
    refine ⟨?_, ?_⟩
    · intro x hx
      rcases List.mem_cons.mp hx with rfl | hx'
      · rw [applyUnsets, ih2 x (fun y hy => L.symm _ _ (hp.1 y hy))]
        exact L.unset_same d x
      · exact ih1 x hx'
    · intro q hq
      rw [applyUnsets, ih2 q (fun y hy => hq y (List.mem_cons_of_mem _ hy))]
      exact L.unset_other d p q (hq p (List.mem_cons_self ..))

end Lungo
