/-
  Lungo.Proofs.File — `File` ↔ BSON round trip and Store/Load identity on the lite catalog.
-/
import Lungo.Model.File
import Lungo.Proofs.Codec
namespace Lungo.Lite
open Lungo.Bson

theorem mapPut_fresh {α : Type} (k : String) (x : α) (acc : List (String × α))
    (h : k ∉ acc.map Prod.fst) : mapPut k x acc = acc ++ [(k, x)] := by
  induction acc with
  | nil => rfl
  | cons a r ih =>
    obtain ⟨k', y⟩ := a
    simp only [List.map_cons, List.mem_cons, not_or] at h
    have hne : ¬ k' = k := fun e => h.1 e.symm
    simp [mapPut, hne, ih h.2]

/-- Decoding a map element by element: the next key is new to the accumulator, and stays distinct from
    the keys still to come once it is put there. -/
theorem nodup_keys_step {α : Type} {acc r : List (String × α)} {n : String} {x : α}
    (h : (acc.map Prod.fst ++ ((n, x) :: r).map Prod.fst).Nodup) :
    n ∉ acc.map Prod.fst ∧ ((acc ++ [(n, x)]).map Prod.fst ++ r.map Prod.fst).Nodup := by
  refine ⟨fun hm => ?_, by simpa [List.append_assoc] using h⟩
  rw [List.nodup_append] at h
  exact h.2.2 n hm n (by simp) rfl

theorem vIdx_idxV (i : FileIndex) : vIdx (idxV i) = .ok i := by
  obtain ⟨k, u, p, e⟩ := i
  cases k <;> cases p <;> simp [vIdx, idxV, lastField, optDocV, vOptDoc, vBool, vInt64]

theorem vIdxMap_idxFields (is acc : List (String × FileIndex))
    (h : (acc.map Prod.fst ++ is.map Prod.fst).Nodup) :
    vIdxMap (idxFields is) acc = .ok (acc ++ is) := by
  induction is generalizing acc with
  | nil => simp [idxFields, vIdxMap]
  | cons a r ih =>
    obtain ⟨n, i⟩ := a
    obtain ⟨hn, h'⟩ := nodup_keys_step h
    simp only [idxFields, vIdxMap, vIdx_idxV, mapPut_fresh n i acc hn]
    rw [ih _ h']
    simp [List.append_assoc]

theorem vDocs_docsV (ds : List Doc) : vDocs (docsV ds) = .ok ds := by
  induction ds with
  | nil => rfl
  | cons d r ih => simp [docsV, vDocs, ih]

def FileNamespace.distinct (n : FileNamespace) : Prop :=
  ((n.indexes.getD []).map Prod.fst).Nodup

theorem vNs_nsV (n : FileNamespace) (h : n.distinct) : vNs (nsV n) = .ok n := by
  obtain ⟨ds, is⟩ := n
  cases ds <;> cases is <;>
    simp_all [vNs, nsV, lastField, vDocs_docsV, FileNamespace.distinct, Except.map,
      vIdxMap_idxFields _ []]

theorem vNsMap_nsFields (nss acc : List (String × FileNamespace))
    (h : (acc.map Prod.fst ++ nss.map Prod.fst).Nodup)
    (hd : ∀ x ∈ nss, x.2.distinct) :
    vNsMap (nsFields nss) acc = .ok (acc ++ nss) := by
  induction nss generalizing acc with
  | nil => simp [nsFields, vNsMap]
  | cons a r ih =>
    obtain ⟨n, x⟩ := a
    obtain ⟨hn, h'⟩ := nodup_keys_step h
    have hx : x.distinct := hd (n, x) (by simp)
    simp only [nsFields, vNsMap, vNs_nsV x hx, mapPut_fresh n x acc hn]
    rw [ih _ h' (fun y hy => hd y (by simp [hy]))]
    simp [List.append_assoc]

/-- Map keys are pairwise distinct (as in any Go map). -/
def File.distinct (f : File) : Prop :=
  ((f.namespaces.getD []).map Prod.fst).Nodup ∧ ∀ x ∈ f.namespaces.getD [], x.2.distinct

theorem docFile_fileDoc (f : File) (h : f.distinct) : docFile (fileDoc f) = .ok f := by
  obtain ⟨nss⟩ := f
  cases nss with
  | none => simp [docFile, fileDoc, lastField]
  | some nss =>
    have := vNsMap_nsFields nss [] (by simpa [File.distinct] using h.1)
      (by simpa [File.distinct] using h.2)
    simp [docFile, fileDoc, lastField, this, Except.map]

/-- `bson.Unmarshal(bson.Marshal(file)) = file` on the model. -/
theorem decodeFile_encodeFile (f : File) (h : f.distinct) (hw : wfEncDoc (fileDoc f) = true) :
    decodeFile (encodeFile f) = .ok f := by
  simp [decodeFile, encodeFile, decDoc_encDoc _ hw, docFile_fileDoc f h]

theorem splitDot_append (a b : List Char) (h : '.' ∉ a) :
    splitDot (a ++ '.' :: b) = some (a, b) := by
  induction a with
  | nil => simp [splitDot]
  | cons c r ih =>
    simp only [List.mem_cons, not_or] at h
    have hc : ¬ c = '.' := fun e => h.1 e.symm
    simp [splitDot, hc, ih h.2]

theorem handleString_toList (db coll : String) :
    (handleString db coll).toList = db.toList ++ '.' :: coll.toList := by
  simp [handleString, String.toList_append]

theorem splitDot_handleString (db coll : String) (h : '.' ∉ db.toList) :
    splitDot (handleString db coll).toList = some (db.toList, coll.toList) := by
  rw [handleString_toList]; exact splitDot_append _ _ h

/-- Without a dot in the database name, `Handle.String` is injective. -/
theorem handleString_inj (db coll db' coll' : String) (h : '.' ∉ db.toList) (h' : '.' ∉ db'.toList)
    (e : handleString db coll = handleString db' coll') : db = db' ∧ coll = coll' := by
  have e1 := splitDot_handleString db coll h
  rw [e, splitDot_handleString db' coll' h'] at e1
  simp only [Option.some.injEq, Prod.mk.injEq] at e1
  exact ⟨(String.toList_inj.mp e1.1).symm, (String.toList_inj.mp e1.2).symm⟩

theorem fromFileIndexes_toFileIndexes (indexOk : IndexDef → List Doc → Bool) (docs : List Doc)
    (is : List (String × IndexDef)) (h : ∀ x ∈ is, indexOk x.2 docs = true) :
    fromFileIndexes indexOk docs (toFileIndexes is) = .ok is := by
  induction is with
  | nil => rfl
  | cons a r ih =>
    obtain ⟨n, d⟩ := a
    have hd : indexOk d docs = true := h (n, d) (by simp)
    have hr := ih (fun x hx => h x (by simp [hx]))
    obtain ⟨k, u, p, e⟩ := d
    simp only [toFileIndexes, fromFileIndexes, toFileIndex, hd, if_true, hr]

/-- What `BuildCatalog` needs from a catalog besides encodability. -/
structure Catalog.Loadable (indexOk : IndexDef → List Doc → Bool) (c : Catalog) : Prop where
  /-- no database name contains '.', the separator of the persisted handle string -/
  noDot : ∀ n ∈ c, '.' ∉ n.db.toList
  /-- every index is consistent with the documents of its collection (C15's `Inv`) -/
  idxOk : ∀ n ∈ c, ∀ x ∈ n.indexes, indexOk x.2 n.docs = true

theorem fromFileNamespaces_toFileNamespaces (indexOk : IndexDef → List Doc → Bool) (c : Catalog)
    (h : Catalog.Loadable indexOk c) :
    fromFileNamespaces indexOk (toFileNamespaces c) = .ok c := by
  induction c with
  | nil => rfl
  | cons n r ih =>
    have hr := ih ⟨fun m hm => h.noDot m (by simp [hm]), fun m hm => h.idxOk m (by simp [hm])⟩
    have hs := splitDot_handleString n.db n.coll (h.noDot n (by simp))
    have hi := fromFileIndexes_toFileIndexes indexOk n.docs n.indexes (h.idxOk n (by simp))
    simp only [toFileNamespaces, fromFileNamespaces, hs, Option.getD_some, hi, hr, String.ofList_toList]

theorem toFileNamespaces_keys_nodup (c : Catalog) (hnd : ∀ n ∈ c, '.' ∉ n.db.toList)
    (hp : (c.map Namespace.handle).Nodup) : ((toFileNamespaces c).map Prod.fst).Nodup := by
  induction c with
  | nil => simp [toFileNamespaces]
  | cons n r ih =>
    simp only [List.map_cons, List.nodup_cons] at hp
    simp only [toFileNamespaces, List.map_cons, List.nodup_cons]
    refine ⟨?_, ih (fun m hm => hnd m (by simp [hm])) hp.2⟩
    intro hm
    apply hp.1
    clear ih hp
    induction r with
    | nil => simp [toFileNamespaces] at hm
    | cons m r' ih2 =>
      simp only [toFileNamespaces, List.map_cons, List.mem_cons] at hm
      rcases hm with e | hm
      · have := handleString_inj n.db n.coll m.db m.coll (hnd n (by simp)) (hnd m (by simp)) e
        simp [Namespace.handle, this.1, this.2]
      · have := ih2 (fun x hx => hnd x (by
          simp only [List.mem_cons] at hx ⊢
          rcases hx with hx | hx
          · exact Or.inl hx
          · exact Or.inr (Or.inr hx))) hm
        simp only [List.map_cons, List.mem_cons]
        exact Or.inr this

theorem toFileIndexes_keys (is : List (String × IndexDef)) :
    (toFileIndexes is).map Prod.fst = is.map Prod.fst := by
  induction is with
  | nil => rfl
  | cons a r ih => obtain ⟨n, d⟩ := a; simp [toFileIndexes, ih]

theorem toFileNamespaces_distinct (c : Catalog) (hi : ∀ n ∈ c, (n.indexes.map Prod.fst).Nodup) :
    ∀ x ∈ toFileNamespaces c, x.2.distinct := by
  induction c with
  | nil => simp [toFileNamespaces]
  | cons n r ih =>
    intro x hx
    simp only [toFileNamespaces, List.mem_cons] at hx
    rcases hx with e | hx
    · subst e
      simpa [FileNamespace.distinct, toFileIndexes_keys] using hi n (by simp)
    · exact ih (fun m hm => hi m (by simp [hm])) x hx

end Lungo.Lite
