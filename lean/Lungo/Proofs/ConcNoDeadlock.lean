/-
  Lungo.Proofs.ConcNoDeadlock — (sessions may be shared) some non-fault step is always enabled
  unless every unfinished actor waits for the token that a client deliberately holds.

  If no actor is `Ready`, both kinds of mutex are free (a holder would be ready), so every actor is at rest, at the
  acquire or in `Close`'s wait; a dead engine would make one of them or the expiry goroutine ready; so the engine is
  alive, the unfinished ones wait for the token, and the token is in a transaction whose owner is at rest.
-/
import Lungo.Proofs.ConcProgress
import Lungo.Proofs.ConcHolder
namespace Lungo.Conc

/-- the system is not stuck: some actor can take a step that lungo's code takes by itself (`Progress`) -/
def CanStep (s : State) : Prop := ∃ a c, Progress c ∧ (step s a c).isSome = true

/-- the installed transaction is held by a client at rest: a session's `txn` or a direct handle -/
def ClientHeld (s : State) (t : Tid) : Prop :=
  (∃ sid, (s.sess sid).txn = some t) ∨ (∃ b, (s.loc b).handle = some t)

/-- where an actor can legitimately be when nothing moves: between calls, the expiry goroutine at its select or gone,
    a `Begin` waiting for the token -/
def Parked (pc : Pc) : Prop := pc = .idle ∨ pc = .xWait ∨ pc = .xExited ∨ pc = .bAcquire

/-- every actor is idle or waits for the token, which a client holds on purpose -/
def TokenWait (s : State) : Prop :=
  s.eng.alive = true ∧ s.eng.token = 0 ∧ (∃ t, s.eng.txn = some t ∧ ClientHeld s t) ∧
  ∀ a, Parked (s.loc a).pc

theorem ready_at {s : State} {a : ActorId} {p : Pc} (hp : (s.loc a).pc = p) (hg : p.guard s (s.loc a)) :
    Ready s a := by
  unfold Ready; rw [hp]; exact hg

/-- the holder of a session mutex never waits for another session mutex: with `e.mutex` free it is ready -/
theorem ready_of_shold {s : State} {b : ActorId} {sid : SessId} (hb : SHold (s.loc b) sid)
    (hm : s.eng.mutex = none) : Ready s b := by
  rcases hb with ⟨hp | hp, -⟩ | ⟨-, hp | hp | hp | hp | ⟨-, hp | hp | hp | hp | hp | hp⟩⟩
  all_goals first | exact ready_at hp hm | exact ready_at hp trivial

theorem parked_of_not_ready {s : State} {a : ActorId} (hnr : ¬ Ready s a) (hm : s.eng.mutex = none)
    (hsm : ∀ sid, (s.sess sid).mutex = none) : Parked (s.loc a).pc ∨ (s.loc a).pc = .clWait := by
  unfold Ready at hnr
  unfold Parked
  cases hpc : (s.loc a).pc <;> rw [hpc] at hnr
  case idle | xWait | xExited | bAcquire | clWait => decide
  all_goals first | exact absurd trivial hnr | exact absurd hm hnr | exact absurd (hsm _) hnr

theorem no_deadlock_aux {n : Nat} {s : State} (h : Reachable n s)
    (hun : ∃ a, (s.loc a).pc ≠ .idle ∧ (s.loc a).pc ≠ .xWait ∧ (s.loc a).pc ≠ .xExited) :
    CanStep s ∨ TokenWait s := by
  obtain ⟨i, j⟩ := inv_reachable h
  obtain ⟨x1, x2⟩ := xinv_reachable h
  by_cases hex : ∃ a, Ready s a
  · obtain ⟨a, hr⟩ := hex
    obtain ⟨c, hc, hs⟩ := ready_progress h (Nat.le_of_not_gt fun hgt => hr.ne_idle (j.rng a hgt)) hr
    exact .inl ⟨a, c, Pc.takes_progress hc, hs⟩
  right
  have hnr : ∀ a, ¬ Ready s a := fun a hr => hex ⟨a, hr⟩
  have hm : s.eng.mutex = none := by
    cases hm : s.eng.mutex with
    | none => rfl
    | some b => exact absurd (ready_of_ehold ((i.mutex_iff b).1 hm)) (hnr b)
  have hsm : ∀ sid, (s.sess sid).mutex = none := fun sid => by
    cases hx : (s.sess sid).mutex with
    | none => rfl
    | some b => exact absurd (ready_of_shold ((i.smutex_iff b sid).1 hx) hm) (hnr b)
  have hall := fun a => parked_of_not_ready (hnr a) hm hsm
  obtain ⟨a0, h0i, h0w, h0e⟩ := hun
  have hal : s.eng.alive = true := by
    cases hal : s.eng.alive with
    | true => rfl
    | false =>
      exfalso
      rcases hall a0 with (hp | hp | hp | hp) | hw
      · exact h0i hp
      · exact h0w hp
      · exact h0e hp
      · exact hnr a0 (ready_at hp (.inr hal))
      -- `Close` waits for the expiry goroutine, which is at its select or at the acquire and sees the tomb dying
      · have hx := Local.exp_pc ((x1 0).2 rfl)
        rcases hall 0 with (hp | hp | hp | hp) | hp
        · rw [hp] at hx; rcases hx with hx | hx <;> cases hx
        · exact hnr 0 (ready_at hp hal)
        · exact hnr a0 (ready_at hw hp)
        · exact hnr 0 (ready_at hp (.inr hal))
        · rw [hp] at hx; rcases hx with hx | hx <;> cases hx
  have hpark : ∀ a, Parked (s.loc a).pc := fun a =>
    (hall a).resolve_right fun hw => by
      have := x2 a (by rw [hw]; rfl)
      rw [hal] at this; cases this
  have h0a : (s.loc a0).pc = .bAcquire := by
    rcases hpark a0 with hp | hp | hp | hp
    · exact absurd hp h0i
    · exact absurd hp h0w
    · exact absurd hp h0e
    · exact hp
  have htok : s.eng.token ≠ 1 := fun ht => hnr a0 (ready_at h0a (.inl ht))
  have hc := i.conserv
  have hnoholder : s.eng.holder = none := by
    cases hh : s.eng.holder with
    | none => rfl
    | some b =>
      have ht := (i.holder_iff b).1 hh
      have hp := hpark b
      simp only [THold] at ht
      simp only [Parked] at hp
      grind
  rw [hnoholder] at hc
  cases htx : s.eng.txn with
  | none => simp [htx] at hc; omega
  | some t =>
    have ht0 : s.eng.token = 0 := by simp [htx] at hc; omega
    refine ⟨hal, ht0, ⟨t, htx, ?_⟩, hpark⟩
    have ho := j.oinv.1 hal t htx
    unfold Owned at ho
    cases hown : s.eng.own with
    | actor b =>
      rw [hown] at ho
      have hp := hpark b
      simp only [OwnsL] at ho
      simp only [Parked] at hp
      right
      refine ⟨b, ?_⟩
      grind
    | sess sid =>
      rw [hown] at ho
      exact Or.inl ⟨sid, ho⟩

end Lungo.Conc
