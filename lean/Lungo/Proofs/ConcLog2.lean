/-
  Lungo.Proofs.ConcLog2 — real-time (Rinv), read-prefix (Pinv) and write-history (Hinv) invariants
  for C04.  Everything recorded as a position in the log stays right because the catalog only grows.
-/
import Lungo.Proofs.ConcLog
namespace Lungo.Conc

/-- `p` is a prefix of `l` -/
def Pre (p l : List OpId) : Prop := ∃ r, l = p ++ r

theorem Pre.refl (l : List OpId) : Pre l l := ⟨[], by simp⟩
theorem Pre.app {p l : List OpId} (h : Pre p l) (x : List OpId) : Pre p (l ++ x) := by
  obtain ⟨r, rfl⟩ := h; exact ⟨r ++ x, by simp⟩
theorem Pre.len {p l : List OpId} (h : Pre p l) : p.length ≤ l.length := by
  obtain ⟨r, rfl⟩ := h; simp
theorem Pre.self_app (l x : List OpId) : Pre l (l ++ x) := ⟨x, rfl⟩

/-- a commit record ends at or before position `n`, and what was known at the invocation of its call precedes it -/
def RecTimed (n : Nat) (r : CRec) : Prop :=
  r.base.length + r.ops.length ≤ n ∧ r.invLen ≤ r.base.length ∧ ∀ p ∈ r.before, p.2 ≤ r.invLen

/-- the positions in an actor's ghost registers are ordered and at most `n` -/
def RegTimed (n : Nat) (l : Local) : Prop :=
  l.invLen ≤ n ∧ (∀ p ∈ l.invDone, p.2 ≤ l.invLen) ∧ (∀ p, l.cmt = some p → p.2 ≤ n)

/-- the ghost positions a transaction took from the call that created it lie in real-time order: invocation before
    the catalog was cloned, and the commits that had returned by then before the invocation -/
def TxnTimed (tx : Txn) : Prop :=
  tx.invLen ≤ tx.base.length ∧ ∀ p ∈ tx.before, p.2 ≤ tx.invLen

/-- real-time bookkeeping: positions recorded at invocation / commit / return are ordered -/
def Rinv (s : State) : Prop :=
  (∀ rec ∈ s.commitLog, RecTimed s.eng.catalog.length rec) ∧
  (∀ p ∈ s.done, p.2 ≤ s.eng.catalog.length) ∧
  (∀ a, RegTimed s.eng.catalog.length (s.loc a)) ∧
  (∀ t, t < s.eng.nextTid → TxnTimed (s.txns t))

/-- a finished read returned a prefix of the catalog `cat`, taken between its invocation and its return -/
def ReadTimed (cat : List OpId) (r : RRec) : Prop :=
  Pre r.obs cat ∧ r.invLen ≤ r.obs.length ∧ r.obs.length ≤ r.retLen

/-- the snapshot of a read-only call in progress is a prefix of `cat` taken after the invocation -/
def SnapTimed (txns : Tid → Txn) (cat : List OpId) (l : Local) : Prop :=
  ∀ t, ReadFlow l → l.t = some t → Pre (txns t).base cat ∧ l.invLen ≤ (txns t).base.length

/-- What an unlocked (read-only) transaction sees is a state the catalog went through during the call: for the reads
    that have returned, and for the snapshot of one in progress; an observation is recorded only by a call that has
    returned. -/
def Pinv (s : State) : Prop :=
  (∀ r ∈ s.reads, ReadTimed s.eng.catalog r) ∧
  (∀ a, SnapTimed s.txns s.eng.catalog (s.loc a)) ∧
  (∀ a, (s.loc a).obs ≠ none → (s.loc a).pc = .idle)

/-- every recorded write ran on `seen` and its op directly follows `seen` in its transaction's log -/
def Hinv (s : State) : Prop :=
  ∀ h ∈ s.hist, h.tid < s.eng.nextTid ∧
    Pre (h.seen ++ [h.op]) ((s.txns h.tid).base ++ (s.txns h.tid).ops)

theorem rinv_init (n : Nat) : Rinv (init n) := by
  refine ⟨nofun, nofun, fun b => ?_, fun t h => absurd h (Nat.not_lt_zero t)⟩
  simp only [init, RegTimed]
  split <;> simp
theorem pinv_init (n : Nat) : Pinv (init n) := by
  refine ⟨nofun, fun b => ?_, fun b => ?_⟩
  all_goals (simp only [init, SnapTimed, ReadFlow]; split <;> simp)
theorem hinv_init (n : Nat) : Hinv (init n) := by
  simp [Hinv, init]

macro "log2_simp_at" h:ident : tactic => `(tactic|
  simp only [State.put, State.putS, State.finish, State.write, upd_apply, Eng.unlock, Eng.release,
    Local.back, Local.invoke, newTxn, ReadFlow, List.mem_append, List.mem_singleton, List.length_append,
    List.append_nil, List.nil_append, List.append_assoc, List.length_nil,
    if_true, if_false, ite_true, ite_false] at $h:ident ⊢)

theorem RecTimed.mono {n m : Nat} {r : CRec} (h : RecTimed n r) (hnm : n ≤ m) : RecTimed m r :=
  ⟨Nat.le_trans h.1 hnm, h.2⟩

theorem RegTimed.mono {n m : Nat} {l : Local} (h : RegTimed n l) (hnm : n ≤ m) : RegTimed m l :=
  ⟨Nat.le_trans h.1 hnm, h.2.1, fun p hp => Nat.le_trans (h.2.2 p hp) hnm⟩

theorem RegTimed.same {n : Nat} {l l' : Local} (h : RegTimed n l) (hs : l.SameCall l') : RegTimed n l' := by
  obtain ⟨h1, h2, h3, _⟩ := hs
  unfold RegTimed
  rw [h1, h2, h3]; exact h

/-- `Rinv` of a state whose catalog has length `n`, at least that of `s`, and whose registers are those of `s`
    except for actor `a`: the other actors' records stay right -/
theorem Rinv.of_upd {s s' : State} {a : ActorId} {l' : Local} {n k : Nat} (g : Rinv s)
    (hl : s'.loc = upd s.loc a l') (hn : s'.eng.catalog.length = n) (hk : s'.eng.nextTid = k)
    (hc : s.eng.catalog.length ≤ n) (r0 : ∀ rec ∈ s'.commitLog, RecTimed n rec)
    (r1 : ∀ p ∈ s'.done, p.2 ≤ n) (r2 : RegTimed n l') (r3 : ∀ t, t < k → TxnTimed (s'.txns t)) : Rinv s' := by
  unfold Rinv
  rw [hn, hk]
  refine ⟨r0, r1, fun b => ?_, r3⟩
  rw [hl, upd_apply]
  split
  · exact r2
  · exact (g.2.2.1 b).mono hc

theorem Rinv.write {s : State} (g : Rinv s) (t : Tid) : Rinv (s.write t) := by
  refine ⟨g.1, g.2.1, g.2.2.1, fun t' ht' => ?_⟩
  obtain ⟨hb, hi, hbf⟩ := s.write_txns t t'
  unfold TxnTimed
  rw [hb, hi, hbf]
  exact g.2.2.2 t' ht'

theorem rinv_step {s s' : State} {a : ActorId} (bnd : Bnd s) (lv : Linv s) (g : Rinv s)
    (d : LogStep a s s') : Rinv s' := by
  induction d with
  | @move s l' e' he hsc _ _ _ =>
    exact g.of_upd rfl (congrArg _ he.1) he.2.1 (Nat.le_refl _) g.1 g.2.1 ((g.2.2.1 a).same hsc) g.2.2.2
  | @invoke s l' h1 h2 h3 _ _ _ =>
    refine g.of_upd rfl rfl rfl (Nat.le_refl _) g.1 g.2.1 ⟨Nat.le_of_eq h1, ?_, ?_⟩ g.2.2.2
    · rw [h1, h2]; exact g.2.1
    · rw [h3]; nofun
  | @finish s l₁ e' r pc he hsc _ _ =>
    refine g.of_upd rfl (congrArg _ he.1) he.2.1 (Nat.le_refl _) g.1 ?_ ((g.2.2.1 a).same hsc) g.2.2.2
    rw [State.finish_done, hsc.2.2.1]
    exact forall_mem_append_toList g.2.1 (g.2.2.1 a).2.2
  | @read s t r _ _ =>
    refine g.of_upd rfl rfl rfl (Nat.le_refl _) g.1 ?_ (g.2.2.1 a) g.2.2.2
    rw [State.finish_done]
    exact forall_mem_append_toList g.2.1 (g.2.2.1 a).2.2
  | @begin s l' e' locked hc hn _ hsc _ _ _ =>
    refine g.of_upd rfl (congrArg _ hc) hn (Nat.le_refl _) g.1 g.2.1 ((g.2.2.1 a).same hsc) fun t ht => ?_
    show TxnTimed (upd s.txns s.eng.nextTid (newTxn s (s.loc a) locked) t)
    rw [upd_apply]
    split
    · exact ⟨(g.2.2.1 a).1, (g.2.2.1 a).2.1⟩
    · exact g.2.2.2 t (by omega)
  | @commit s t l' e' ops ht src hops hcat hn _ _ hi hd hcm _ =>
    obtain ⟨hb, hc⟩ := lv.commit ht src hcat
    have hlen : e'.catalog.length = s.eng.catalog.length + ops.length := by rw [hc, List.length_append]
    have htx := g.2.2.2 t (bnd.2.1 a t ht)
    refine g.of_upd rfl hlen hn (Nat.le_add_right _ _) (fun rec hrec => ?_)
      (fun p hp => Nat.le_trans (g.2.1 p hp) (Nat.le_add_right _ _)) ?_ g.2.2.2
    · rcases List.mem_append.1 hrec with h | h
      · exact (g.1 rec h).mono (Nat.le_add_right _ _)
      · rw [List.mem_singleton.1 h]
        exact ⟨by rw [hb]; exact Nat.le_refl _, htx⟩
    · unfold RegTimed
      rw [hi, hd, hcm]
      refine ⟨Nat.le_trans (g.2.2.1 a).1 (Nat.le_add_right _ _), (g.2.2.1 a).2.1, fun p hp => ?_⟩
      rw [← Option.some.inj hp, hlen]; exact Nat.le_refl _
  | write t _ _ ih => exact ih bnd (lv.write t) (g.write t)
  | sess sid x _ ih => exact ih bnd lv g

theorem ReadTimed.app {cat : List OpId} {r : RRec} (h : ReadTimed cat r) (x : List OpId) : ReadTimed (cat ++ x) r :=
  ⟨h.1.app x, h.2⟩

/-- `Pinv` of a state whose catalog `cat` extends that of `s`, whose registers are those of `s` except for actor `a`,
    and whose transaction objects start where they started: the other actors' snapshots stay prefixes -/
theorem Pinv.of_upd {s s' : State} {a : ActorId} {l' : Local} {cat : List OpId} (g : Pinv s)
    (hl : s'.loc = upd s.loc a l') (hc : s'.eng.catalog = cat) (hx : ∀ p, Pre p s.eng.catalog → Pre p cat)
    (htx : ∀ b t, (s.loc b).t = some t → (s'.txns t).base = (s.txns t).base)
    (p1 : ∀ r ∈ s'.reads, ReadTimed cat r) (p2 : SnapTimed s'.txns cat l')
    (p3 : l'.obs ≠ none → l'.pc = .idle) : Pinv s' := by
  unfold Pinv
  rw [hc, hl]
  refine ⟨p1, fun b => ?_, fun b => ?_⟩
  all_goals (rw [upd_apply]; split)
  · exact p2
  · intro t hf ht
    rw [htx b t ht]
    exact ⟨hx _ (g.2.1 b t hf ht).1, (g.2.1 b t hf ht).2⟩
  · exact p3
  · exact g.2.2 b

theorem Pinv.write {s : State} (g : Pinv s) (t : Tid) : Pinv (s.write t) := by
  refine ⟨g.1, fun b t' hf ht => ?_, g.2.2⟩
  rw [(s.write_txns t t').1]
  exact g.2.1 b t' hf ht

theorem pinv_step {s s' : State} {a : ActorId} (bnd : Bnd s) (lv : Linv s) (rv : Rinv s) (g : Pinv s)
    (d : LogStep a s s') : Pinv s' := by
  induction d with
  | @move s l' e' he hsc hbusy _ hrd =>
    refine g.of_upd rfl he.1 (fun _ h => h) (fun _ _ _ => rfl) g.1 (fun t hf ht => ?_)
      (fun ho => absurd (g.2.2 a (hsc.2.2.2 ▸ ho)) hbusy)
    obtain ⟨hf', ht'⟩ := hrd hf
    rw [hsc.1]
    exact g.2.1 a t hf' (ht' ▸ ht)
  | @invoke s l' _ _ _ ho _ hnr =>
    exact g.of_upd rfl rfl (fun _ h => h) (fun _ _ _ => rfl) g.1 (fun t hf => absurd hf hnr) (fun h => absurd ho h)
  | @finish s l₁ e' r pc he hsc hbusy hpc =>
    -- a call that is not idle has observed nothing yet
    have hobs : l₁.obs = none := by
      rw [hsc.2.2.2]
      cases h : (s.loc a).obs with
      | none => rfl
      | some _ => exact absurd (g.2.2 a (by rw [h]; nofun)) hbusy
    refine g.of_upd rfl he.1 (fun _ h => h) (fun _ _ _ => rfl) ?_ (fun t hf => ?_) (fun ho => absurd hobs ho)
    · rw [State.finish_reads, hobs]
      exact forall_mem_append_toList g.1 nofun
    · rcases hpc with rfl | rfl <;> simp [ReadFlow] at hf
  | @read s t r hp ht =>
    obtain ⟨h1, h2⟩ := g.2.1 a t (Or.inl hp) ht
    refine g.of_upd rfl rfl (fun _ h => h) (fun _ _ _ => rfl) ?_ (fun t hf => by simp [ReadFlow] at hf) (fun _ => rfl)
    rw [State.finish_reads]
    exact forall_mem_append_toList g.1 fun x hx => Option.some.inj hx ▸ ⟨h1, h2, h1.len⟩
  | @begin s l' e' locked hc _ _ hsc hbusy _ ht =>
    refine g.of_upd rfl hc (fun _ h => h)
      (fun b t h => congrArg _ (upd_other _ _ _ _ (Nat.ne_of_lt (bnd.2.1 b t h)))) g.1 (fun t _ h => ?_)
      (fun ho => absurd (g.2.2 a (hsc.2.2.2 ▸ ho)) hbusy)
    obtain rfl : s.eng.nextTid = t := Option.some.inj (ht.symm.trans h)
    show Pre (upd s.txns _ _ _).base _ ∧ _ ≤ (upd s.txns _ _ _).base.length
    rw [upd_same, hsc.1]
    exact ⟨Pre.refl _, (rv.2.2.1 a).1⟩
  | @commit s t l' e' ops ht src _ hcat _ _ ht' hi _ _ ho =>
    obtain ⟨hb, hc⟩ := lv.commit ht src hcat
    have hbusy : (s.loc a).pc ≠ .idle := by
      rcases src with h | h <;> (rw [h.1]; nofun)
    refine g.of_upd rfl hc (fun _ h => h.app ops) (fun _ _ _ => rfl) (fun r hr => (g.1 r hr).app ops)
      (fun t₁ _ h => ?_) (fun h => absurd (g.2.2 a (ho ▸ h)) hbusy)
    obtain rfl : t = t₁ := Option.some.inj (ht'.symm.trans h)
    show Pre (s.txns t).base _ ∧ _ ≤ (s.txns t).base.length
    rw [hb, hi]
    exact ⟨Pre.self_app _ _, (rv.2.2.1 a).1⟩
  | write t _ _ ih => exact ih bnd (lv.write t) (rv.write t) (g.write t)
  | sess sid x _ ih => exact ih bnd lv rv g

/-- `Hinv` needs of a step only that it keeps the recorded writes and the transaction objects made so far -/
theorem Hinv.of_txns {s s' : State} (g : Hinv s) (hh : s'.hist = s.hist) (hk : s.eng.nextTid ≤ s'.eng.nextTid)
    (htx : ∀ t, t < s.eng.nextTid → s'.txns t = s.txns t) : Hinv s' := by
  intro h hm
  obtain ⟨h1, h2⟩ := g h (hh ▸ hm)
  rw [htx _ h1]
  exact ⟨Nat.lt_of_lt_of_le h1 hk, h2⟩

/-- a write by a transaction object that exists is recorded as it happened; earlier writes of the same object stay
    prefixes of its log -/
theorem Hinv.write {s : State} (g : Hinv s) {t : Tid} (ht : t < s.eng.nextTid) : Hinv (s.write t) := by
  intro h hm
  have key : ∀ t', Pre ((s.txns t').base ++ (s.txns t').ops)
      (((s.write t).txns t').base ++ ((s.write t).txns t').ops) := fun t' => by
    show Pre _ ((upd s.txns t _ t').base ++ (upd s.txns t _ t').ops)
    rw [upd_apply]; split
    · subst t'; rw [← List.append_assoc]; exact Pre.self_app _ _
    · exact Pre.refl _
  rcases List.mem_append.1 hm with hm | hm
  · obtain ⟨h1, r, h2⟩ := g h hm
    obtain ⟨r', h3⟩ := key h.tid
    exact ⟨h1, r ++ r', by rw [h3, h2, List.append_assoc]⟩
  · rw [List.mem_singleton.1 hm]
    refine ⟨ht, ?_⟩
    show Pre _ ((upd s.txns t _ t).base ++ (upd s.txns t _ t).ops)
    rw [upd_same, ← List.append_assoc]
    exact Pre.refl _

theorem hinv_step {s s' : State} {a : ActorId} (bnd : Bnd s) (g : Hinv s) (d : LogStep a s s') : Hinv s' := by
  induction d with
  | move l' e' he => exact g.of_txns rfl (Nat.le_of_eq he.2.1.symm) (fun _ _ => rfl)
  | invoke => exact g
  | finish l₁ e' r pc he => exact g.of_txns rfl (Nat.le_of_eq he.2.1.symm) (fun _ _ => rfl)
  | read => exact g
  | @«begin» s l' e' locked _ hn =>
    exact g.of_txns rfl (show s.eng.nextTid ≤ e'.nextTid from hn ▸ Nat.le_succ _)
      (fun t ht => upd_other _ _ _ _ (Nat.ne_of_lt ht))
  | commit t l' e' ops _ _ _ _ hn => exact g.of_txns rfl (Nat.le_of_eq hn.symm) (fun _ _ => rfl)
  | write t ht _ ih => exact ih bnd (g.write (bnd.2.1 a t ht))
  | sess sid x _ ih => exact ih bnd g

end Lungo.Conc
