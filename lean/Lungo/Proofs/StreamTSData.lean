/-
  Lungo.Proofs.StreamTSData — data invariants of the stream transition system
  (change-log ids, oplog = suffix of the history, delivered = scope-filtered slice).
-/
import Lungo.Proofs.StreamTS
namespace Lungo.StreamTS

def posOf (last : Option Event) (startPos : Nat) : Nat :=
  match last with
  | some e => e.id
  | none => startPos

theorem StreamState.pos_eq (st : StreamState) : st.pos = posOf st.last st.startPos := rfl

theorem expected_succ {h : Handle} {cm : List Event} {lo hi : Nat} {ev : Event}
    (hev : cm[hi]? = some ev) (hle : lo ≤ hi) :
    expected h cm lo (hi + 1) = expected h cm lo hi ++ (if inScope h ev then [ev] else []) := by
  have hlt : hi < cm.length := by
    rcases List.getElem?_eq_some_iff.mp hev with ⟨hlt, _⟩; exact hlt
  unfold expected
  rw [List.take_add_one, hev]
  have : lo ≤ (List.take hi cm).length := by rw [List.length_take]; omega
  rw [List.drop_append_of_le_length this, List.filter_append]
  congr 1
  simp only [Option.toList, List.filter]
  split <;> simp_all

theorem expected_append {h : Handle} {cm new : List Event} {lo hi : Nat} (hle : hi ≤ cm.length) :
    expected h (cm ++ new) lo hi = expected h cm lo hi := by
  unfold expected
  rw [List.take_append_of_le_length hle]

theorem expected_self {h : Handle} {cm : List Event} {lo : Nat} : expected h cm lo lo = [] := by
  unfold expected
  rw [List.drop_eq_nil_of_le]; · rfl
  rw [List.length_take]; omega

theorem mkEvents_getElem? {start : Nat} {ps : List Proto} {i : Nat} {e : Event}
    (h : (mkEvents start ps)[i]? = some e) : e.id = start + i := by
  induction ps generalizing start i with
  | nil => simp [mkEvents] at h
  | cons p ps ih =>
    cases i with
    | zero => simp [mkEvents] at h; subst h; rfl
    | succ i =>
      simp only [mkEvents, List.getElem?_cons_succ] at h
      have := ih h
      omega

/-- ids are positions + 1 -/
def IdsOK (cm : List Event) : Prop := ∀ i e, cm[i]? = some e → e.id = i + 1

theorem IdsOK_append {cm : List Event} (h : IdsOK cm) (ps : List Proto) :
    IdsOK (cm ++ mkEvents (cm.length + 1) ps) := by
  intro i e he
  rw [List.getElem?_append] at he
  split at he
  · exact h i e he
  · have := mkEvents_getElem? he
    omega

theorem IdsOK_mem {cm : List Event} (h : IdsOK cm) {e : Event} (he : e ∈ cm) :
    cm[e.id - 1]? = some e ∧ 0 < e.id ∧ e.id ≤ cm.length := by
  obtain ⟨i, hi⟩ := List.getElem?_of_mem he
  have := h i e hi
  have hlt : i < cm.length := (List.getElem?_eq_some_iff.mp hi).1
  refine ⟨?_, by omega, by omega⟩
  have : e.id - 1 = i := by omega
  rw [this]; exact hi

/-- the element after `e` in a suffix of the history is the history's element at position `e.id` -/
theorem lookup_next {cm : List Event} (hids : IdsOK cm) {k : Nat} {e : Event}
    (he : e ∈ cm.drop k) : (cm.drop k)[(cm.drop k).idxOf e + 1]? = cm[e.id]? := by
  have hlt := List.idxOf_lt_length_of_mem he
  have hget := List.getElem_idxOf hlt
  have h1 : (cm.drop k)[(cm.drop k).idxOf e]? = some e := by
    rw [List.getElem?_eq_getElem hlt, hget]
  rw [List.getElem?_drop] at h1
  have := hids _ _ h1
  rw [List.getElem?_drop]
  congr 1
  omega

theorem posTime_mem {t : Nat} {prev dflt : Option Event} {l : List Event} {e : Event}
    (h : posTime t prev dflt l = some e) : prev = some e ∨ dflt = some e ∨ e ∈ l := by
  induction l generalizing prev with
  | nil => simp [posTime] at h; exact .inr (.inl h)
  | cons x xs ih =>
    simp only [posTime] at h
    split at h
    · exact .inl h
    · rcases ih h with h1 | h1 | h1
      · simp at h1; subst h1; exact .inr (.inr (by simp))
      · exact .inr (.inl h1)
      · exact .inr (.inr (by simp [h1]))

theorem posTime_some_ne_none {t : Nat} {p d : Event} {l : List Event} :
    posTime t (some p) (some d) l ≠ none := by
  induction l generalizing p with
  | nil => simp [posTime]
  | cons x xs ih =>
    simp only [posTime]
    split
    · simp
    · exact ih

theorem watchPos_mem {spec : StartSpec} {oplog : List Event} {e : Event}
    (h : watchPos spec oplog = some (some e)) : e ∈ oplog := by
  unfold watchPos at h
  split at h
  · simp at h; exact List.mem_of_getLast? h
  · simp at h; exact List.mem_of_find?_eq_some h
  · simp at h
    rcases posTime_mem h with h1 | h1 | h1
    · cases h1
    · exact List.mem_of_getLast? h1
    · exact h1

theorem watchPos_token {k : Nat} {oplog : List Event} {r : Option Event}
    (h : watchPos (.token k) oplog = some r) : ∃ e, r = some e ∧ e.id = k := by
  simp [watchPos] at h
  obtain ⟨e, he, rfl⟩ := h
  exact ⟨e, rfl, by simpa using List.find?_some he⟩

/-- the ghost history `committed` has the ids 1, 2, …, and the oplog is `committed` minus a trimmed prefix (all of it
    while no commit has trimmed) -/
def InvG (s : State) : Prop :=
  IdsOK s.committed ∧
  (∃ k, k ≤ s.committed.length ∧ s.oplog = s.committed.drop k) ∧
  (s.trimmed = false → s.oplog = s.committed)

theorem InvG_init : InvG init := by
  refine ⟨?_, ⟨0, ?_⟩, ?_⟩ <;> simp [init, IdsOK]

theorem InvG_commit {s : State} (i : InvG s) (evs : List Proto) (trim : Nat) :
    InvG (stepCommit s evs trim) := by
  obtain ⟨i1, ⟨k, hk, i2⟩, i3⟩ := i
  refine ⟨IdsOK_append i1 evs, ?_, ?_⟩
  · simp only [stepCommit]
    refine ⟨min (k + trim) (s.committed ++ mkEvents (s.committed.length + 1) evs).length,
      Nat.min_le_right _ _, ?_⟩
    rw [i2, ← List.drop_append_of_le_length hk, List.drop_drop]
    by_cases hc : k + trim ≤ (s.committed ++ mkEvents (s.committed.length + 1) evs).length
    · rw [Nat.min_eq_left hc]
    · rw [Nat.min_eq_right (by omega), List.drop_eq_nil_of_le (by omega),
        List.drop_eq_nil_of_le (Nat.le_refl _)]
  · simp only [stepCommit, Bool.or_eq_false_iff, decide_eq_false_iff_not]
    intro ⟨ht, h0⟩
    have : trim = 0 := by omega
    subst this
    rw [i3 ht]; rfl

theorem InvG_step {s s' a} (h : StepCase s a s') (i : InvG s) : InvG s' := by
  cases h with
  | commit evs trim _ eq => exact eq ▸ InvG_commit i evs trim
  | none eq | rule _ _ _ _ _ _ _ eq => exact eq ▸ i


/-- The position of a stream (`last`, or `startPos` while `last` is nil) lies in the history; a stream
    resumed from a token starts at that event; and while nothing was trimmed, or Watch found an
    event to start from, `delivered` is the scope-filtered slice of the history from the start
    position to the position. -/
def DataOK (s : State) (st : StreamState) : Prop :=
  (∀ e, st.last = some e → e ∈ s.committed) ∧
  (st.nilStart = false → st.last ≠ none) ∧
  (s.trimmed = false → st.last = none → st.startPos = 0) ∧
  (∀ k, st.spec = .token k → st.startPos = k ∧ st.nilStart = false) ∧
  ((s.trimmed = false ∨ st.nilStart = false) →
    st.startPos ≤ posOf st.last st.startPos ∧ posOf st.last st.startPos ≤ s.committed.length ∧
    st.delivered = expected st.handle s.committed st.startPos (posOf st.last st.startPos))

def InvD (s : State) : Prop := Streams (fun _ => DataOK s) s

theorem InvD_init : InvD init := by
  intro x
  simp [DataOK, init, posOf, expected]

/-- the event found by the lookup is the history's next event after the stream's position -/
theorem next_event {s : State} (ig : InvG s) {st : StreamState} (i : DataOK s st) {ni : Nat} {ev : Event}
    (hni : lookupNext st.last s.oplog = some ni) (hev : s.oplog[ni]? = some ev) :
    ev ∈ s.committed ∧
    ((s.trimmed = false ∨ st.nilStart = false) →
      s.committed[posOf st.last st.startPos]? = some ev ∧ ev.id = posOf st.last st.startPos + 1) := by
  obtain ⟨ids, ⟨k, hk, hop⟩, htr⟩ := ig
  obtain ⟨_, n1, n2, _, _⟩ := i
  have hmem : ev ∈ s.committed.drop k := hop ▸ List.mem_of_getElem? hev
  refine ⟨List.mem_of_mem_drop hmem, fun hp => ?_⟩
  cases hl : st.last with
  | none =>
    rw [hl] at hni
    simp only [lookupNext, Option.some.injEq] at hni
    subst hni
    rcases hp with hp | hp
    · rw [htr hp] at hev
      simp only [posOf, n2 hp hl]
      exact ⟨hev, ids _ _ hev⟩
    · exact absurd hl (n1 hp)
  | some e =>
    rw [hl] at hni
    simp only [lookupNext] at hni
    split at hni
    · rename_i he
      simp only [Option.some.injEq] at hni
      subst hni
      rw [hop] at he hev
      rw [lookup_next ids he] at hev
      exact ⟨hev, ids _ _ hev⟩
    · cases hni

/-- the consumer moves `last` to the event it found -/
theorem InvD_advance {s : State} (ig : InvG s) {st : StreamState} (i : DataOK s st) {ni : Nat}
    {ev : Event} (hni : lookupNext st.last s.oplog = some ni) (hev : s.oplog[ni]? = some ev)
    (st' : StreamState) (h1 : st'.last = some ev) (h2 : st'.handle = st.handle)
    (h3 : st'.startPos = st.startPos) (h4 : st'.nilStart = st.nilStart) (h5 : st'.spec = st.spec)
    (h6 : st'.delivered = st.delivered ++ (if inScope st.handle ev then [ev] else [])) :
    DataOK s st' := by
  obtain ⟨hmem, hnext⟩ := next_event ig i hni hev
  obtain ⟨_, _, _, i4, i5⟩ := i
  simp only [DataOK, h1, h2, h3, h4, h5, h6]
  refine ⟨?_, ?_, ?_, i4, ?_⟩
  · intro e he; cases he; exact hmem
  · intro _; simp
  · intro _ h; cases h
  · intro hp
    obtain ⟨hget, hid⟩ := hnext hp
    obtain ⟨j1, j2, j3⟩ := i5 hp
    have hlt := (List.getElem?_eq_some_iff.mp hget).1
    simp only [posOf]
    refine ⟨by omega, by omega, ?_⟩
    rw [hid, expected_succ hget j1, j3]

theorem InvD_commit {s : State} (i : InvD s) (evs : List Proto) (trim : Nat) :
    InvD (stepCommit s evs trim) := by
  intro x
  obtain ⟨i1, i2, i3, i4, i5⟩ := i x
  obtain ⟨sg, p, e⟩ := bcast_eq (s.streams x)
  simp only [DataOK, stepCommit, e, Bool.or_eq_false_iff, decide_eq_false_iff_not]
  refine ⟨?_, i2, ?_, i4, ?_⟩
  · intro e he; exact List.mem_append_left _ (i1 e he)
  · intro ⟨ht, _⟩; exact i3 ht
  · intro hp
    have hp' : s.trimmed = false ∨ (s.streams x).nilStart = false := by
      rcases hp with ⟨hp, _⟩ | hp
      · exact .inl hp
      · exact .inr hp
    obtain ⟨j1, j2, j3⟩ := i5 hp'
    refine ⟨j1, ?_, ?_⟩
    · rw [List.length_append]; omega
    · rw [expected_append j2]; exact j3

/-- Watch: a new stream state positioned at `watchPos` -/
theorem InvD_watch {s : State} {spec : StartSpec} {last : Option Event}
    (hw : watchPos spec s.oplog = some last) (ig : InvG s)
    (st : StreamState) (h1 : st.last = last) (h2 : st.delivered = [])
    (h3 : st.startPos = match (generalizing := false) last with
                        | some e => e.id
                        | none => nilStartPos spec s.oplog s.committed.length)
    (h4 : st.nilStart = last.isNone) (h5 : st.spec = spec) : DataOK s st := by
  obtain ⟨ids, ⟨k, hk, hop⟩, htr⟩ := ig
  have sub {e} (h : e ∈ s.oplog) : e ∈ s.committed := by
    rw [hop] at h
    exact List.mem_of_mem_drop h
  simp only [DataOK, h1, h2, h3, h4, h5]
  cases last with
  | some e =>
    have hmem := sub (watchPos_mem hw)
    have hid := IdsOK_mem ids hmem
    refine ⟨?_, ?_, ?_, ?_, ?_⟩
    · intro e' he'; cases he'; exact hmem
    · simp
    · intro _ h; cases h
    · intro k hk
      subst hk
      obtain ⟨e', he', hid'⟩ := watchPos_token hw
      cases he'
      exact ⟨hid', rfl⟩
    · intro _
      simp only [posOf]
      exact ⟨Nat.le_refl _, hid.2.2, expected_self.symm⟩
  | none =>
    have hsp : nilStartPos spec s.oplog s.committed.length ≤ s.committed.length := by
      unfold nilStartPos
      split
      · rename_i _ t e0 rest hol
        split
        · rename_i hle
          have := (IdsOK_mem ids (sub (e := e0) (by rw [hol]; simp))).2.2
          omega
        · exact Nat.le_refl _
      · exact Nat.le_refl _
    refine ⟨?_, ?_, ?_, ?_, ?_⟩
    · intro e' he'; cases he'
    · simp
    · intro ht _
      have hoc := htr ht
      cases spec with
      | now =>
        simp only [watchPos, Option.some.injEq, List.getLast?_eq_none_iff] at hw
        rw [hw] at hoc
        simp [nilStartPos, ← hoc]
      | token k =>
        obtain ⟨e', he', _⟩ := watchPos_token hw
        cases he'
      | time t =>
        simp only [watchPos, Option.some.injEq] at hw
        cases hol : s.oplog with
        | nil =>
          rw [hol] at hoc
          simp [nilStartPos, ← hoc]
        | cons e0 rest =>
          have h0 : s.committed[0]? = some e0 := by rw [← hoc, hol]; rfl
          have hid0 := ids _ _ h0
          simp only [nilStartPos]
          split
          · omega
          · rename_i hnle
            rw [hol] at hw
            simp only [posTime, if_neg hnle] at hw
            have hgl : (e0 :: rest).getLast? = some ((e0 :: rest).getLast (by simp)) :=
              List.getLast?_eq_some_getLast (by simp)
            rw [hgl] at hw
            exact absurd hw posTime_some_ne_none
    · intro k hk
      subst hk
      obtain ⟨e', he', _⟩ := watchPos_token hw
      cases he'
    · intro _
      simp only [posOf]
      exact ⟨Nat.le_refl _, hsp, expected_self.symm⟩


theorem InvD_step {s s' a} (h : StepCase s a s') (ig : InvG s) (i : InvD s) : InvD s' := by
  cases h with
  | none eq => exact eq ▸ i
  | commit evs trim _ eq => exact eq ▸ InvD_commit i evs trim
  | rule al cl cr sid l' st' r eq =>
    subst eq
    refine i.rule (fun _ h => h) fun ix => ?_
    cases r with
    | watch _ _ _ _ _ _ pos => exact InvD_watch pos ig _ rfl rfl rfl rfl rfl
    | nReadDeliver _ ni ev _ hni hev hsc =>
      exact InvD_advance ig ix hni hev _ rfl rfl rfl rfl rfl (by simp [hsc])
    | nReadSkip _ ni ev _ hni hev hsc =>
      exact InvD_advance ig ix hni hev _ rfl rfl rfl rfl rfl (by simp [hsc])
    | cSend | eVisit => split <;> exact ix
    | _ => exact ix


/-! ### the lost-position error is truthful -/

/-- `last` is an event that is not in the oplog (retention has removed it) -/
def Gone (oplog : List Event) (last : Option Event) : Prop :=
  last ≠ none ∧ ∀ e, last = some e → e ∉ oplog

def InvL (s : State) : Prop :=
  Pairs (fun _ x l st => l.pc = .nLost x → Gone s.oplog st.last) s ∧
  Streams (fun _ st => st.error = some .lost → Gone s.oplog st.last) s

theorem InvL_init : InvL init :=
  ⟨fun _ _ => by simp [init], fun _ => by simp [init]⟩

/-- an event of the history that the oplog has lost does not come back: new events have new ids -/
theorem Gone.commit {cm oplog : List Event} {last : Option Event} (h : Gone oplog last)
    (hids : IdsOK cm) (hl : ∀ e, last = some e → e ∈ cm) (evs : List Proto) (trim : Nat) :
    Gone ((oplog ++ mkEvents (cm.length + 1) evs).drop trim) last := by
  refine ⟨h.1, fun e he hm => ?_⟩
  rcases List.mem_append.mp (List.mem_of_mem_drop hm) with hm | hm
  · exact h.2 e he hm
  · obtain ⟨j, hj⟩ := List.getElem?_of_mem hm
    have := mkEvents_getElem? hj
    have := (IdsOK_mem hids (hl e he)).2.2
    omega

theorem lookupNext_none {last : Option Event} {oplog : List Event}
    (h : lookupNext last oplog = none) : Gone oplog last := by
  cases last with
  | none => cases h
  | some e =>
    simp only [lookupNext] at h
    split at h
    · cases h
    · exact ⟨nofun, fun e' he => by cases he; assumption⟩

theorem InvL_step {s s' a} (h : StepCase s a s') (i : InvL s) (ig : InvG s) (id : InvD s)
    (ih : InvH s) (ipc : InvPC s) : InvL s' := by
  obtain ⟨i1, i2⟩ := i
  cases h with
  | none eq => exact eq ▸ ⟨i1, i2⟩
  | commit evs trim _ eq =>
    subst eq
    refine ⟨fun b x hp => ?_, fun x he => ?_⟩
    · obtain ⟨sg, p, e⟩ := bcast_eq (s.streams x)
      rw [show (stepCommit s evs trim).streams x = _ from e]
      exact (i1 b x hp).commit ig.1 (id x).1 evs trim
    · obtain ⟨sg, p, e⟩ := bcast_eq (s.streams x)
      rw [show (stepCommit s evs trim).streams x = _ from e] at he ⊢
      exact (i2 x he).commit ig.1 (id x).1 evs trim
  | rule al cl cr sid l' st' r eq =>
    subst eq
    refine ⟨i1.rule (fun _ _ _ h => h) ?_ fun b hb ib hp => ?_, i2.rule (fun _ h => h) fun j2 => ?_⟩
    · cases r with
      | nReadLost _ _ hl => intro x hp; cases hp; rw [upd_same]; exact lookupNext_none hl
      | _ => exact fun _ => nofun
    · rcases r.beside ih ipc hb with hn | hf
      · exact absurd (by rw [hp]; rfl) hn
      · rw [hf.2.2.2.2.2.1]; exact ib hp
    · cases r with
      | nLost hpc => exact fun _ => i1 a sid hpc
      | nReadDeliver _ _ _ hpc | nReadSkip _ _ _ hpc =>
        intro he; rw [((ih a sid).2.1 _ hpc).2.2] at he; cases he
      | nReadEmpty =>
        intro he; split at he
        · cases he
        · exact j2 he
      | nCtx =>
        intro he; split at he
        · exact j2 he
        · cases he
      | cLock | watch => nofun
      | cSend | eVisit => split <;> exact j2
      | _ => exact j2


/-! ### the slice by positions is the filter by ids -/

theorem slice_filter_ids (p : Event → Bool) (cm : List Event) (o lo hi : Nat)
    (hids : ∀ i e, cm[i]? = some e → e.id = o + i + 1) :
    ((cm.take hi).drop lo).filter p =
      cm.filter (fun e => decide (o + lo < e.id) && decide (e.id ≤ o + hi) && p e) := by
  induction cm generalizing o lo hi with
  | nil => simp
  | cons x xs ih =>
    have hx : x.id = o + 1 := hids 0 x rfl
    have hxs : ∀ i e, xs[i]? = some e → e.id = (o + 1) + i + 1 := by
      intro i e he
      have := hids (i + 1) e (by simpa using he)
      omega
    have hge : ∀ e ∈ xs, o + 2 ≤ e.id := by
      intro e he
      obtain ⟨i, hi⟩ := List.getElem?_of_mem he
      have := hxs i e hi
      omega
    cases hi with
    | zero =>
      simp only [List.take_zero, List.drop_nil, List.filter_nil]
      symm
      rw [List.filter_eq_nil_iff]
      intro e he
      rcases List.mem_cons.mp he with rfl | he
      · simp; omega
      · have := hge e he; simp; omega
    | succ hi' =>
      cases lo with
      | zero =>
        have := ih (o + 1) 0 hi' hxs
        simp only [List.drop_zero] at this
        simp only [List.take_succ_cons, List.drop_zero, List.filter_cons, this]
        have e1 : xs.filter (fun e => decide (o + 1 + 0 < e.id) && decide (e.id ≤ o + 1 + hi') && p e) =
            xs.filter (fun e => decide (o + 0 < e.id) && decide (e.id ≤ o + (hi' + 1)) && p e) :=
          List.filter_congr fun e he => by have := hge e he; grind
        grind
      | succ lo' =>
        simp only [List.take_succ_cons, List.drop_succ_cons, List.filter_cons, ih (o + 1) lo' hi' hxs]
        have e1 : xs.filter (fun e => decide (o + 1 + lo' < e.id) && decide (e.id ≤ o + 1 + hi') && p e) =
            xs.filter (fun e => decide (o + (lo' + 1) < e.id) && decide (e.id ≤ o + (hi' + 1)) && p e) :=
          List.filter_congr fun e he => by grind
        grind

theorem expected_eq_filter {h : Handle} {cm : List Event} (hids : IdsOK cm) (lo hi : Nat) :
    expected h cm lo hi =
      cm.filter (fun e => decide (lo < e.id) && decide (e.id ≤ hi) && inScope h e) := by
  have := slice_filter_ids (inScope h) cm 0 lo hi (by intro i e he; have := hids i e he; omega)
  simpa [expected] using this

end Lungo.StreamTS
