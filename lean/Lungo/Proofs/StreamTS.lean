/-
  Lungo.Proofs.StreamTS — control invariants of the stream transition system
  (mutex ownership, signal protocol, wake-ups, no send on a closed channel).

  `step` is unfolded once, in `step_cases`: a step changes nothing, is a Commit, or applies one of
  the `Rule`s, which rewrite the stepping actor's registers and one stream.
  Each invariant is then checked against the rules that write what it reads.
-/
import Lungo.Model.StreamTS
namespace Lungo.StreamTS

/-- The whole decision tree of `step` at once: one goal per leaf of `h : step s a c = some s'`, with `s'` an explicit
    record update of `s`. The invariants of this file go through `step_cases` and the `Rule`s and do not call it. -/
macro "step_leaves" h:ident : tactic =>
  `(tactic| (
    unfold step at $h:ident
    split at $h:ident
    all_goals (try (simp only [stepCallNext, stepNLock, stepNRead, stepNLost, stepNGap, stepRecv,
      stepNSigClosed, stepNCtx, stepCLock, stepCSend, stepCallCloseEngine, stepELoop, stepWatch,
      stepCommit] at $h:ident))
    all_goals (repeat' (split at $h:ident))
    all_goals (try (simp only [Option.some.injEq, reduceCtorEq] at $h:ident))
    all_goals (try (subst $h:ident))
    all_goals (try (simp only [setBoth, setActor]))
    ))

theorem upd_self {α : Type} (f : Nat → α) (i : Nat) : upd f i (f i) = f := by
  funext x; rw [upd_apply]; split
  · subst x; rfl
  · rfl

/-- The steps of actor `a` other than Commit, as rules: `Rule s a sid l st al cl cr l' st'` says that
    from registers `l` and stream state `st` of stream `sid` the actor can step to registers `l'` and
    stream state `st'`, with `alive`, `closer`, `created` becoming `al`, `cl`, `cr`. -/
inductive Rule (s : State) (a : ActorId) (sid : StreamId) (l : Local) (st : StreamState) :
    Bool → Option ActorId → List StreamId → Local → StreamState → Prop
  | callNext (block : Bool) : l.pc = .idle → sid ∈ s.created →
      Rule s a sid l st s.alive s.closer s.created ⟨.nLock sid block, none⟩
        { st with multi := st.multi || st.busy.isSome, busy := some a }
  | callClose : l.pc = .idle → sid ∈ s.created → Rule s a sid l st s.alive s.closer s.created ⟨.cLock sid, l.ret⟩ st
  | nLockOut (block : Bool) : l.pc = .nLock sid block → st.mutex = none →
      (st.error ≠ none ∨ st.closed = true) →
      Rule s a sid l st s.alive s.closer s.created ⟨.idle, some false⟩ { st with busy := none }
  | nLockInval (block : Bool) : l.pc = .nLock sid block → st.mutex = none →
      ¬(st.error ≠ none ∨ st.closed = true) → st.dropped = true →
      Rule s a sid l st s.alive s.closer s.created ⟨.idle, some true⟩
        { st with event := .invalidate, invalidated := true, registered := false, closed := true,
                  busy := none }
  | nLockIn (block : Bool) : l.pc = .nLock sid block → st.mutex = none →
      ¬(st.error ≠ none ∨ st.closed = true) → ¬st.dropped = true →
      Rule s a sid l st s.alive s.closer s.created ⟨.nRead sid block, none⟩ { st with mutex := some a }
  | nReadLost (block : Bool) : l.pc = .nRead sid block → lookupNext st.last s.oplog = none →
      Rule s a sid l st s.alive s.closer s.created ⟨.nLost sid, none⟩ st
  | nReadDeliver (block : Bool) (ni : Nat) (ev : Event) : l.pc = .nRead sid block →
      lookupNext st.last s.oplog = some ni → s.oplog[ni]? = some ev → inScope st.handle ev = true →
      Rule s a sid l st s.alive s.closer s.created ⟨.idle, some true⟩
        { st with dropped := st.dropped || setsDropped st.handle ev, last := some ev,
                  event := .ev ev, mutex := none, delivered := st.delivered ++ [ev], busy := none }
  | nReadSkip (block : Bool) (ni : Nat) (ev : Event) : l.pc = .nRead sid block →
      lookupNext st.last s.oplog = some ni → s.oplog[ni]? = some ev → ¬inScope st.handle ev = true →
      Rule s a sid l st s.alive s.closer s.created ⟨.nLock sid block, none⟩ { st with last := some ev, mutex := none }
  | nReadGap (block : Bool) (ni : Nat) : l.pc = .nRead sid block →
      lookupNext st.last s.oplog = some ni → s.oplog[ni]? = none → block = true →
      Rule s a sid l st s.alive s.closer s.created ⟨.nGap sid s.version, none⟩ st
  | nReadEmpty (block : Bool) (ni : Nat) (ctxErr : Bool) : l.pc = .nRead sid block →
      lookupNext st.last s.oplog = some ni → s.oplog[ni]? = none → ¬block = true →
      Rule s a sid l st s.alive s.closer s.created ⟨.idle, some false⟩
        { st with error := if ctxErr then some .ctx else st.error, mutex := none, busy := none }
  | nLost : l.pc = .nLost sid →
      Rule s a sid l st s.alive s.closer s.created ⟨.idle, some false⟩
        { st with registered := false, closed := true, error := some .lost, mutex := none,
                  busy := none }
  | nGap (r : Nat) : l.pc = .nGap sid r →
      Rule s a sid l st s.alive s.closer s.created ⟨.parked sid r, none⟩ { st with mutex := none }
  | recvFull (r : Nat) : l.pc = .parked sid r → st.signal = .full →
      Rule s a sid l st s.alive s.closer s.created ⟨.nLock sid true, none⟩ { st with signal := .empty }
  | recvClosed (r : Nat) : l.pc = .parked sid r → st.signal = .closed →
      Rule s a sid l st s.alive s.closer s.created ⟨.nSigClosed sid, none⟩ st
  | ctxDone (r : Nat) : l.pc = .parked sid r → Rule s a sid l st s.alive s.closer s.created ⟨.nCtx sid, none⟩ st
  | nSigClosed : l.pc = .nSigClosed sid → st.mutex = none →
      Rule s a sid l st s.alive s.closer s.created ⟨.idle, some false⟩
        { st with registered := false, closed := true, busy := none }
  | nCtx : l.pc = .nCtx sid → st.mutex = none →
      Rule s a sid l st s.alive s.closer s.created ⟨.idle, some false⟩
        { st with error := if st.error ≠ none then st.error else some .ctx, busy := none }
  | cLockClosed : l.pc = .cLock sid → st.mutex = none → st.closed = true →
      Rule s a sid l st s.alive s.closer s.created ⟨.idle, l.ret⟩ st
  | cLock : l.pc = .cLock sid → st.mutex = none → ¬st.closed = true →
      Rule s a sid l st s.alive s.closer s.created ⟨.cSend sid, l.ret⟩
        { st with registered := false, event := .none, closed := true, error := none,
                  mutex := some a, sendPending := true }
  | cSend : l.pc = .cSend sid →
      Rule s a sid l st s.alive s.closer s.created ⟨.idle, l.ret⟩
        (match st.signal with
         | .empty => { st with signal := .full, mutex := none, sendPending := false }
         | .full => { st with mutex := none, sendPending := false }
         | .closed => { st with panic := true, mutex := none, sendPending := false })
  | eDone : l.pc = .eLoop [] → Rule s a sid l st s.alive s.closer s.created ⟨.idle, l.ret⟩ st
  | eVisit (rest : List StreamId) : l.pc = .eLoop (sid :: rest) → st.mutex = none →
      Rule s a sid l st s.alive s.closer s.created ⟨.eLoop rest, l.ret⟩
        (if st.closed then st else { st with closed := true, signal := .closed })
  | eStart : l.pc = .idle → s.alive = true →
      Rule s a sid l st false (some a) s.created
        ⟨.eLoop (s.created.filter (fun x => (s.streams x).registered)), l.ret⟩ st
  | watch (hd : Handle) (spec : StartSpec) (last : Option Event) : l.pc = .idle → s.alive = true →
      sid ∉ s.created → watchPos spec s.oplog = some last →
      Rule s a sid l st s.alive s.closer (sid :: s.created) ⟨.idle, l.ret⟩
        { handle := hd, last := last, signal := .empty, dropped := false, closed := false,
          error := none, event := .none, mutex := none, registered := true,
          delivered := [], invalidated := false,
          startPos := (match (generalizing := false) last with
                       | some e => e.id
                       | none => nilStartPos spec s.oplog s.committed.length),
          nilStart := last.isNone, spec := spec, busy := none, multi := false, panic := false,
          sendPending := false }

/-- the forms a step of actor `a` can take (`none`: Watch or Engine.Close on a dead engine, Watch
    with a token that is gone) -/
inductive StepCase (s : State) (a : ActorId) (s' : State) : Prop
  | none (eq : s' = s)
  | commit (evs : List Proto) (trim : Nat) (alive : s.alive = true) (eq : s' = stepCommit s evs trim)
  | rule (al : Bool) (cl : Option ActorId) (cr : List StreamId) (sid : StreamId) (l' : Local)
      (st' : StreamState) (r : Rule s a sid (s.actors a) (s.streams sid) al cl cr l' st')
      (eq : s' = { s with alive := al, closer := cl, created := cr, actors := upd s.actors a l',
                          streams := upd s.streams sid st' })

theorem step_cases {s s' : State} {a : ActorId} {c : Choice} (h : step s a c = some s') :
    StepCase s a s' := by
  have rule {al cl cr sid l' st'} (r : Rule s a sid (s.actors a) (s.streams sid) al cl cr l' st')
      (e : some { s with alive := al, closer := cl, created := cr, actors := upd s.actors a l',
                         streams := upd s.streams sid st' } = some s') : StepCase s a s' :=
    .rule _ _ _ _ _ _ r (Option.some.inj e).symm
  have actor {al cl sid l'} (r : Rule s a sid (s.actors a) (s.streams sid) al cl s.created l' (s.streams sid))
      (e : some { s with alive := al, closer := cl, actors := upd s.actors a l' } = some s') :
      StepCase s a s' :=
    rule r (by rw [upd_self]; exact e)
  have nRead {sid block} (ce : Bool) (hpc : (s.actors a).pc = .nRead sid block)
      (h : some (stepNRead s a sid block ce) = some s') : StepCase s a s' := by
    simp only [stepNRead] at h
    split at h
    · exact actor (.nReadLost block hpc ‹_›) h
    · split at h
      · split at h
        · exact rule (.nReadDeliver block _ _ hpc ‹_› ‹_› ‹_›) h
        · exact rule (.nReadSkip block _ _ hpc ‹_› ‹_› ‹_›) h
      · split at h
        · exact actor (.nReadGap block _ hpc ‹_› ‹_› ‹_›) h
        · exact rule (.nReadEmpty block _ ce hpc ‹_› ‹_› ‹_›) h
  unfold step at h
  split at h
  next sid block hpc =>
    split at h
    · exact rule (.callNext block hpc ‹_›) h
    · cases h
  next sid hpc =>
    split at h
    · exact actor (.callClose hpc ‹_›) h
    · cases h
  next hpc =>
    simp only [stepCallCloseEngine] at h
    split at h
    · exact actor (sid := 0) (.eStart hpc ‹_›) h
    · exact .none (Option.some.inj h).symm
  next sid hd spec hpc =>
    simp only [stepWatch] at h
    split at h
    · exact .none (Option.some.inj h).symm
    · split at h
      · cases h
      · split at h
        · exact .none (Option.some.inj h).symm
        · have hl : s.actors a = ⟨.idle, (s.actors a).ret⟩ := by rw [← hpc]
          refine rule (.watch hd spec _ hpc (by simpa using ‹¬(!s.alive) = true›) ‹_› ‹_›) ?_
          rw [← hl, upd_self]; exact h
  next evs trim hpc =>
    split at h
    · exact .commit evs trim ‹_› (Option.some.inj h).symm
    · cases h
  next sid block hpc =>
    simp only [stepNLock] at h
    split at h
    · cases h
    · split at h
      · exact rule (.nLockOut block hpc (Decidable.not_not.mp ‹_›) ‹_›) h
      · split at h
        · exact rule (.nLockInval block hpc (Decidable.not_not.mp ‹_›) ‹_› ‹_›) h
        · exact rule (.nLockIn block hpc (Decidable.not_not.mp ‹_›) ‹_› ‹_›) h
  next sid block hpc => exact nRead false hpc h
  next sid block hpc => exact nRead true hpc h
  next sid hpc => exact rule (.nLost hpc) h
  next sid r hpc => exact rule (.nGap r hpc) h
  next sid r hpc =>
    simp only [stepRecv] at h
    split at h
    · cases h
    · exact rule (.recvFull r hpc ‹_›) h
    · exact actor (.recvClosed r hpc ‹_›) h
  next sid r hpc => exact actor (.ctxDone r hpc) h
  next sid hpc =>
    simp only [stepNSigClosed] at h
    split at h
    · cases h
    · exact rule (.nSigClosed hpc (Decidable.not_not.mp ‹_›)) h
  next sid hpc =>
    simp only [stepNCtx] at h
    split at h
    · cases h
    · exact rule (.nCtx hpc (Decidable.not_not.mp ‹_›)) h
  next sid hpc =>
    simp only [stepCLock] at h
    split at h
    · cases h
    · split at h
      · exact actor (.cLockClosed hpc (Decidable.not_not.mp ‹_›) ‹_›) h
      · exact rule (.cLock hpc (Decidable.not_not.mp ‹_›) ‹_›) h
  next sid hpc => exact rule (.cSend hpc) h
  next rest hpc =>
    simp only [stepELoop] at h
    split at h
    · exact actor (sid := 0) (.eDone hpc) h
    · split at h
      · cases h
      · exact rule (.eVisit _ hpc (Decidable.not_not.mp ‹_›)) h
  · cases h

variable {s : State} {a b : ActorId} {sid x : StreamId} {l l' : Local} {st st' : StreamState}
  {al : Bool} {cl : Option ActorId} {cr : List StreamId}

/-- An invariant that ties an actor's registers to a stream (who is in which critical section, who waits on which
    signal) is stated of one actor and one stream and asked of all pairs; a rule rewrites one of each. -/
def Pairs (Φ : ActorId → StreamId → Local → StreamState → Prop) (s : State) : Prop :=
  ∀ b x, Φ b x (s.actors b) (s.streams x)

/-- A rule keeps a property of pairs if it holds of the stepper's new registers against every stream
    and of every other actor against the rewritten stream. `Φ'` differs from `Φ` where the property
    reads `alive`, `closer` or `created`. -/
theorem Pairs.rule {Φ Φ' : ActorId → StreamId → Local → StreamState → Prop} (i : Pairs Φ s)
    (mono : ∀ b x, b ≠ a → Φ b x (s.actors b) (s.streams x) → Φ' b x (s.actors b) (s.streams x))
    (own : ∀ x, Φ' a x l' (upd s.streams sid st' x))
    (others : ∀ b, b ≠ a → Φ b sid (s.actors b) (s.streams sid) → Φ' b sid (s.actors b) st') :
    Pairs Φ' { s with alive := al, closer := cl, created := cr, actors := upd s.actors a l',
                      streams := upd s.streams sid st' } := by
  intro b x
  show Φ' b x (upd s.actors a l' b) (upd s.streams sid st' x)
  by_cases hb : b = a
  · subst hb; rw [upd_same]; exact own x
  · rw [upd_other _ _ hb]
    by_cases hx : x = sid
    · subst hx; rw [upd_same]; exact others b hb (i b x)
    · rw [upd_other _ _ hx]; exact mono b x hb (i b x)

theorem bcast_eq (st : StreamState) : ∃ sg p, bcast st = { st with signal := sg, panic := p } := by
  unfold bcast; split
  · split
    · exact ⟨_, _, rfl⟩
    · exact ⟨st.signal, st.panic, rfl⟩
    · exact ⟨_, _, rfl⟩
  · exact ⟨st.signal, st.panic, rfl⟩

/-- Commit keeps a property of pairs that reads neither `signal`, `panic` nor what Commit writes -/
theorem Pairs.commit {Φ : ActorId → StreamId → Local → StreamState → Prop} (i : Pairs Φ s)
    (h : ∀ b x l st sg p, Φ b x l st → Φ b x l { st with signal := sg, panic := p })
    (evs : List Proto) (trim : Nat) : Pairs Φ (stepCommit s evs trim) := by
  intro b x
  obtain ⟨sg, p, e⟩ := bcast_eq (s.streams x)
  show Φ b x (s.actors b) (bcast (s.streams x))
  rw [e]; exact h _ _ _ _ _ _ (i b x)

/-- an invariant about the fields of each stream on its own -/
def Streams (Ψ : StreamId → StreamState → Prop) (s : State) : Prop := ∀ x, Ψ x (s.streams x)

theorem Streams.rule {Ψ Ψ' : StreamId → StreamState → Prop} (i : Streams Ψ s) (mono : ∀ x, Ψ x (s.streams x) → Ψ' x (s.streams x))
    (h : Ψ sid (s.streams sid) → Ψ' sid st') :
    Streams Ψ' { s with alive := al, closer := cl, created := cr, actors := upd s.actors a l',
                        streams := upd s.streams sid st' } := by
  intro x
  show Ψ' x (upd s.streams sid st' x)
  by_cases hx : x = sid
  · subst hx; rw [upd_same]; exact h (i x)
  · rw [upd_other _ _ hx]; exact mono x (i x)

theorem Streams.commit {Ψ : StreamId → StreamState → Prop} (i : Streams Ψ s)
    (h : ∀ x st sg p, Ψ x st → Ψ x { st with signal := sg, panic := p })
    (evs : List Proto) (trim : Nat) : Streams Ψ (stepCommit s evs trim) := by
  intro x
  obtain ⟨sg, p, e⟩ := bcast_eq (s.streams x)
  show Ψ x (bcast (s.streams x))
  rw [e]; exact h _ _ _ _ (i x)

/-- what a rule does to `created`, `alive` and `closer` -/
theorem Rule.glob (r : Rule s a sid l st al cl cr l' st') :
    (∀ x ∈ s.created, x ∈ cr) ∧ (s.alive = false → al = false) ∧
    ((al = s.alive ∧ cl = s.closer) ∨
     (s.alive = true ∧ al = false ∧ cl = some a ∧ st' = st ∧
      l'.pc = .eLoop (s.created.filter (fun x => (s.streams x).registered)))) := by
  cases r with
  | watch => exact ⟨fun _ => List.mem_cons_of_mem _, id, .inl ⟨rfl, rfl⟩⟩
  | eStart _ h => exact ⟨fun _ => id, fun _ => rfl, .inr ⟨h, rfl, rfl, rfl, rfl⟩⟩
  | _ => exact ⟨fun _ => id, id, .inl ⟨rfl, rfl⟩⟩

/-- program counters name only streams that `Watch` has created, and the loop of `Engine.Close` runs only on a dead
    engine -/
def InvPC (s : State) : Prop :=
  Pairs (fun _ x l _ => (l.pc.sid? = some x → x ∈ s.created) ∧
                        (∀ rest, l.pc = .eLoop rest → s.alive = false)) s

theorem InvPC_init : InvPC init := by
  intro a sid; simp [init, Pc.sid?]

theorem InvPC_step {s s' a} (h : StepCase s a s') (i : InvPC s) : InvPC s' := by
  cases h with
  | none eq => exact eq ▸ i
  | commit evs trim _ eq => subst eq; exact i
  | rule al cl cr sid l' st' r eq =>
    subst eq
    have i1 := i a sid
    refine i.rule (fun _ _ _ h => ⟨fun hp => r.glob.1 _ (h.1 hp), fun _ hp => r.glob.2.1 (h.2 _ hp)⟩)
      ?_ (fun _ _ h => ⟨fun hp => r.glob.1 _ (h.1 hp), fun _ hp => r.glob.2.1 (h.2 _ hp)⟩)
    cases r <;> simp_all [Pc.sid?]

/-! ### critical sections of the stream mutex -/

/-- the stream whose mutex an actor at this pc holds -/
def Pc.holds? : Pc → Option StreamId
  | .nRead x _ | .nLost x | .nGap x _ | .cSend x => some x
  | _ => none

theorem Pc.holds?_sid? {p : Pc} {x : StreamId} (h : p.holds? = some x) : p.sid? = some x := by
  cases p <;> first | exact h | cases h

/-- who is inside a critical section owns the mutex; the consumer inside sees a valid stream -/
def InvH (s : State) : Prop :=
  Pairs (fun b x l st => (l.pc.holds? = some x → st.mutex = some b) ∧
    (∀ bl, l.pc = .nRead x bl → st.closed = false ∧ st.dropped = false ∧ st.error = none) ∧
    (∀ r, l.pc = .nGap x r → st.closed = false)) s

theorem InvH_init : InvH init := by
  intro a sid; simp [init, Pc.holds?]

/-- mutual exclusion -/
theorem InvH.alone (i : InvH s) (hb : b ≠ a)
    (hm : (s.streams sid).mutex = none ∨ (s.streams sid).mutex = some a) :
    (s.actors b).pc.holds? ≠ some sid := by
  intro hc
  have := (i b sid).1 hc
  rcases hm with hm | hm <;> rw [hm] at this
  · cases this
  · cases this; exact hb rfl

/-- Every rule but the calls of `next` and `Close`, the wake-ups of a parked consumer and the first
    and last step of Engine.Close runs with the mutex free or held by the stepper, or on a new
    stream, hence with no other actor inside a critical section of the stream; and those rules leave
    alone what critical sections rely on. -/
theorem Rule.beside (i : InvH s) (ipc : InvPC s)
    (r : Rule s a sid (s.actors a) (s.streams sid) al cl cr l' st') (hb : b ≠ a) :
    (s.actors b).pc.holds? ≠ some sid ∨
    (st'.mutex = (s.streams sid).mutex ∧ st'.closed = (s.streams sid).closed ∧
     st'.dropped = (s.streams sid).dropped ∧ st'.error = (s.streams sid).error ∧
     st'.sendPending = (s.streams sid).sendPending ∧ st'.last = (s.streams sid).last ∧
     (st'.signal = .closed → (s.streams sid).signal = .closed)) := by
  have i1 := (i a sid).1
  cases r with
  | callNext | callClose | recvClosed | ctxDone | eDone | eStart =>
    exact .inr ⟨rfl, rfl, rfl, rfl, rfl, rfl, id⟩
  | recvFull => exact .inr ⟨rfl, rfl, rfl, rfl, rfl, rfl, nofun⟩
  | watch _ _ _ _ _ fresh => exact .inl fun h => fresh ((ipc b sid).1 (Pc.holds?_sid? h))
  | nLockOut _ _ hm | nLockInval _ _ hm | nLockIn _ _ hm | nSigClosed _ hm | nCtx _ hm
  | cLockClosed _ hm | cLock _ hm | eVisit _ _ hm => exact .inl (i.alone hb (.inl hm))
  | _ =>
    -- the stepper is inside a critical section, so it owns the mutex
    exact .inl (i.alone hb (.inr (i1 (by rw [‹(s.actors a).pc = _›]; rfl))))

theorem InvH_step {s s' a} (h : StepCase s a s') (i : InvH s) (ipc : InvPC s) : InvH s' := by
  cases h with
  | none eq => exact eq ▸ i
  | commit evs trim _ eq => exact eq ▸ i.commit (fun _ _ _ _ _ _ h => h) evs trim
  | rule al cl cr sid l' st' r eq =>
    subst eq
    refine i.rule (fun _ _ _ h => h) ?_ fun b hb ib => ?_
    · have i1 := i a sid
      cases r with
      | nLockIn | cLock | nReadLost | nReadGap =>
        refine fun x => ⟨fun hp => ?_, fun _ hp => ?_, fun _ hp => ?_⟩ <;> cases hp <;>
          rw [upd_same] <;> simp_all [Pc.holds?]
      | _ => exact fun x => ⟨nofun, nofun, nofun⟩
    · rcases r.beside i ipc hb with hm | hm
      · exact ⟨fun hp => absurd hp hm, fun _ hp => absurd (by rw [hp]; rfl) hm,
          fun _ hp => absurd (by rw [hp]; rfl) hm⟩
      · rw [hm.1, hm.2.1, hm.2.2.1, hm.2.2.2.1]; exact ib

/-! ### signal protocol -/

/-- per-stream facts about the signal channel and registration -/
def InvS (s : State) : Prop :=
  Streams (fun x st => (st.signal = .closed → st.closed = true) ∧ (st.signal = .closed → s.alive = false) ∧
    (st.registered = true ∨ st.closed = true) ∧ (st.registered = true → x ∈ s.created) ∧
    st.panic = false) s

theorem InvS_init : InvS init := by
  intro sid; simp [init]

/-- only `cLock` raises `sendPending`, and every other rule but `cSend` runs outside `cSend` -/
theorem Rule.sendPending (r : Rule s a sid l st al cl cr l' st')
    (h : st'.sendPending = true) :
    (l'.pc = .cSend sid ∧ st'.mutex = some a) ∨ (st.sendPending = true ∧ l.pc ≠ .cSend sid) := by
  cases r with
  | cLock => exact .inl ⟨rfl, rfl⟩
  | cSend => split at h <;> cases h
  | eVisit => split at h <;> simp_all
  | watch => cases h
  | _ => simp_all

/-- the old pc of a rule names no other stream -/
theorem Rule.pc_sid (r : Rule s a sid l st al cl cr l' st')
    (h : l.pc.sid? = some x) : x = sid := by
  cases r <;> simp_all [Pc.sid?]

/-- a Stream.Close between its two sections: the send is pending, the signal channel is not closed,
    and a pending send has its sender inside the critical section -/
def InvSP (s : State) : Prop :=
  Pairs (fun _ x l st => l.pc = .cSend x → st.sendPending = true ∧ st.signal ≠ .closed) s ∧
  ∀ x, (s.streams x).sendPending = true →
    ∃ b, (s.streams x).mutex = some b ∧ (s.actors b).pc = .cSend x

theorem InvSP_init : InvSP init := by
  refine ⟨?_, ?_⟩ <;> intro a <;> simp [init]

theorem InvS_step {s s' a} (h : StepCase s a s') (i : InvS s) (isp : InvSP s) (ipc : InvPC s) :
    InvS s' := by
  cases h with
  | none eq => exact eq ▸ i
  | commit evs trim alive eq =>
    subst eq
    intro x
    have ix := i x
    simp only [stepCommit, bcast]
    grind
  | rule al cl cr sid l' st' r eq =>
    subst eq
    refine i.rule (fun x h => ⟨h.1, fun hs => r.glob.2.1 (h.2.1 hs), h.2.2.1,
      fun hr => r.glob.1 _ (h.2.2.2.1 hr), h.2.2.2.2⟩) fun i1 => ?_
    have i6 := (isp.1 a sid)
    have iel := (ipc a sid).2
    cases r with
    | nLockInval | nLost | nSigClosed | recvFull | cLock | eStart | watch => simp_all
    | cSend hpc => have := (i6 hpc).2; split <;> simp_all
    | eVisit rest hpc => have := iel _ hpc; split <;> simp_all
    | _ => exact i1

theorem InvSP_step {s s' a} (h : StepCase s a s') (i : InvSP s) (ih : InvH s) (ipc : InvPC s)
    (is : InvS s) : InvSP s' := by
  obtain ⟨iA, iB⟩ := i
  cases h with
  | none eq => exact eq ▸ ⟨iA, iB⟩
  | commit evs trim alive eq =>
    subst eq
    refine ⟨fun b x hp => ?_, fun x => ?_⟩
    · have := iA b x hp
      have := (is x).2.1
      simp only [stepCommit, bcast]
      grind
    · obtain ⟨sg, p, e⟩ := bcast_eq (s.streams x)
      simp only [stepCommit, e]
      exact iB x
  | rule al cl cr sid l' st' r eq =>
    subst eq
    refine ⟨iA.rule (fun _ _ _ h => h) ?_ fun b hb ib hp => ?_, fun x hs => ?_⟩
    · cases r with
      | cLock _ _ hc =>
        intro x hp; cases hp; rw [upd_same]
        exact ⟨rfl, fun hs => hc ((is sid).1 hs)⟩
      | _ => exact fun _ => nofun
    · rcases r.beside ih ipc hb with hn | hf
      · exact absurd (by rw [hp]; rfl) hn
      · rw [hf.2.2.2.2.1]; exact ⟨(ib hp).1, fun hs => (ib hp).2 (hf.2.2.2.2.2.2 hs)⟩
    · show ∃ b, (upd s.streams sid st' x).mutex = some b ∧ (upd s.actors a l' b).pc = .cSend x
      replace hs : (upd s.streams sid st' x).sendPending = true := hs
      by_cases hx : x = sid
      · subst hx
        rw [upd_same] at hs ⊢
        rcases r.sendPending hs with ⟨hp, hm⟩ | ⟨hs0, hne⟩
        · exact ⟨a, hm, by rw [upd_same]; exact hp⟩
        · obtain ⟨b, hm, hp⟩ := iB x hs0
          have hb : b ≠ a := fun e => hne (e ▸ hp)
          rcases r.beside ih ipc hb with hn | hf
          · exact absurd (by rw [hp]; rfl) hn
          · exact ⟨b, hf.1.trans hm, by rw [upd_other _ _ hb]; exact hp⟩
      · rw [upd_other _ _ hx] at hs ⊢
        obtain ⟨b, hm, hp⟩ := iB x hs
        have hb : b ≠ a := fun e => hx (r.pc_sid (by rw [← e, hp]; rfl))
        exact ⟨b, hm, by rw [upd_other _ _ hb]; exact hp⟩

/-- as long as no two `Next` calls have overlapped on a stream, the actor inside `Next` is the one `busy` records -/
def InvM (s : State) : Prop :=
  Pairs (fun c x l st => st.multi = false → l.pc.nextSid? = some x → st.busy = some c) s

theorem InvM_init : InvM init := by
  intro a sid; simp [init, Pc.nextSid?]

/-- Beside a consumer that is alone on its stream, the only rules are those of Stream.Close and
    Engine.Close: they leave the position alone, keep a pending wake-up and announce a close. -/
theorem Rule.aside (im : InvM s) (ipc : InvPC s)
    (r : Rule s a sid (s.actors a) (s.streams sid) al cl cr l' st') (hb : b ≠ a)
    (hp : (s.actors b).pc.nextSid? = some sid) (hm : st'.multi = false) :
    (s.streams sid).multi = false ∧ st'.busy = (s.streams sid).busy ∧
    st'.last = (s.streams sid).last ∧
    (st'.closed = true →
      (s.streams sid).closed = true ∨ st'.signal ≠ .empty ∨ st'.sendPending = true) ∧
    ((s.streams sid).signal ≠ .empty ∨ (s.streams sid).sendPending = true →
      st'.signal ≠ .empty ∨ st'.sendPending = true) := by
  have ia := im a sid
  have ib := im b sid
  cases r with
  | callNext => simp_all
  | watch _ _ _ _ _ fresh => exact absurd ((ipc b sid).1 (Pc.nextSid?_sid? hp)) fresh
  | callClose | cLockClosed | eDone | eStart => exact ⟨hm, rfl, rfl, .inl, id⟩
  | cLock => exact ⟨hm, rfl, rfl, fun _ => .inr (.inr rfl), fun _ => .inr rfl⟩
  | cSend | eVisit => revert hm; split <;> simp_all
  | _ =>
    -- the stepper is inside `next` on the stream, like `b`: both would be its one busy actor
    have h1 := ia hm (by rw [‹(s.actors a).pc = _›]; rfl)
    rw [ib hm hp] at h1
    cases h1; exact absurd rfl hb

theorem InvM_step {s s' a} (h : StepCase s a s') (i : InvM s) (ipc : InvPC s) : InvM s' := by
  cases h with
  | none eq => exact eq ▸ i
  | commit evs trim _ eq => exact eq ▸ i.commit (fun _ _ _ _ _ _ h => h) evs trim
  | rule al cl cr sid l' st' r eq =>
    subst eq
    refine i.rule (fun _ _ _ h => h) ?_ fun b hb ib hm hp => ?_
    · have i1 := i a sid
      cases r with
      | callNext => intro x _ hp; cases hp; rw [upd_same]
      | nLockIn _ hpc | nReadLost _ hpc | nReadSkip _ _ _ hpc | nReadGap _ _ hpc | nGap _ hpc
      | recvFull _ hpc | recvClosed _ hpc | ctxDone _ hpc =>
        intro x hm hp; cases hp; rw [upd_same] at hm ⊢; exact i1 hm (by rw [hpc]; rfl)
      | _ => exact fun _ _ => nofun
    · obtain ⟨hm0, hbusy, _⟩ := r.aside i ipc hb hp hm
      rw [hbusy]; exact ib hm0 hp

/-! ### no lost wake-up -/

/-- A consumer that is about to park or is parked, alone on its stream: its read is not from the
    future, a read that is still current found nothing to deliver, and if something was committed
    since the read, or the stream was closed, then the signal channel is non-empty or a Stream.Close
    is about to send. -/
def InvW (s : State) : Prop :=
  Pairs (fun _ x l st => ∀ r, (l.pc = .nGap x r ∨ l.pc = .parked x r) → st.multi = false →
    (r ≤ s.version ∧ (r = s.version → nextEvent st.last s.oplog = some none)) ∧
    ((r < s.version ∨ st.closed = true) → (st.signal ≠ .empty ∨ st.sendPending = true))) s

theorem InvW_init : InvW init := by
  intro a sid r; simp [init]

theorem InvW_step {s s' a} (h : StepCase s a s') (i : InvW s) (ipc : InvPC s) (im : InvM s)
    (is : InvS s) (ih : InvH s) : InvW s' := by
  cases h with
  | none eq => exact eq ▸ i
  | commit evs trim _ eq =>
    subst eq
    intro b x r hw hm
    obtain ⟨sg, p, e⟩ := bcast_eq (s.streams x)
    have hm0 : (s.streams x).multi = false := by rw [show (stepCommit s evs trim).streams x = _ from e] at hm; exact hm
    obtain ⟨⟨i1, _⟩, i2⟩ := i b x r hw hm0
    refine ⟨⟨Nat.le_succ_of_le i1, fun e => absurd (e ▸ i1) (Nat.not_succ_le_self _)⟩, ?_⟩
    have s3 := (is x).2.2.1
    simp only [stepCommit, bcast]
    grind
  | rule al cl cr sid l' st' r eq =>
    subst eq
    refine i.rule (fun _ _ _ h => h) ?_ fun b hb ib r' hw hm => ?_
    · cases r with
      | nReadGap _ _ hpc hl ho =>
        -- the read is current, found nothing, and the stream is open
        intro x r' hw
        rcases hw with hw | hw <;> cases hw
        rw [upd_same]
        refine fun _ => ⟨⟨Nat.le_refl _, fun _ => by simp only [nextEvent, hl, Option.map_some, ho]⟩,
          fun hn => ?_⟩
        rcases hn with hn | hn
        · exact absurd hn (Nat.lt_irrefl _)
        · rw [((ih a sid).2.1 _ hpc).1] at hn; cases hn
      | nGap r0 hpc =>
        intro x r' hw
        rcases hw with hw | hw <;> cases hw
        rw [upd_same]
        exact i a sid r0 (.inl hpc)
      | _ => intro x r' hw; rcases hw with hw | hw <;> cases hw
    · have hp : (s.actors b).pc.nextSid? = some sid := by rcases hw with h | h <;> rw [h] <;> rfl
      obtain ⟨hm0, _, hl, hcl, hsig⟩ := r.aside im ipc hb hp hm
      obtain ⟨i1, i2⟩ := ib r' hw hm0
      refine ⟨hl ▸ i1, fun hn => ?_⟩
      rcases hn with hn | hn
      · exact hsig (i2 (.inl hn))
      · rcases hcl hn with hc | hc
        · exact hsig (i2 (.inr hc))
        · exact hc

/-! ### Engine.Close reaches every registered, unclosed stream -/

/-- a rule never registers a stream again nor reopens it, Watch apart -/
theorem Rule.stillOpen (r : Rule s a sid l st al cl cr l' st')
    (hr : st'.registered = true) (hc : st'.closed = false) :
    (st.registered = true ∧ st.closed = false) ∨ s.alive = true := by
  cases r with
  | cSend | eVisit => revert hr hc; split <;> simp_all
  | nLockInval | nLost | nSigClosed | cLock => cases hr
  | watch _ _ _ _ h => exact .inr h
  | _ => exact .inl ⟨hr, hc⟩

/-- only `eVisit` runs inside the loop of Engine.Close; it closes the stream it takes off the list -/
theorem Rule.eRest (r : Rule s a sid l st al cl cr l' st') :
    l.pc.eRest = [] ∨ (l.pc.eRest = sid :: l'.pc.eRest ∧ st'.closed = true) := by
  cases r with
  | eVisit rest hpc => exact .inr ⟨by rw [hpc]; rfl, by split <;> simp_all⟩
  | _ => simp [Pc.eRest, *]

/-- `closer` is set exactly when the engine is dead, and the list the closing actor still has to visit contains every
    stream that is registered and not yet closed: `Engine.Close` misses none -/
def InvE (s : State) : Prop :=
  ((s.alive = false → s.closer ≠ none) ∧ (s.alive = true → s.closer = none)) ∧
  Pairs (fun b x l st => s.closer = some b → st.registered = true → st.closed = false →
    x ∈ l.pc.eRest) s

theorem InvE_init : InvE init := by
  refine ⟨by simp [init], fun _ _ => ?_⟩; simp [init]

theorem InvE_step {s s' a} (h : StepCase s a s') (i : InvE s) (is : InvS s) : InvE s' := by
  obtain ⟨i0, i⟩ := i
  cases h with
  | none eq => exact eq ▸ ⟨i0, i⟩
  | commit evs trim _ eq => exact eq ▸ ⟨i0, i.commit (fun _ _ _ _ _ _ h => h) evs trim⟩
  | rule al cl cr sid l' st' r eq =>
    subst eq
    rcases r.glob.2.2 with ⟨rfl, rfl⟩ | ⟨halive, rfl, rfl, rfl, hpc⟩
    · refine ⟨i0, i.rule (fun _ _ _ h => h) (fun x hc hr hcl => ?_) fun b _ ib hc hr hcl => ?_⟩
      · by_cases hx : x = sid
        · subst hx
          rw [upd_same] at hr hcl
          rcases r.stillOpen hr hcl with ho | ho
          · have i2 := i a x hc ho.1 ho.2
            rcases r.eRest with e | ⟨_, hcl'⟩
            · rw [e] at i2; cases i2
            · rw [hcl'] at hcl; cases hcl
          · rw [i0.2 ho] at hc; cases hc
        · rw [upd_other _ _ hx] at hr hcl
          have i2 := i a x hc hr hcl
          rcases r.eRest with e | ⟨e, _⟩ <;> rw [e] at i2
          · cases i2
          · exact (List.mem_cons.mp i2).resolve_left hx
      · rcases r.stillOpen hr hcl with ho | ho
        · exact ib hc ho.1 ho.2
        · rw [i0.2 ho] at hc; cases hc
    · refine ⟨⟨nofun, nofun⟩, fun b x hc hr hcl => ?_⟩
      cases hc
      show x ∈ (upd s.actors a l' a).pc.eRest
      replace hr : (upd s.streams sid (s.streams sid) x).registered = true := hr
      rw [upd_self] at hr
      rw [upd_same, hpc]
      exact List.mem_filter.mpr ⟨(is x).2.2.2.1 hr, hr⟩

end Lungo.StreamTS
