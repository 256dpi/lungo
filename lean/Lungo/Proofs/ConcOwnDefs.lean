/-
  Lungo.Proofs.ConcOwnDefs — the invariant `Inv2` of the concurrency model: the registers the guards read are set
  (`Lwf`), only actors `0 … n` run (`Rng`), every tid in use was allocated (`Bnd`), the `starting` protocol of
  `startTransaction` (`Sinv`), and ownership (`Oinv`): every write transaction installed in `e.txn` has a designated
  finisher, an in-flight actor (`OwnsL`: by its handle or by its position, `FinPos`) or a session at rest, until it
  is unset.
-/
import Lungo.Proofs.ConcInv
namespace Lungo.Conc

/-- actor-local well-formedness of the registers read by guards -/
def LWf (l : Local) : Prop :=
  ((l.pc = .bSessLock ∨ l.pc = .bSessRead ∨ l.pc = .bAcquire ∨ l.pc = .bRelock ∨ l.pc = .bPost) →
    l.lockF = true) ∧
  ((l.pc = .bSessLock ∨ l.pc = .bSessRead ∨ l.pc = .uSessLock ∨ l.pc = .uSessRead) → l.ctxSess.isSome = true) ∧
  ((l.pc = .cStore ∨ l.pc = .uCb ∨ l.pc = .uCbSess ∨ l.pc = .uCbRead ∨ l.pc = .xExpire) → l.t.isSome = true) ∧
  (l.pc = .after → (l.k = .use ∨ l.k = .start ∨ l.k = .expBegin ∨ l.k = .dBegin) → l.res = .ok →
    l.t.isSome = true) ∧
  (l.k = .dBegin → (l.pc = .bLock ∨ l.pc = .bCheck ∨ l.pc = .bSessLock ∨ l.pc = .bSessRead ∨
    l.pc = .bAcquire ∨ l.pc = .bRelock ∨ l.pc = .bPost ∨ l.pc = .after) → l.handle = none) ∧
  -- `startTransaction` and the expiry goroutine begin locked transactions
  ((l.k = .start ∨ l.k = .expBegin) → (l.pc = .bLock ∨ l.pc = .bCheck ∨ l.pc = .bSessLock ∨ l.pc = .bSessRead ∨
    l.pc = .bAcquire ∨ l.pc = .bRelock ∨ l.pc = .bPost ∨ l.pc = .after) → l.lockF = true)

/-- the program counters at which `LWf` asks something of the registers -/
def Pc.guarded : Pc → Bool
  | .bLock | .bCheck | .bSessLock | .bSessRead | .bAcquire | .bRelock | .bPost | .after | .uSessLock | .uSessRead
  | .cStore | .uCb | .uCbSess | .uCbRead | .xExpire => true
  | _ => false

theorem LWf.of_pc {l : Local} (h : l.pc.guarded = false) : LWf l := by
  unfold LWf
  cases hp : l.pc <;> first | (rw [hp] at h; cases h; done) | simp

/-- the actor is inside `startTransaction` of session `sid`, after having set `starting` -/
def StartFlow (l : Local) (sid : SessId) : Prop :=
  l.sid = sid ∧ (l.pc = .ssRelock ∨ l.pc = .ssFinal ∨
    (l.k = .start ∧ (l.pc = .bLock ∨ l.pc = .bCheck ∨ l.pc = .bSessLock ∨ l.pc = .bSessRead ∨
      l.pc = .bAcquire ∨ l.pc = .bRelock ∨ l.pc = .bPost ∨ l.pc = .after)))

/-- "pre-write": between a successful locked Begin and the Commit call / hand-over to the session, where the caller's
    callback may still write to the transaction -/
def PreW (l : Local) : Prop :=
  (l.pc = .after ∧ l.res = .ok ∧ l.lockF = true ∧ (l.k = .use ∨ l.k = .start ∨ l.k = .expBegin ∨ l.k = .dBegin)) ∨
  l.pc = .uCb ∨ l.pc = .xExpire ∨ ((l.pc = .ssRelock ∨ l.pc = .ssFinal) ∧ l.res = .ok)

/-- actor-local positions from which the actor will finish (commit/abort/hand over) its `l.t` -/
def FinPos (l : Local) : Prop :=
  PreW l ∨ l.pc = .cLock ∨ l.pc = .cCheck ∨ l.pc = .cStore ∨ (l.pc = .after ∧ l.k = .useCommit) ∨
  ((l.pc = .aLock ∨ l.pc = .aBody) ∧ l.k ≠ .sessAbort)

/-- local states in which actor-local state designates the actor as finisher of `t` -/
def OwnsL (l : Local) (t : Tid) : Prop :=
  l.handle = some t ∨ (l.t = some t ∧ (
    (l.pc = .after ∧ l.res = .ok ∧ l.lockF = true ∧
      (l.k = .use ∨ l.k = .start ∨ l.k = .expBegin ∨ l.k = .dBegin)) ∨
    l.pc = .uCb ∨ l.pc = .xExpire ∨ ((l.pc = .ssRelock ∨ l.pc = .ssFinal) ∧ l.res = .ok) ∨
    l.pc = .cLock ∨ l.pc = .cCheck ∨ l.pc = .cStore ∨
    (l.pc = .after ∧ l.k = .useCommit) ∨
    ((l.pc = .aLock ∨ l.pc = .aBody) ∧ l.k ≠ .sessAbort)))

/-- the program counters at which the registers `t`, `res`, `k` can make an actor the finisher of a transaction -/
def Pc.finishes : Pc → Bool
  | .after | .uCb | .xExpire | .ssRelock | .ssFinal | .cLock | .cCheck | .cStore | .aLock | .aBody => true
  | _ => false

theorem FinPos.finishes {l : Local} (h : FinPos l) : l.pc.finishes = true := by
  simp only [FinPos, PreW] at h
  rcases h with (⟨h, _⟩ | h | h | ⟨h | h, _⟩) | h | h | h | ⟨h, _⟩ | ⟨h | h, _⟩ <;> rw [h] <;> rfl

theorem FinPos.not {l : Local} (hp : l.pc.finishes = false) : ¬ FinPos l := fun h => by
  rw [h.finishes] at hp; cases hp

theorem OwnsL_iff {l : Local} {t : Tid} : OwnsL l t ↔ l.handle = some t ∨ (l.t = some t ∧ FinPos l) := by
  simp only [OwnsL, FinPos, PreW, or_assoc]

theorem OwnsL.handle {l : Local} {t : Tid} (h : OwnsL l t) (hp : l.pc.finishes = false) : l.handle = some t := by
  rcases h with h | ⟨_, h⟩
  · exact h
  · cases hpc : l.pc <;> simp_all [Pc.finishes]

/-- the owner on record in `e.own` can still finish `t`: an actor by its registers, a session at rest by holding `t` -/
def Owned (s : State) (t : Tid) : Prop :=
  match s.eng.own with
  | .actor b => OwnsL (s.loc b) t
  | .sess sid => (s.sess sid).txn = some t

theorem Owned.actor {s : State} {b : ActorId} (h : s.eng.own = .actor b) (t : Tid) :
    Owned s t ↔ OwnsL (s.loc b) t := by
  unfold Owned; rw [h]

theorem Owned.sess {s : State} {sid : SessId} (h : s.eng.own = .sess sid) (t : Tid) :
    Owned s t ↔ (s.sess sid).txn = some t := by
  unfold Owned; rw [h]

/-- every actor's registers are set where a guard of `step` reads them -/
def Lwf (s : State) : Prop := ∀ a, LWf (s.loc a)
/-- only the actors `0 … n` ever run -/
def Rng (s : State) : Prop := ∀ a, a > s.n → (s.loc a).pc = .idle
/-- every tid in use (installed, in a register, in a handle, in a session) has been allocated, so `newTxn` hands out a
    tid nobody holds -/
def Bnd (s : State) : Prop :=
  (∀ t, s.eng.txn = some t → t < s.eng.nextTid) ∧
  (∀ a t, (s.loc a).t = some t → t < s.eng.nextTid) ∧
  (∀ a t, (s.loc a).handle = some t → t < s.eng.nextTid) ∧
  (∀ sid t, (s.sess sid).txn = some t → t < s.eng.nextTid)
/-- the `starting` flag protocol of `startTransaction` -/
def Sinv (s : State) : Prop :=
  (∀ sid, (s.sess sid).starting = true → (s.sess sid).txn = none) ∧
  (∀ a sid, (s.sess sid).starter = some a ↔ StartFlow (s.loc a) sid) ∧
  (∀ sid, (s.sess sid).starter.isSome = (s.sess sid).starting)
/-- ownership of the installed write transaction -/
def Oinv (s : State) : Prop :=
  (s.eng.alive = true → ∀ t, s.eng.txn = some t → Owned s t) ∧
  (∀ a, (s.loc a).k = .sessAbort → ((s.loc a).pc = .aLock ∨ (s.loc a).pc = .aBody ∨ (s.loc a).pc = .after) →
    (s.sess (s.loc a).sid).txn = (s.loc a).t) ∧
  (∀ a, (s.loc a).k = .sessAbort → (s.loc a).pc = .after → s.eng.alive = true →
    ∀ t, (s.loc a).t = some t → s.eng.txn ≠ some t)

structure Inv2 (s : State) : Prop where
  lwf : Lwf s
  rng : Rng s
  bnd : Bnd s
  sinv : Sinv s
  oinv : Oinv s

theorem inv2_init (n : Nat) : Inv2 (init n) := by
  refine ⟨fun b => ?_, fun b => ?_, ⟨?_, fun b => ?_, fun b => ?_, ?_⟩, ⟨?_, fun b sid => ?_, ?_⟩,
    ⟨?_, fun b => ?_, fun b => ?_⟩⟩
  all_goals (simp only [init, LWf, StartFlow]; try (by_cases hb : b = 0 <;> simp [hb]))
  all_goals simp

end Lungo.Conc
