/-
  Lungo.Proofs.ProjectLaws — the projection model (Lungo/Model/Project.lean, mirroring
  mongokit/project.go): what the projection document does to the state (`PState`), and what `Project`
  returns for flag-only projections.  What `Put` does to the result under construction is in
  ProjectPaths.

  Each operator has an equation for what it registers (`projectSlice_eq`, `projectElemMatch_doc`,
  `projectCondition_eq`); the Go arithmetic of `$slice` is MongoDB's window (`sliced_count`,
  `sliced_pair`).  The processing loop only grows the state (`PState.le`), so what an entry registers
  is still there at the end (`projProcess_mem`): the mixing check needs no more.  The final state of a
  flag-only projection has a closed form (`PState.withFlags`, `projProcess_flags`), from which the
  exclusion and inclusion results start.

  Strings: `String.splitOn` does not reduce in the kernel, so everything about dotted paths is
  stated over `Path = List String` with a hypothesis such as `splitPath p = [p]`; the concrete
  instances are checked by `#guard` tests in Props/C14.lean.
-/
import Lungo.Model.Project
import Lungo.Proofs.CompareLaws
import Lungo.Proofs.AccessLaws
namespace Lungo

/-- the state after registering overlay `x` at `path` (Go: `state.overlay(path, x)`) -/
def PState.overlay (s : PState) (path : String) (x : V) : PState :=
  { s with merge := mergeSet s.merge path x }

/-! ## §1 `$slice` -/

/-- the contiguous window `(start, len)` of a list -/
def window (a : List V) (w : Nat × Nat) : List V := (a.drop w.1).take w.2

/-- MongoDB's `$slice: k` window `(start, len)` on an array of length `n`:
    first `min k n` for `k > 0`, last `min (-k) n` for `k < 0`, nothing for `0`. -/
def countWindow (n : Nat) (k : Int) : Nat × Nat :=
  if k > 0 then (0, min k.toNat n)
  else if k < 0 then (n - min (-k).toNat n, min (-k).toNat n)
  else (0, 0)

/-- MongoDB's `$slice: [s, l]` start: `s ≥ 0` from the front (clamped to `n`), `s < 0` from the end
    (clamped to 0; `Int.toNat` of a negative number is 0). -/
def pairStart (n : Nat) (s : Int) : Nat := if s < 0 then (n + s).toNat else min s.toNat n
/-- … and length: `l` elements, clamped to what is left. -/
def pairLen (n : Nat) (s l : Int) : Nat := min l.toNat (n - pairStart n s)

theorem count_bounds (n : Nat) (k : Int) : (countWindow n k).1 + (countWindow n k).2 ≤ n := by
  simp only [countWindow]; split
  · simp only; omega
  · split <;> simp only <;> omega

theorem pair_bounds (n : Nat) (s l : Int) : pairStart n s + pairLen n s l ≤ n := by
  simp only [pairLen, pairStart]; split <;> omega

/-- the argument of `$slice`, parsed: `(skip, limit, pair form?)` -/
def sliceArg (v : V) : Res (Int × Int × Bool) :=
  match v with
  | .arr [a, b] =>
    match sliceInt a, sliceInt b with
    | some sk, some l => if l < 0 then .error .err else .ok (sk, l, true)
    | _, _ => .error .err
  | .arr _ => .error .err
  | _ => match sliceInt v with
    | some l => .ok (0, l, false)
    | none => .error .err

/-- the part of the array that `$slice` keeps, as the Go code computes it -/
def sliced (a : List V) (skip limit : Int) (pair : Bool) : List V :=
  let n : Int := a.length
  if pair then
    let start : Int := if skip < 0 then (if n + skip < 0 then 0 else n + skip) else (if skip > n then n else skip)
    let stop : Int := if limit < n - start then start + limit else n
    (a.drop start.toNat).take (stop - start).toNat
  else if limit > 0 then (if limit < n then a.take limit.toNat else a)
  else if limit < 0 then (if limit > -n then a.drop (n + limit).toNat else a)
  else []

/-- `projectSlice`: validate the argument, then overlay the kept part of an array; anything else at
    the path is left alone. -/
theorem projectSlice_eq (s : PState) (d : Doc) (path : String) (v : V) :
    projectSlice s d path v = match sliceArg v with
      | .error e => .error e
      | .ok (skip, limit, pair) =>
        match Get d path with
        | .arr a => .ok (s.overlay path (.arr (sliced a skip limit pair)))
        | _ => .ok s := by
  unfold projectSlice
  show (match sliceArg v with | .error e => _ | .ok (skip, limit, hasSkip) => _) = _
  cases sliceArg v with
  | error e => rfl
  | ok r =>
    obtain ⟨skip, limit, pair⟩ := r
    show (match Get d path with | .arr array => _ | _ => _) = (match Get d path with | .arr a => _ | _ => _)
    generalize Get d path = g
    cases g with
    | arr a =>
      show _ = Except.ok (s.overlay path (.arr (sliced a skip limit pair)))
      unfold sliced PState.overlay
      cases pair with
      | true => rfl
      | false =>
        simp only [Bool.false_eq_true, ↓reduceIte]
        split
        · rfl
        · split <;> rfl
    | _ => rfl

theorem sliceArg_count {v : V} {k : Int} (hk : sliceInt v = some k) : sliceArg v = .ok (0, k, false) := by
  cases v <;> simp only [sliceInt, reduceCtorEq] at hk <;> simp only [sliceArg, sliceInt, hk]

theorem sliceArg_pair {va vb : V} {sk l : Int} (hs : sliceInt va = some sk) (hl : sliceInt vb = some l) :
    sliceArg (.arr [va, vb]) = if l < 0 then .error .err else .ok (sk, l, true) := by
  simp only [sliceArg, hs, hl]

theorem sliced_count (a : List V) (sk k : Int) : sliced a sk k false = window a (countWindow a.length k) := by
  simp only [sliced, window, countWindow, Bool.false_eq_true, ↓reduceIte]
  split
  · rw [List.drop_zero, ← List.take_eq_take_min]
    split
    · rfl
    · rw [List.take_of_length_le (by omega)]
  · split
    · rw [List.take_of_length_le (by rw [List.length_drop]; omega)]
      split
      · congr 1; omega
      · rw [show a.length - min (-k).toNat a.length = 0 by omega]; rfl
    · rfl

/-- the Go code's `start` is `pairStart` … -/
theorem pairStart_cast (n : Nat) (s : Int) :
    (if s < 0 then (if (n : Int) + s < 0 then 0 else (n : Int) + s) else (if s > n then (n : Int) else s)) =
      (pairStart n s : Int) := by
  unfold pairStart; split <;> split <;> omega

/-- … and `stop - start` is `pairLen` -/
theorem pairLen_cast (n p : Nat) (l : Int) (hp : p ≤ n) (hl : 0 ≤ l) :
    ((if l < (n : Int) - p then (p : Int) + l else n) - p).toNat = min l.toNat (n - p) := by
  omega

theorem sliced_pair (a : List V) (sk l : Int) (hl : 0 ≤ l) :
    sliced a sk l true = window a (pairStart a.length sk, pairLen a.length sk l) := by
  have hp := Nat.le_trans (Nat.le_add_right _ _) (pair_bounds a.length sk l)
  simp only [sliced, window, pairLen, ↓reduceIte, pairStart_cast, Int.toNat_natCast, pairLen_cast _ _ l hp hl]

theorem projectSlice_count (s : PState) (d : Doc) (path : String) (v : V) (k : Int) (a : List V)
    (hk : sliceInt v = some k) (ha : Get d path = .arr a) :
    projectSlice s d path v = .ok (s.overlay path (.arr (window a (countWindow a.length k)))) := by
  simp only [projectSlice_eq, sliceArg_count hk, ha, sliced_count]

theorem projectSlice_pair (s : PState) (d : Doc) (path : String) (va vb : V) (sk l : Int) (a : List V)
    (hs : sliceInt va = some sk) (hl : sliceInt vb = some l) (hl0 : 0 ≤ l) (ha : Get d path = .arr a) :
    projectSlice s d path (.arr [va, vb]) =
      .ok (s.overlay path (.arr (window a (pairStart a.length sk, pairLen a.length sk l)))) := by
  simp only [projectSlice_eq, sliceArg_pair hs hl, if_neg (Int.not_lt.mpr hl0), ha, sliced_pair a sk l hl0]

/-! ## §2 `$elemMatch` -/

/-- a query made of field conditions only (no operator key) applies to embedded documents only:
    other elements are not eligible and are skipped without evaluating the query -/
def elemEligible (query : Doc) (item : V) : Bool :=
  !((query.all fun (k, _) => !isOpKey k) && !item.isDoc)

/-- the query of a projection `$elemMatch` on one array element: "not matched" for an element that
    is not eligible, else the query evaluated on the virtual document `{item: x}` -/
def elemMatches (sch : SchemaEval) (query : Doc) (item : V) : Res Unit :=
  if elemEligible query item then mProcess sch [("item", item)] query "item" false
  else .error .notMatched

theorem firstElemMatch_cons (sch : SchemaEval) (query : Doc) (item : V) (r : List V) :
    firstElemMatch sch query (item :: r) =
      match elemMatches sch query item with
      | .error .notMatched => firstElemMatch sch query r
      | .error e => .error e
      | .ok _ => .ok (some item) := by
  rw [firstElemMatch]
  unfold elemMatches elemEligible
  cases (query.all fun x => !isOpKey x.fst) && !item.isDoc
  · rfl
  · rfl

/-- does the element end the search (a match or an error)? -/
def elemDecides (sch : SchemaEval) (query : Doc) (item : V) : Bool :=
  match elemMatches sch query item with
  | .error .notMatched => false
  | _ => true

/-- the search stops at the first element whose verdict is not "not matched" -/
theorem firstElemMatch_eq (sch : SchemaEval) (query : Doc) (arr : List V) :
    firstElemMatch sch query arr =
      match arr.find? (elemDecides sch query) with
      | none => .ok none
      | some x => match elemMatches sch query x with
        | .ok _ => .ok (some x)
        | .error e => .error e := by
  induction arr with
  | nil => rfl
  | cons item r ih =>
    rw [firstElemMatch_cons, List.find?_cons, elemDecides, ih]
    split <;> simp_all

theorem elemDecides_eq_false {sch : SchemaEval} {query : Doc} {y : V} :
    elemDecides sch query y = false ↔ elemMatches sch query y = .error .notMatched := by
  unfold elemDecides; split <;> simp_all

/-- `List.find?` for `elemDecides`: the elements before the one found are all "not matched" -/
theorem find?_elemDecides {sch : SchemaEval} {query : Doc} {arr : List V} {x : V} :
    arr.find? (elemDecides sch query) = some x ↔ elemDecides sch query x = true ∧
      ∃ pre post, arr = pre ++ x :: post ∧ ∀ y ∈ pre, elemMatches sch query y = .error .notMatched := by
  simp only [List.find?_eq_some_iff_append, Bool.not_eq_true', elemDecides_eq_false]

theorem firstElemMatch_some {sch : SchemaEval} {query : Doc} {arr : List V} {x : V} :
    firstElemMatch sch query arr = .ok (some x) ↔
      ∃ pre post, arr = pre ++ x :: post ∧ (∀ y ∈ pre, elemMatches sch query y = .error .notMatched) ∧
        elemMatches sch query x = .ok () := by
  rw [firstElemMatch_eq]
  constructor
  · intro h
    split at h
    · cases h
    · next z hz =>
      obtain ⟨_, pre, post, e, hp⟩ := find?_elemDecides.mp hz
      split at h <;> cases h
      exact ⟨pre, post, e, hp, by assumption⟩
  · rintro ⟨pre, post, e, hp, hx⟩
    rw [find?_elemDecides.mpr ⟨by simp [elemDecides, hx], pre, post, e, hp⟩]
    simp only [hx]

theorem firstElemMatch_none {sch : SchemaEval} {query : Doc} {arr : List V} :
    firstElemMatch sch query arr = .ok none ↔
      ∀ y ∈ arr, elemMatches sch query y = .error .notMatched := by
  rw [firstElemMatch_eq]
  constructor
  · intro h
    split at h
    · next hn =>
      exact fun y hy => elemDecides_eq_false.mp (by simpa using List.find?_eq_none.mp hn y hy)
    · split at h <;> cases h
  · intro h
    rw [List.find?_eq_none.mpr fun y hy => by simpa using elemDecides_eq_false.mpr (h y hy)]

theorem firstElemMatch_error {sch : SchemaEval} {query : Doc} {arr : List V} {e : Err} :
    firstElemMatch sch query arr = .error e ↔
      ∃ pre x post, arr = pre ++ x :: post ∧ (∀ y ∈ pre, elemMatches sch query y = .error .notMatched) ∧
        elemMatches sch query x = .error e ∧ e ≠ .notMatched := by
  rw [firstElemMatch_eq]
  constructor
  · intro h
    split at h
    · cases h
    · next z hz =>
      obtain ⟨hd, pre, post, e', hp⟩ := find?_elemDecides.mp hz
      split at h <;> cases h
      next hx =>
      refine ⟨pre, z, post, e', hp, hx, ?_⟩
      rintro rfl
      rw [elemDecides_eq_false.mpr hx] at hd
      cases hd
  · rintro ⟨pre, x, post, e', hp, hx, hne⟩
    rw [find?_elemDecides.mpr ⟨by unfold elemDecides; rw [hx]; split <;> simp_all, pre, post, e', hp⟩]
    simp only [hx]

/-- `$elemMatch` marks its path as included-but-not-copied -/
def PState.elemMatchMark (s : PState) (path : String) : PState :=
  { s with includes := s.includes ++ [path], skip := s.skip ++ [path] }

/-- `projectElemMatch` on a query document: the path is marked; the overlay is `[x]` for the first
    matching element of an array, and absent if nothing matches or the value is not an array. -/
theorem projectElemMatch_doc (sch : SchemaEval) (s : PState) (d : Doc) (path : String) (query : Doc) :
    projectElemMatch sch s d path (.doc query) =
      match Get d path with
      | .arr a =>
        match firstElemMatch sch query a with
        | .error e => .error e
        | .ok none => .ok (s.elemMatchMark path)
        | .ok (some x) => .ok ((s.elemMatchMark path).overlay path (.arr [x]))
      | _ => .ok (s.elemMatchMark path) := rfl

theorem projectElemMatch_nondoc (sch : SchemaEval) (s : PState) (d : Doc) (path : String) (v : V)
    (hv : ∀ q, v ≠ .doc q) : projectElemMatch sch s d path v = .error .err := by
  unfold projectElemMatch
  split
  · next q => exact absurd rfl (hv q)
  · rfl

/-! ## §3 the processing loop -/

/-- the meaning of a projection flag: a boolean, or a number (of any numeric type) equal to 1 / 0 -/
def flagOf (v : V) : Option Bool :=
  match v with
  | .bool b => some b
  | _ => if V.cmp v (.i64 1) == .eq then some true
         else if V.cmp v (.i64 0) == .eq then some false else none

/-- registering a flag -/
def flagStep (s : PState) (path : String) (b : Bool) : PState :=
  if b then { s with includes := s.includes ++ [path] }
  else if path == "_id" then { s with hideID := true }
  else { s with excludes := s.excludes ++ [path] }

theorem projectCondition_eq (s : PState) (path : String) (v : V) :
    projectCondition s path v = match flagOf v with
      | some b => .ok (flagStep s path b)
      | none => .error .err := by
  -- the registration of a decoded flag, as `projectCondition` writes it
  have reg : ∀ b : Bool, (if b then Except.ok { s with includes := s.includes ++ [path] }
      else if path == "_id" then .ok { s with hideID := true }
      else .ok { s with excludes := s.excludes ++ [path] }) = (.ok (flagStep s path b) : Res PState) := by
    intro b; unfold flagStep; cases b
    · show (if (path == "_id") = true then _ else _) = _; split <;> rfl
    · rfl
  -- a numeric flag, by the outcomes of the two comparisons
  have num : ∀ c1 c0 : Bool,
      (match (if c1 then .ok true else if c0 then .ok false else .error .err : Res Bool) with
        | .error e => .error e
        | .ok isInc =>
          if isInc then Except.ok { s with includes := s.includes ++ [path] }
          else if path == "_id" then .ok { s with hideID := true }
          else .ok { s with excludes := s.excludes ++ [path] }) =
      (match (if c1 then some true else if c0 then some false else none) with
        | some b => .ok (flagStep s path b)
        | none => .error .err : Res PState) := by
    intro c1 c0; cases c1 <;> cases c0 <;> first | rfl | exact reg _
  unfold projectCondition flagOf
  -- generalised before the case split on `v`, which would otherwise unfold `V.cmp` at every constructor
  generalize (V.cmp v (.i64 1) == .eq) = c1
  generalize (V.cmp v (.i64 0) == .eq) = c0
  cases v with
  | bool b => exact reg b
  | _ => exact num c1 c0

theorem flagOf_doc (fs : List (String × V)) : flagOf (.doc fs) = none := by
  have h1 : V.cmp (.doc fs) (.i64 1) = .gt := V.cmp_of_rank_gt (by simp [V.cls, Class.rank])
  have h0 : V.cmp (.doc fs) (.i64 0) = .gt := V.cmp_of_rank_gt (by simp [V.cls, Class.rank])
  simp [flagOf, h1, h0]

/-- one entry of the projection document (the loop body of `Process` in the projection context) -/
def projEntry (sch : SchemaEval) (s : PState) (d : Doc) (key : String) (value : V) : Res PState :=
  if isOpKey key then .error .err
  else match value with
    | .doc ((k0, v0) :: exps) =>
      if isOpKey k0 then projOps sch s d key ((k0, v0) :: exps)
      else projectCondition s key value
    | _ => projectCondition s key value

theorem projProcess_nil (sch : SchemaEval) (s : PState) (d : Doc) : projProcess sch s d [] = .ok s := rfl

theorem projProcess_cons (sch : SchemaEval) (s : PState) (d : Doc) (key : String) (value : V)
    (r : List (String × V)) :
    projProcess sch s d ((key, value) :: r) =
      match projEntry sch s d key value with
      | .error e => .error e
      | .ok s' => projProcess sch s' d r := rfl

theorem projEntry_key {sch : SchemaEval} {s s' : PState} {d : Doc} {key : String} {value : V}
    (h : projEntry sch s d key value = .ok s') : isOpKey key = false := by
  unfold projEntry at h
  split at h
  · cases h
  · next hk => exact Bool.eq_false_iff.mpr hk

theorem projEntry_flag (sch : SchemaEval) (s : PState) (d : Doc) (key : String) (value : V) (b : Bool)
    (hk : isOpKey key = false) (hf : flagOf value = some b) :
    projEntry sch s d key value = .ok (flagStep s key b) := by
  have : projEntry sch s d key value = projectCondition s key value := by
    simp only [projEntry, hk, Bool.false_eq_true, ↓reduceIte]
    split
    · next k0 v0 exps => rw [flagOf_doc] at hf; cases hf
    · rfl
  rw [this, projectCondition_eq, hf]

theorem projEntry_op (sch : SchemaEval) (s : PState) (d : Doc) (key op : String) (arg : V)
    (hk : isOpKey key = false) (hop : isOpKey op = true) :
    projEntry sch s d key (.doc [(op, arg)]) = projOp sch s d op key arg := by
  simp only [projEntry, hk, hop, Bool.false_eq_true, ↓reduceIte, projOps, Bool.not_true]
  cases projOp sch s d op key arg <;> rfl

theorem projOp_slice (sch : SchemaEval) (s : PState) (d : Doc) (path : String) (v : V) :
    projOp sch s d "$slice" path v = projectSlice s d path v := by
  simp only [projOp, show ("$slice" == "") = false by decide, beq_self_eq_true, Bool.false_eq_true, ↓reduceIte]

theorem projOp_elemMatch (sch : SchemaEval) (s : PState) (d : Doc) (path : String) (v : V) :
    projOp sch s d "$elemMatch" path v = projectElemMatch sch s d path v := by
  simp only [projOp, show ("$elemMatch" == "") = false by decide,
    show ("$elemMatch" == "$slice") = false by decide, beq_self_eq_true, Bool.false_eq_true, ↓reduceIte]

/-- the state only grows: earlier registrations stay, in place -/
structure PState.le (s s' : PState) : Prop where
  inc : s.includes <+: s'.includes
  exc : s.excludes <+: s'.excludes
  hide : s.hideID = true → s'.hideID = true

theorem PState.le_refl (s : PState) : s.le s := ⟨List.prefix_refl _, List.prefix_refl _, id⟩
theorem PState.le_trans {a b c : PState} (h1 : a.le b) (h2 : b.le c) : a.le c :=
  ⟨h1.inc.trans h2.inc, h1.exc.trans h2.exc, fun h => h2.hide (h1.hide h)⟩

theorem PState.le_overlay (s : PState) (path : String) (x : V) : s.le (s.overlay path x) :=
  ⟨List.prefix_refl _, List.prefix_refl _, id⟩

theorem PState.le_elemMatchMark (s : PState) (path : String) : s.le (s.elemMatchMark path) :=
  ⟨List.prefix_append _ _, List.prefix_refl _, id⟩

theorem flagStep_le (s : PState) (path : String) (b : Bool) : s.le (flagStep s path b) := by
  unfold flagStep
  split
  · exact ⟨List.prefix_append _ _, List.prefix_refl _, id⟩
  · split
    · exact ⟨List.prefix_refl _, List.prefix_refl _, fun _ => rfl⟩
    · exact ⟨List.prefix_refl _, List.prefix_append _ _, id⟩

theorem projectCondition_le {s s' : PState} {path : String} {v : V}
    (h : projectCondition s path v = .ok s') : s.le s' := by
  rw [projectCondition_eq] at h
  split at h <;> cases h
  exact flagStep_le _ _ _

theorem projectSlice_le {s s' : PState} {d : Doc} {path : String} {v : V}
    (h : projectSlice s d path v = .ok s') : s.le s' := by
  rw [projectSlice_eq] at h
  split at h
  · cases h
  · split at h <;> cases h
    · exact s.le_overlay _ _
    · exact s.le_refl

theorem projectElemMatch_le {sch : SchemaEval} {s s' : PState} {d : Doc} {path : String} {v : V}
    (h : projectElemMatch sch s d path v = .ok s') : (s.elemMatchMark path).le s' := by
  cases v with
  | doc query =>
    rw [projectElemMatch_doc] at h
    split at h
    · split at h <;> cases h
      · exact PState.le_refl _
      · exact PState.le_overlay _ _ _
    · cases h; exact PState.le_refl _
  | _ => cases h

theorem projOp_le {sch : SchemaEval} {s s' : PState} {d : Doc} {op path : String} {v : V}
    (h : projOp sch s d op path v = .ok s') : s.le s' := by
  unfold projOp at h
  split at h
  · exact projectCondition_le h
  · split at h
    · exact projectSlice_le h
    · split at h
      · exact PState.le_trans (s.le_elemMatchMark path) (projectElemMatch_le h)
      · cases h

theorem projOps_le {sch : SchemaEval} {d : Doc} {path : String} (ops : List (String × V)) :
    ∀ {s s' : PState}, projOps sch s d path ops = .ok s' → s.le s' := by
  induction ops with
  | nil => intro s s' h; cases h; exact s.le_refl
  | cons kv r ih =>
    obtain ⟨k, v⟩ := kv
    intro s s' h
    unfold projOps at h
    split at h
    · cases h
    · split at h
      · cases h
      · next s1 h1 => exact PState.le_trans (projOp_le h1) (ih h)

theorem projEntry_le {sch : SchemaEval} {s s' : PState} {d : Doc} {key : String} {value : V}
    (h : projEntry sch s d key value = .ok s') : s.le s' := by
  unfold projEntry at h
  split at h
  · cases h
  · split at h
    · split at h
      · exact projOps_le _ h
      · exact projectCondition_le h
    · exact projectCondition_le h

theorem projProcess_le {sch : SchemaEval} {d : Doc} (proj : List (String × V)) :
    ∀ {s s' : PState}, projProcess sch s d proj = .ok s' → s.le s' := by
  induction proj with
  | nil => intro s s' h; cases h; exact s.le_refl
  | cons kv r ih =>
    obtain ⟨k, v⟩ := kv
    intro s s' h
    rw [projProcess_cons] at h
    split at h
    · cases h
    · next s1 h1 => exact PState.le_trans (projEntry_le h1) (ih h)

/-- every entry of an accepted projection was run, and what it registered is still there at the end -/
theorem projProcess_mem {sch : SchemaEval} {d : Doc} {key : String} {value : V} (proj : List (String × V)) :
    ∀ {s s' : PState}, projProcess sch s d proj = .ok s' → (key, value) ∈ proj →
      ∃ s0 s1, projEntry sch s0 d key value = .ok s1 ∧ s1.le s' := by
  induction proj with
  | nil => intro _ _ _ hm; cases hm
  | cons kv r ih =>
    obtain ⟨k, v⟩ := kv
    intro s s' h hm
    rw [projProcess_cons] at h
    split at h
    · cases h
    · next s1 h1 =>
      rcases List.mem_cons.mp hm with e | hm'
      · cases e; exact ⟨s, s1, h1, projProcess_le r h⟩
      · exact ih h hm'

/-- an accepted projection has no operator key at the top level -/
theorem projProcess_keys {sch : SchemaEval} {d : Doc} {proj : List (String × V)} {s s' : PState}
    (h : projProcess sch s d proj = .ok s') : ∀ kv ∈ proj, isOpKey kv.1 = false := fun kv hkv => by
  obtain ⟨_, _, h1, _⟩ := projProcess_mem (key := kv.1) (value := kv.2) proj h hkv
  exact projEntry_key h1

theorem projProcess_registers {sch : SchemaEval} {d : Doc} {proj : List (String × V)} {s s' : PState}
    (h : projProcess sch s d proj = .ok s') {p : String} {v : V} {b : Bool} (hm : (p, v) ∈ proj)
    (hf : flagOf v = some b) :
    (b = true → p ∈ s'.includes) ∧ (b = false → p ≠ "_id" → p ∈ s'.excludes) ∧
    (b = false → p = "_id" → s'.hideID = true) := by
  obtain ⟨s0, s1, h1, hle⟩ := projProcess_mem proj h hm
  rw [projEntry_flag sch s0 d p v b (projEntry_key h1) hf] at h1
  cases h1
  refine ⟨fun hb => ?_, fun hb hne => ?_, fun hb he => ?_⟩ <;> subst hb
  · exact hle.inc.subset (by simp [flagStep])
  · exact hle.exc.subset (by simp [flagStep, hne])
  · subst he; exact hle.hide (by simp [flagStep])

theorem projProcess_elemMatch_includes {sch : SchemaEval} {d : Doc} {proj : List (String × V)} {s s' : PState}
    (h : projProcess sch s d proj = .ok s') {p : String} {q : V} (hop : isOpKey "$elemMatch" = true)
    (hm : (p, .doc [("$elemMatch", q)]) ∈ proj) : p ∈ s'.includes := by
  obtain ⟨s0, s1, h1, hle⟩ := projProcess_mem proj h hm
  rw [projEntry_op sch s0 d p _ q (projEntry_key h1) hop, projOp_elemMatch] at h1
  exact hle.inc.subset ((projectElemMatch_le h1).inc.subset (by simp [PState.elemMatchMark]))

/-- `Project` after a successful processing loop (the part of mongokit.Project after `Process`) -/
def projectFinish (d : Doc) (st : PState) : Res Doc :=
  if !st.includes.isEmpty && !st.excludes.isEmpty then .error .err else
  let base : Res Doc :=
    if !st.includes.isEmpty then
      match Put [] ["_id"] (Get d "_id") false with
      | .error e => .error e
      | .ok (res, _) =>
        let copies := (st.includes.filter fun p => !st.skip.contains p).filterMap fun p =>
          let v := Get d p
          if v.isMissing then none else some (p, v)
        putAll res copies
    else
      .ok (st.excludes.foldl (fun acc p => (Unset acc (splitPath p)).1) d)
  match base with
  | .error e => .error e
  | .ok res =>
    match putAll res st.merge with
    | .error e => .error e
    | .ok res => .ok (if st.hideID then (Unset res ["_id"]).1 else res)

/-- the order of checks in `Project`: first the projection document is processed entry by entry
    (any operator error surfaces here), then the mixing check, then the copy/unset phase. -/
theorem Project_eq (sch : SchemaEval) (d proj : Doc) :
    Project sch d proj = match projProcess sch {} d proj with
      | .error e => .error e
      | .ok st => projectFinish d st := rfl

/-- the mixing check: an inclusion and an exclusion together are an error -/
theorem projectFinish_mix (d : Doc) {st : PState} {pi pe : String} (hi : pi ∈ st.includes)
    (he : pe ∈ st.excludes) : projectFinish d st = .error .err := by
  have e1 : st.includes.isEmpty = false := by cases hh : st.includes <;> simp_all
  have e2 : st.excludes.isEmpty = false := by cases hh : st.excludes <;> simp_all
  simp [projectFinish, e1, e2]

/-! ## §4 flag-only projections; exclusion results -/

/-- the flags of a flag-only projection document -/
def flagsOf (proj : List (String × V)) : List (String × Bool) :=
  proj.map fun kv => (kv.1, (flagOf kv.2).getD false)

/-- the state after registering a list of flags, in closed form -/
def PState.withFlags (s : PState) (flags : List (String × Bool)) : PState :=
  { s with
    hideID := s.hideID || flags.any (fun pb => !pb.2 && pb.1 == "_id")
    includes := s.includes ++ (flags.filter (·.2)).map (·.1)
    excludes := s.excludes ++ (flags.filter (fun pb => !pb.2 && pb.1 != "_id")).map (·.1) }

theorem PState.withFlags_cons (s : PState) (p : String) (b : Bool) (r : List (String × Bool)) :
    s.withFlags ((p, b) :: r) = (flagStep s p b).withFlags r := by
  cases b
  · by_cases hp : p = "_id"
    · simp [PState.withFlags, flagStep, hp]
    · have hp' : (p == "_id") = false := by simpa using hp
      simp [PState.withFlags, flagStep, hp, hp']
  · simp [PState.withFlags, flagStep]

theorem projProcess_flags (sch : SchemaEval) (d : Doc) (proj : List (String × V))
    (hk : ∀ kv ∈ proj, isOpKey kv.1 = false ∧ (flagOf kv.2).isSome = true) :
    ∀ s, projProcess sch s d proj = .ok (s.withFlags (flagsOf proj)) := by
  induction proj with
  | nil => intro s; simp [PState.withFlags, flagsOf, projProcess]
  | cons kv r ih =>
    obtain ⟨k, v⟩ := kv
    intro s
    have h := hk (k, v) (by simp)
    obtain ⟨b, hb⟩ := Option.isSome_iff_exists.mp h.2
    rw [projProcess_cons, projEntry_flag sch s d k v b h.1 hb]
    simp only [flagsOf, List.map_cons, hb, Option.getD_some, PState.withFlags_cons]
    exact ih (fun kv hkv => hk kv (by simp [hkv])) _

/-- if every exclusion flag sits on `_id`, no exclusion is registered -/
theorem flagsOf_excludes_nil (proj : List (String × V))
    (hk : ∀ kv ∈ proj, (flagOf kv.2).isSome = true)
    (hex : ∀ kv ∈ proj, flagOf kv.2 = some false → kv.1 = "_id") :
    ((flagsOf proj).filter (fun pb => !pb.2 && pb.1 != "_id")).map (·.1) = [] := by
  simp only [List.map_eq_nil_iff, List.filter_eq_nil_iff]
  intro pb hpb
  obtain ⟨kv, hkv, rfl⟩ := List.mem_map.mp hpb
  cases hf : flagOf kv.2 with
  | none => have := hk kv hkv; simp [hf] at this
  | some b =>
    cases b
    · simp [hex kv hkv hf]
    · simp

theorem flagsOf_all_false (proj : List (String × V)) (h : ∀ kv ∈ proj, flagOf kv.2 = some false) :
    flagsOf proj = proj.map fun kv => (kv.1, false) :=
  List.map_congr_left fun kv hkv => by rw [h kv hkv]; rfl

theorem putAll_nil (res : Doc) : putAll res [] = .ok res := rfl

/-- an exclusion-only projection: unset the excluded paths one after the other on (a copy of) the
    document; `_id: 0` additionally removes `_id` at the end -/
theorem exclusion_project (sch : SchemaEval) (d proj : Doc)
    (hk : ∀ kv ∈ proj, isOpKey kv.1 = false ∧ flagOf kv.2 = some false) :
    Project sch d proj = .ok
      (let r := ((proj.map (·.1)).filter (· != "_id")).foldl (fun acc p => (Unset acc (splitPath p)).1) d
       if proj.any (·.1 == "_id") then (Unset r ["_id"]).1 else r) := by
  have hfl := flagsOf_all_false proj fun kv hkv => (hk kv hkv).2
  have st : ({} : PState).withFlags (proj.map fun kv => (kv.1, false)) =
      { hideID := proj.any (·.1 == "_id"), excludes := (proj.map (·.1)).filter (· != "_id") } := by
    have hinc : (proj.map fun kv => (kv.1, false)).filter (·.2) = [] := List.filter_eq_nil_iff.mpr (by simp)
    simp only [PState.withFlags, hinc, List.filter_map, List.map_map, List.any_map, List.nil_append,
      Bool.false_or, List.map_nil]
    congr 1
  rw [Project_eq, projProcess_flags sch d proj (fun kv hkv => ⟨(hk kv hkv).1, by rw [(hk kv hkv).2]; rfl⟩), hfl, st]
  rfl

/-- unsetting a top-level field removes the first field of that name (and nothing else) -/
theorem Unset_single (d : Doc) (k : String) (hk : k ≠ "") : (Unset d [k]).1 = d.eraseP (·.1 == k) := by
  rw [Unset_eq, put_cons, put_nil]
  cases hf : Doc.find? d k with
  | none => simp [admitsPut, hf, V.isMissing, erase_of_find_none hf]
  | some w => simp [admitsPut, store, hf, hk, V.isMissing]

/-- `_id` is not the empty string (a fact about string literals; by evaluation) -/
theorem id_ne_empty : "_id" ≠ "" := by decide

theorem eraseP_key_eq_filter (d : Doc) (k : String) (nd : (d.map (·.1)).Nodup) :
    d.eraseP (·.1 == k) = d.filter (fun kv => kv.1 != k) := by
  induction d with
  | nil => rfl
  | cons kv r ih =>
    simp only [List.map_cons, List.nodup_cons] at nd
    rw [List.eraseP_cons, List.filter_cons]
    by_cases h : kv.1 = k
    · have hn : ∀ x ∈ r, (x.1 != k) = true := by
        intro x hx
        have : x.1 ≠ k := fun e => nd.1 (by rw [h, ← e]; exact List.mem_map_of_mem hx)
        simpa using this
      simp [h, List.filter_eq_self.mpr hn]
    · have : (kv.1 == k) = false := by simpa using h
      simp [this, ih nd.2, h]

/-- unsetting top-level fields one after the other, on a document with distinct field names, keeps
    exactly the fields not named -/
theorem foldl_Unset_top (ks : List String) (hne : ∀ k ∈ ks, k ≠ "") : ∀ (d : Doc), (d.map (·.1)).Nodup →
    ks.foldl (fun acc k => (Unset acc [k]).1) d = d.filter (fun kv => !ks.contains kv.1) := by
  induction ks with
  | nil => intro d _; exact (List.filter_eq_self.mpr (by simp)).symm
  | cons k r ih =>
    intro d nd
    rw [List.foldl_cons, Unset_single d k (hne k (by simp)), eraseP_key_eq_filter d k nd,
      ih (fun q hq => hne q (by simp [hq])) _ (nd.sublist ((List.filter_sublist).map _)), List.filter_filter]
    apply List.filter_congr
    intro kv _
    by_cases h : kv.1 = k <;> simp [h, bne]

/-- top-level exclusion on a document with distinct field names: exactly the fields not named in the
    projection remain, in their stored order, with their stored values -/
theorem exclusion_toplevel (sch : SchemaEval) (d proj : Doc)
    (hk : ∀ kv ∈ proj, isOpKey kv.1 = false ∧ flagOf kv.2 = some false)
    (hs : ∀ kv ∈ proj, splitPath kv.1 = [kv.1] ∧ kv.1 ≠ "")
    (nd : (d.map (·.1)).Nodup) :
    Project sch d proj = .ok (d.filter fun kv => !(proj.map (·.1)).contains kv.1) := by
  rw [exclusion_project sch d proj hk]
  -- the unset phase as one fold over single-segment paths: the named fields other than `_id`, then `_id`
  let ks := (proj.map (·.1)).filter (· != "_id") ++ (if proj.any (·.1 == "_id") then ["_id"] else [])
  have hks : ∀ k, k ∈ ks ↔ k ∈ proj.map (·.1) := by
    intro k
    by_cases hid : k = "_id"
    · subst hid; simp [ks, List.any_eq_true]
    · cases proj.any (·.1 == "_id") <;> simp [ks, hid]
  have hfold : (let r := ((proj.map (·.1)).filter (· != "_id")).foldl (fun acc p => (Unset acc (splitPath p)).1) d
      if proj.any (·.1 == "_id") then (Unset r ["_id"]).1 else r) = ks.foldl (fun acc k => (Unset acc [k]).1) d := by
    have h1 : ∀ (l : List String), (∀ p ∈ l, p ∈ proj.map (·.1)) → ∀ d : Doc,
        l.foldl (fun acc p => (Unset acc (splitPath p)).1) d = l.foldl (fun acc k => (Unset acc [k]).1) d := by
      intro l
      induction l with
      | nil => intro _ _; rfl
      | cons p r ih =>
        intro hl d
        obtain ⟨kv, hkv, rfl⟩ := List.mem_map.mp (hl p (by simp))
        rw [List.foldl_cons, List.foldl_cons, (hs kv hkv).1]
        exact ih (fun q hq => hl q (by simp [hq])) _
    simp only [ks, List.foldl_append, h1 _ (fun p hp => (List.mem_filter.mp hp).1)]
    cases proj.any (·.1 == "_id") <;> rfl
  rw [hfold, foldl_Unset_top ks (fun k hk' => ?_) d nd]
  · congr 1
    apply List.filter_congr
    intro kv _
    rw [Bool.eq_iff_iff]
    simp [hks]
  · obtain ⟨kv, hkv, rfl⟩ := List.mem_map.mp ((hks k).mp hk')
    exact (hs kv hkv).2

/-! ## §5 flag-only inclusion: the copy phase -/

theorem filterMap_present (d : Doc) (ps : List String) :
    (ps.filterMap fun p => if (Get d p).isMissing then none else some (p, Get d p)) =
      (ps.filter fun p => !(Get d p).isMissing).map fun p => (p, Get d p) := by
  induction ps with
  | nil => rfl
  | cons p r ih =>
    simp only [List.filterMap_cons, List.filter_cons]
    cases h : (Get d p).isMissing <;> simp [ih]

/-- a flag-only inclusion projection (`_id: 0` allowed): `_id` is written first, then the included
    paths that are present in the document, in projection order, each with the value stored at it;
    `_id: 0` removes `_id` at the end -/
theorem inclusion_project (sch : SchemaEval) (d proj : Doc)
    (hk : ∀ kv ∈ proj, isOpKey kv.1 = false ∧ (flagOf kv.2).isSome = true)
    (hex : ∀ kv ∈ proj, flagOf kv.2 = some false → kv.1 = "_id")
    (hinc : ((flagsOf proj).filter (·.2)).map (·.1) ≠ []) :
    Project sch d proj =
      match Put [] ["_id"] (Get d "_id") false with
      | .error e => .error e
      | .ok (res, _) =>
        match putAll res (((((flagsOf proj).filter (·.2)).map (·.1)).filter
            fun p => !(Get d p).isMissing).map fun p => (p, Get d p)) with
        | .error e => .error e
        | .ok full => .ok (if (flagsOf proj).any (fun pb => !pb.2 && pb.1 == "_id")
            then (Unset full ["_id"]).1 else full) := by
  have e1 : (((flagsOf proj).filter (·.2)).map (·.1)).isEmpty = false := by
    cases hh : ((flagsOf proj).filter (·.2)).map (·.1) with
    | nil => exact absurd hh hinc
    | cons _ _ => rfl
  have hskip : ∀ l : List String, (l.filter fun p => !([] : List String).contains p) = l :=
    fun l => List.filter_eq_self.mpr (by simp)
  rw [Project_eq, projProcess_flags sch d proj hk {}]
  simp only [projectFinish, PState.withFlags, flagsOf_excludes_nil proj (fun kv hkv => (hk kv hkv).2) hex,
    List.nil_append, List.append_nil, e1, List.isEmpty_nil, Bool.not_false, Bool.not_true, Bool.and_false,
    Bool.false_eq_true, ↓reduceIte, Bool.false_or, hskip, filterMap_present]
  cases Put [] ["_id"] (Get d "_id") false with
  | error e => rfl
  | ok r =>
    obtain ⟨res, prev⟩ := r
    dsimp only
    cases putAll res _ <;> rfl

/-! ## §6 overlays: registration order -/

theorem mergeSet_keys (m : List (String × V)) (p : String) (v : V) :
    (mergeSet m p v).map (·.1) =
      if (m.map (·.1)).contains p then m.map (·.1) else m.map (·.1) ++ [p] := by
  have hany : m.any (·.1 == p) = (m.map (·.1)).contains p := by
    induction m with
    | nil => rfl
    | cons kv r ih => simp only [List.any_cons, List.map_cons, List.contains_cons, ih]; rw [BEq.comm]
  simp only [mergeSet, hany]
  split
  · rw [List.map_map]
    apply List.map_congr_left
    intro kv _
    obtain ⟨k, x⟩ := kv
    simp only [Function.comp]
    split <;> rfl
  · simp

/-- after registering `(p, v)` every entry at `p` holds `v` (last value wins) … -/
theorem mergeSet_same (m : List (String × V)) (p : String) (v : V) (x : V)
    (h : (p, x) ∈ mergeSet m p v) : x = v := by
  grind [mergeSet]

/-- … and the entries at other paths are untouched -/
theorem mergeSet_other (m : List (String × V)) (p : String) (v : V) (q : String) (x : V) (hq : q ≠ p) :
    (q, x) ∈ mergeSet m p v ↔ (q, x) ∈ m := by
  grind [mergeSet]

/-- `putAll` is a left-to-right fold -/
theorem putAll_append (res : Doc) (a b : List (String × V)) :
    putAll res (a ++ b) = match putAll res a with
      | .error e => .error e
      | .ok r => putAll r b := by
  induction a generalizing res with
  | nil => rfl
  | cons pv r ih =>
    obtain ⟨p, v⟩ := pv
    simp only [List.cons_append, putAll]
    split
    · rfl
    · exact ih _

/-! ## §7 the integer arguments are int64s -/

/-- Go's `int(x)` of a well-formed numeric `$slice` argument is an int64 -/
theorem sliceInt_range (v : V) (k : Int) (hw : v.wf = true) (hk : sliceInt v = some k) :
    i64Min ≤ k ∧ k ≤ i64Max := by
  cases v <;> simp only [sliceInt, Option.some.injEq, reduceCtorEq] at hk
  · next n =>
    subst hk
    simp only [V.wf, inI32, Bool.and_eq_true, i32Min, i32Max] at hw
    simp only [i64Min, i64Max]
    have h1 := of_decide_eq_true hw.1
    have h2 := of_decide_eq_true hw.2
    omega
  · next n =>
    subst hk
    simpa [V.wf, inI64] using hw
  · next b =>
    subst hk
    simp only [sliceInt.f64TruncInt']
    split
    · split
      · assumption
      · simp [i64Min, i64Max]
    · simp [i64Min, i64Max]

end Lungo
