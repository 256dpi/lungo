/-
  Lungo.Proofs.AtomicWrite — runs of the interpreter: termination within `bound`, the rules by which an
  invariant is carried along a run (`Tri`), the calls at machine level, the post-condition of a finished run
  (`Post`) and the failure exit.
-/
import Lungo.Model.AtomicWrite
import Lungo.Expected.AtomicWrite
import Lungo.Proofs.FS
namespace Lungo.AtomicWrite
open Lungo.FS

/-- the adversary injects at most one fault -/
def AtMostOne (f : Faults) : Prop := ∀ i j, f i ≠ none → f j ≠ none → i = j

/-- `j` is the first faulted system call at or after `j0` -/
def FirstFault (f : Faults) (j0 j : Nat) : Prop := j0 ≤ j ∧ f j ≠ none ∧ ∀ i, j0 ≤ i → i < j → f i = none

theorem singleFault_atMostOne (j : Nat) (ft : Fault) : AtMostOne (singleFault j ft) := by
  have h : ∀ i, singleFault j ft i ≠ none → i = j := fun i hi => Decidable.by_contra fun e => hi (if_neg e)
  exact fun a b ha hb => (h a ha).trans (h b hb).symm

theorem singleFault_first (j x : Nat) : FirstFault (singleFault j (some x)) 0 j :=
  ⟨Nat.zero_le _, by rw [singleFault, if_pos rfl]; nofun, fun i _ hi => if_neg (Nat.ne_of_lt hi)⟩

section
variable (path tmp : Name) (f : Faults)

theorem runUpTo_nil (fin : List Call) (k : Nat) (m : M) (j : Nat) :
    runUpTo path tmp f fin k [] m j = cleanupUpTo path tmp f k fin m j := by
  cases k <;> rfl

theorem cleanup_done : ∀ (cl : List Call) (k : Nat) (m : M) (j : Nat), cl.length ≤ k →
    (cleanupUpTo path tmp f k cl m j).2 = true
  | [], k, _, _, _ => by cases k <;> rfl
  | _ :: _, 0, _, _, h => absurd h (Nat.not_succ_le_zero _)
  | _ :: cl, k + 1, _, _, h => cleanup_done cl k _ _ (Nat.le_of_succ_le_succ h)

theorem run_done (fin : List Call) : ∀ (is : List Instr) (k : Nat) (m : M) (j : Nat),
    (∀ i ∈ is, i.cleanup.length ≤ fin.length) → is.length + fin.length ≤ k →
    (runUpTo path tmp f fin k is m j).2 = true
  | [], k, m, j, _, h => by
    rw [runUpTo_nil]
    exact cleanup_done path tmp f fin k m j (Nat.le_trans (Nat.le_add_left _ _) h)
  | _ :: _, 0, _, _, _, h => absurd h (by simp)
  | i :: is, k + 1, m, j, hc, h => by
    have hk : is.length + fin.length ≤ k := Nat.le_of_succ_le_succ (Nat.succ_add .. ▸ h)
    simp only [runUpTo]
    split
    · exact run_done fin is k _ _ (fun i hi => hc i (List.mem_cons_of_mem _ hi)) hk
    · exact cleanup_done path tmp f _ k _ _ (Nat.le_trans (hc i List.mem_cons_self) (Nat.le_trans (Nat.le_add_left _ _) hk))

end

theorem compile_call (chunks : List Bytes) (c : Call) (e : OnErr) (rest : List Step) (ds : List Call) :
    compile chunks (.call c e :: rest) ds =
      ((if c = .writeTmp then chunks.map (fun b => ⟨.writeTmp, b, e, ds⟩) else [⟨c, [], e, ds⟩]) ++
        (compile chunks rest ds).1, (compile chunks rest ds).2) := by
  cases c <;> rfl

/-- the deferred calls in scope at an instruction are no more than those run at a normal return -/
theorem compile_cleanup_le (chunks : List Bytes) : ∀ (steps : List Step) (ds : List Call),
    ds.length ≤ (compile chunks steps ds).2.length ∧
    ∀ i ∈ (compile chunks steps ds).1, i.cleanup.length ≤ (compile chunks steps ds).2.length
  | [], ds => ⟨Nat.le_refl _, fun _ h => absurd h List.not_mem_nil⟩
  | .defer cs :: rest, ds =>
    have ih := compile_cleanup_le chunks rest (cs ++ ds)
    ⟨Nat.le_trans (by simp) ih.1, ih.2⟩
  | .call c e :: rest, ds => by
    have ih := compile_cleanup_le chunks rest ds
    rw [compile_call]
    refine ⟨ih.1, fun i hi => ?_⟩
    rcases List.mem_append.mp hi with hi | hi
    · have : i.cleanup = ds := by
        split at hi
        · obtain ⟨_, _, rfl⟩ := List.mem_map.mp hi; rfl
        · cases List.mem_singleton.mp hi; rfl
      rw [this]; exact ih.1
    · exact ih.2 i hi

/-- `bound` is what its name says: after that many system calls every run of every step list has returned -/
theorem interpUpTo_done (steps : List Step) (path tmp : Name) (chunks : List Bytes) (f : Faults) (s : State) {k : Nat}
    (hk : bound steps chunks ≤ k) : (interpUpTo steps path tmp chunks f k s).2 = true :=
  run_done path tmp f _ _ k _ 0 (compile_cleanup_le chunks steps []).2 hk

/-- `G` holds at every cut of the run `r`, and `P` once the run has finished -/
def Tri (r : Nat → M × Bool) (G P : M → Prop) : Prop :=
  ∀ k, G (r k).1 ∧ ((r k).2 = true → P (r k).1)

theorem Tri.mono_P {r G P P'} (h : Tri r G P) (hp : ∀ m, P m → P' m) : Tri r G P' :=
  fun k => ⟨(h k).1, fun hk => hp _ ((h k).2 hk)⟩

section
variable (path tmp : Name) (f : Faults)

/-- deferred calls: what every call preserves holds at every cut -/
theorem cleanup_tri (Q : M → Prop) (cl : List Call)
    (hQ : ∀ c ∈ cl, ∀ m ft, Q m → Q (execCall path tmp c [] m ft).1) :
    ∀ (m : M) (j : Nat), Q m → Tri (fun k => cleanupUpTo path tmp f k cl m j) Q Q := by
  induction cl with
  | nil => intro m j hm k; cases k <;> exact ⟨hm, fun _ => hm⟩
  | cons c cl ih =>
    intro m j hm k
    cases k with
    | zero => exact ⟨hm, nofun⟩
    | succ k =>
      exact ih (fun c hc => hQ c (List.mem_cons_of_mem _ hc)) _ (j + 1) (hQ c List.mem_cons_self m (f j) hm) k

/-- one main-line instruction: continue with the rest, or leave through its deferred calls -/
theorem tri_step {fin : List Call} {i : Instr} {rest : List Instr} {m : M} {j0 : Nat} {G P : M → Prop}
    (hG : G m)
    (hp : proceeds i.onErr (execCall path tmp i.call i.chunk m (f j0)).2 = true →
      Tri (fun k => runUpTo path tmp f fin k rest (execCall path tmp i.call i.chunk m (f j0)).1 (j0 + 1)) G P)
    (hf : proceeds i.onErr (execCall path tmp i.call i.chunk m (f j0)).2 = false →
      Tri (fun k => cleanupUpTo path tmp f k i.cleanup { (execCall path tmp i.call i.chunk m (f j0)).1 with err := true } (j0 + 1)) G P) :
    Tri (fun k => runUpTo path tmp f fin k (i :: rest) m j0) G P := by
  intro k
  cases k with
  | zero => exact ⟨hG, nofun⟩
  | succ k =>
    simp only [runUpTo]
    split
    · next h => exact hp h k
    · next h => exact hf (Bool.eq_false_iff.mpr h) k

end

def C1 : List Call := [.closeTmp, .removeTmp]
def C2 : List Call := [.closeDir, .closeTmp, .removeTmp]

theorem C1_sub : ∀ c ∈ C1, c ∈ C2 := by decide

section
variable (path tmp : Name)

/-- the errors of a faulted call: `io`, or `badFd` where the descriptor is not open -/
def FaultErr (r : Option Err) : Prop := r = some .io ∨ r = some .badFd

theorem FaultErr.ne_none {r : Option Err} (h : FaultErr r) : r ≠ none := by
  rcases h with h | h <;> rw [h] <;> nofun

theorem FaultErr.ite {c : Prop} [Decidable c] {a b : State × Option Err} (ha : FaultErr a.2) (hb : FaultErr b.2) :
    FaultErr (if c then a else b).2 := by
  split
  · exact ha
  · exact hb

theorem exec_fault_err (c : Call) (ch : Bytes) (m : M) (n : Nat) : FaultErr (execCall path tmp c ch m (some n)).2 := by
  have wf : ∀ op : Ino → State × Option Err, (∀ h, FaultErr (op h).2) → FaultErr (withFile m op).2 := by
    intro op hop
    unfold withFile
    split
    · exact .inr rfl
    · exact hop _
  cases c
  case removeTmp | createExclTmp | renameTmpToPath | openDir => exact .inl rfl
  case writeTmp => exact wf _ fun h => .ite (.inl rfl) (.inr rfl)
  case fsyncTmp => exact wf _ fun h => .ite (.inl rfl) (.inr rfl)
  case closeTmp => exact wf _ fun h => .ite (.inl rfl) (.inr rfl)
  case fsyncDir => exact .ite (.inl rfl) (.inr rfl)
  case closeDir => exact .ite (.inl rfl) (.inr rfl)

/-- a faulted call ends the main line unless its error is ignored: it never reports `notExist` -/
theorem exec_fault_stops (c : Call) (ch : Bytes) (m : M) (n : Nat) {e : OnErr} (he : e ≠ .ignore) :
    proceeds e (execCall path tmp c ch m (some n)).2 = false := by
  cases e
  · rcases exec_fault_err path tmp c ch m n with h | h <;> rw [h] <;> rfl
  · rcases exec_fault_err path tmp c ch m n with h | h <;> rw [h] <;> rfl
  · exact absurd rfl he

end

/-- what one system call can do to the machine: at most release or add descriptors (every failing call, `close`,
    `open`); append to, or sync, the inode of the temp file's handle; log a directory operation about `tmp`;
    create the temp file with a fresh inode; make the pending directory operations durable -/
inductive Eff (path tmp : Name) (m : M) : Call → M × Option Err → Prop
  | fds (c : Call) (fds : List Fd) (e : Option Err) : Eff path tmp m c ({ m with fs := { m.fs with fds := fds } }, e)
  | write (h : Ino) (bs : Bytes) (e : Option Err) : m.tmpH = some h →
      Eff path tmp m .writeTmp
        ({ m with fs := { m.fs with ino := setIno m.fs.ino h ⟨(m.fs.ino h).dur, (m.fs.ino h).pend ++ bs⟩ } }, e)
  | fsync (h : Ino) : m.tmpH = some h →
      Eff path tmp m .fsyncTmp
        ({ m with fs := { m.fs with ino := setIno m.fs.ino h ⟨(m.fs.ino h).dur ++ (m.fs.ino h).pend, []⟩ } }, none)
  | unlink : Eff path tmp m .removeTmp
      ({ m with fs := { m.fs with vdir := m.fs.vdir.set tmp none, pending := m.fs.pending ++ [.unlink tmp] } }, none)
  | create : Eff path tmp m .createExclTmp
      (⟨{ m.fs with ino := setIno m.fs.ino m.fs.next ⟨[], []⟩, next := m.fs.next + 1,
                    vdir := m.fs.vdir.set tmp (some m.fs.next), pending := m.fs.pending ++ [.link tmp m.fs.next],
                    fds := .file m.fs.next :: m.fs.fds }, some m.fs.next, m.err⟩, none)
  | rename (i : Ino) : m.fs.vdir tmp = some i →
      Eff path tmp m .renameTmpToPath
        ({ m with fs := { m.fs with vdir := (m.fs.vdir.set tmp none).set path (some i),
                                    pending := m.fs.pending ++ [.rename tmp path i] } }, none)
  | syncDir : Eff path tmp m .fsyncDir
      ({ m with fs := { m.fs with ddir := applyAll m.fs.ddir m.fs.pending, pending := [] } }, none)

section
variable {path tmp : Name}

theorem exec_eff (c : Call) (ch : Bytes) (m : M) (ft : Fault) : Eff path tmp m c (execCall path tmp c ch m ft) := by
  have same : ∀ e, Eff path tmp m c (m, e) := fun e => .fds c m.fs.fds e
  cases c with
  | removeTmp =>
    simp only [execCall, unlink]
    split
    · exact same _
    · split
      · exact same _
      · exact .unlink
  | createExclTmp =>
    cases hf : ft.isSome with
    | true => simp only [execCall, createExcl, hf, if_true]; exact same _
    | false =>
      cases hv : m.fs.vdir tmp with
      | some _ => simp only [execCall, createExcl, hf, hv, Bool.false_eq_true, if_false]; exact same _
      | none => simp only [execCall, createExcl, hf, hv, Bool.false_eq_true, if_false]; exact .create
  | writeTmp =>
    simp only [execCall, withFile]
    split
    · exact same _
    · next h hh =>
      simp only [write]
      split
      · split
        · exact .write h _ _ hh
        · exact .write h _ _ hh
      · exact same _
  | fsyncTmp =>
    simp only [execCall, withFile]
    split
    · exact same _
    · next h hh =>
      simp only [fsync]
      split
      · split
        · exact same _
        · exact .fsync h hh
      · exact same _
  | closeTmp =>
    simp only [execCall, withFile]
    split
    · exact same _
    · simp only [close]
      split
      · exact .fds _ _ _
      · exact same _
  | renameTmpToPath =>
    simp only [execCall, rename]
    split
    · exact same _
    · split
      · exact same _
      · next i hi => exact .rename i hi
  | openDir =>
    simp only [execCall, openDir]
    split
    · exact same _
    · exact .fds _ _ _
  | fsyncDir =>
    simp only [execCall, fsyncDir]
    split
    · split
      · exact same _
      · exact .syncDir
    · exact same _
  | closeDir =>
    simp only [execCall, close]
    split
    · exact .fds _ _ _
    · exact same _

theorem execCall_err (c : Call) (ch : Bytes) (m : M) (ft : Fault) : (execCall path tmp c ch m ft).1.err = m.err := by
  have he := exec_eff (path := path) (tmp := tmp) c ch m ft
  generalize execCall path tmp c ch m ft = r at he ⊢
  cases he <;> rfl

/-- every call, with any fault choice, keeps the invariants of `path`, provided a write goes to an inode that
    `path` cannot show and a successful rename moves an acceptable inode -/
theorem exec_base (hne : tmp ≠ path) {X : Option Bytes → Prop} (c : Call) (ch : Bytes) (m : M) (ft : Fault)
    (hb : Base m.fs path X)
    (hw : c = .writeTmp → ∀ h, m.tmpH = some h → Private m.fs path h)
    (hr : c = .renameTmpToPath → (execCall path tmp c ch m ft).2 = none →
      ∀ i, m.fs.vdir tmp = some i → ValOK m.fs X (some i)) :
    Base (execCall path tmp c ch m ft).1.fs path X := by
  have he := exec_eff (path := path) (tmp := tmp) c ch m ft
  generalize execCall path tmp c ch m ft = r at he hr ⊢
  cases he with
  | fds c fds e => exact hb.frame m.fs.ino fds (Nat.le_refl _) fun _ _ _ hst => hst
  | write h bs e ht =>
    refine hb.frame _ _ (Nat.le_refl _) fun i c hs hst => ?_
    have : i ≠ h := fun e => hw rfl h ht (e ▸ hs)
    exact (if_neg this).trans hst
  | fsync h ht =>
    refine hb.frame _ _ (Nat.le_refl _) fun i c _ hst => ?_
    unfold setIno
    split
    · next e => rw [← e, hst]; exact congrArg (Inode.mk · []) (List.append_nil c)
    · exact hst
  | unlink => exact hb.push (.unlink tmp) nofun fun v he => by rw [DirOp.effect, if_neg hne.symm] at he; cases he
  | create =>
    -- the fresh inode is none of those `path` can show
    have h₁ := hb.frame (setIno m.fs.ino m.fs.next ⟨[], []⟩) (.file m.fs.next :: m.fs.fds) (Nat.le_succ _)
      fun i c hs hst => (if_neg (Nat.ne_of_lt (hb.wf.shows hs))).trans hst
    exact h₁.push (.link tmp m.fs.next) (fun i hi => Option.some.inj hi ▸ Nat.lt_succ_self _)
      fun v he => by rw [DirOp.effect, if_neg hne.symm] at he; cases he
  | rename i hi =>
    refine hb.push (.rename tmp path i) (fun j hj => hb.wf.v tmp j (hj ▸ hi)) fun v he => ?_
    rw [DirOp.effect, if_pos rfl] at he
    cases he
    exact hr rfl rfl i hi
  | syncDir => exact hb.syncDir

/-- only `createExcl` makes the temp name appear -/
theorem exec_gone (c : Call) (hc : c ≠ .createExclTmp) (ch : Bytes) (m : M) (ft : Fault) (hg : m.fs.vdir tmp = none) :
    (execCall path tmp c ch m ft).1.fs.vdir tmp = none := by
  have he := exec_eff (path := path) (tmp := tmp) c ch m ft
  generalize execCall path tmp c ch m ft = r at he ⊢
  cases he with
  | unlink => exact Dir.set_same ..
  | create => exact absurd rfl hc
  | rename i hi => exact absurd (hg.symm.trans hi) nofun
  | _ => exact hg

theorem exec_base_cleanup (hne : tmp ≠ path) {X : Option Bytes → Prop} (c : Call) (hc : c ∈ C2)
    (m : M) (ft : Fault) (hb : Base m.fs path X) : Base (execCall path tmp c [] m ft).1.fs path X :=
  exec_base hne c [] m ft hb (fun e => absurd (e ▸ hc) (by decide)) (fun e => absurd (e ▸ hc) (by decide))

theorem exec_removeTmp_gone (m : M) : (execCall path tmp .removeTmp [] m none).1.fs.vdir tmp = none := by
  simp only [execCall, unlink, Option.isSome_none, Bool.false_eq_true, if_false]
  split
  · assumption
  · exact Dir.set_same ..

/-- deferred calls ending in the removal of the temp file, none of them faulted, leave no temp file -/
theorem cleanup_snoc_gone (f : Faults) (cl : List Call) :
    ∀ (m : M) (j k : Nat), (∀ i, j ≤ i → f i = none) →
      (cleanupUpTo path tmp f k (cl ++ [.removeTmp]) m j).2 = true →
      (cleanupUpTo path tmp f k (cl ++ [.removeTmp]) m j).1.fs.vdir tmp = none := by
  induction cl with
  | nil =>
    intro m j k hf hk
    cases k with
    | zero => cases hk
    | succ k =>
      simp only [List.nil_append, cleanupUpTo, hf j (Nat.le_refl _)]
      cases k <;> exact exec_removeTmp_gone m
  | cons c cl ih =>
    intro m j k hf hk
    cases k with
    | zero => cases hk
    | succ k => exact ih _ (j + 1) k (fun i hi => hf i (Nat.le_of_succ_le hi)) hk

end

section
variable (path tmp : Name) (f : Faults) (A₀ : Option Bytes → Prop) (new : Bytes)

/-- what holds when the run has returned, seen from system call `j0` on, with `nMain` main-line calls still to come,
    the first `nBefore` of them up to and including the rename; `gp`: what is needed for the temp file to be gone
    after a single fault -/
structure Post (gp : Prop) (j0 nMain nBefore : Nat) (m : M) : Prop where
  ok : m.err = false → PathInv m.fs path (· = some new) ∧ m.fs.vdir tmp = none
  clean : (∀ i, j0 ≤ i → f i = none) → m.err = false
  fault : ∀ j, FirstFault f j0 j → j < j0 + nMain → m.err = true ∧ (j < j0 + nBefore → PathInv m.fs path A₀)
  gone : AtMostOne f → gp → m.fs.vdir tmp = none

variable {path tmp f A₀ new}

theorem Post.shift {gp : Prop} {j0 nm nb nb' : Nat} {m : M} (hf : f j0 = none) (hnb : nb' ≤ nb + 1)
    (h : Post path tmp f A₀ new gp (j0 + 1) nm nb m) : Post path tmp f A₀ new gp j0 (nm + 1) nb' m where
  ok := h.ok
  clean := fun hc => h.clean (fun i hi => hc i (Nat.le_of_succ_le hi))
  fault := by
    intro j ⟨hj, hfj, hfirst⟩ hlt
    have hne : j ≠ j0 := by intro e; subst e; exact hfj hf
    have := h.fault j ⟨by omega, hfj, fun i hi hij => hfirst i (by omega) hij⟩ (by omega)
    exact ⟨this.1, fun hh => this.2 (by omega)⟩
  gone := h.gone

theorem Post.of_fail {gp : Prop} {j0 nm nb : Nat} {m : M} (hf : f j0 ≠ none) (herr : m.err = true)
    (hinv : 0 < nb → PathInv m.fs path A₀) (hgone : AtMostOne f → gp → m.fs.vdir tmp = none) :
    Post path tmp f A₀ new gp j0 nm nb m where
  ok := by intro h; rw [herr] at h; cases h
  clean := fun hc => absurd (hc j0 (Nat.le_refl _)) hf
  fault := by
    intro j ⟨hj, _, hfirst⟩ _
    have : j = j0 := by
      rcases Nat.lt_or_ge j0 j with h | h
      · exact absurd (hfirst j0 (Nat.le_refl _) h) hf
      · omega
    subst this
    exact ⟨herr, fun hh => hinv (by omega)⟩
  gone := hgone

end

section
variable {path tmp : Name} (hne : tmp ≠ path) {f : Faults} {A₀ A : Option Bytes → Prop} {new : Bytes}
include hne

/-- after the faulted call `j0` the deferred calls `cl` run: close calls, then — unless nothing is deferred yet,
    and then the temp file must be gone already — the removal of the temp file -/
theorem fail_tri {gp : Prop} {j0 nm nb : Nat} (cl : List Call) (m : M) (hcl : ∀ c ∈ cl, c ∈ C2)
    (hsh : (cl = [] ∧ (gp → m.fs.vdir tmp = none)) ∨ ∃ pre, cl = pre ++ [.removeTmp])
    (hf : f j0 ≠ none) (hb : Base m.fs path A) (herr : m.err = true) (hinv : 0 < nb → Base m.fs path A₀) :
    Tri (fun k => cleanupUpTo path tmp f k cl m (j0 + 1)) (fun m => Base m.fs path A)
      (Post path tmp f A₀ new gp j0 nm nb) := by
  let Q : M → Prop := fun m => Base m.fs path A ∧ m.err = true ∧ (0 < nb → Base m.fs path A₀)
  have hQ : ∀ c ∈ cl, ∀ m ft, Q m → Q (execCall path tmp c [] m ft).1 := fun c hc m ft ⟨h1, h2, h3⟩ =>
    ⟨exec_base_cleanup hne c (hcl c hc) m ft h1, (execCall_err ..).trans h2,
      fun h => exec_base_cleanup hne c (hcl c hc) m ft (h3 h)⟩
  intro k
  have t := cleanup_tri path tmp f Q cl hQ m (j0 + 1) ⟨hb, herr, hinv⟩ k
  refine ⟨t.1.1, fun hk => ?_⟩
  obtain ⟨_, q2, q3⟩ := t.2 hk
  refine Post.of_fail hf q2 (fun h => (q3 h).inv) fun hamo hg => ?_
  rcases hsh with ⟨rfl, hgone⟩ | ⟨pre, rfl⟩
  · cases k <;> exact hgone hg
  · refine cleanup_snoc_gone f pre m (j0 + 1) k (fun i hi => ?_) hk
    -- a second fault would contradict `AtMostOne`
    cases hfi : f i with
    | none => rfl
    | some n =>
      have : i = j0 := hamo i j0 (by rw [hfi]; nofun) hf
      omega

end
end Lungo.AtomicWrite
