/-
  Lungo.Proofs.SeqDelete — C01: deleteOne / deleteMany / findOneAndDelete. The implementation removes
  the selected documents by identity, the Spec removes them as values; the two agree because a
  collection never holds two equal documents (`_id_` is unique — C07).
-/
import Lungo.Proofs.SeqInsert
import Lungo.Proofs.BeqLaws
namespace Lungo.SeqRef
open Lungo Lungo.Spec

variable {sch : SchemaEval}

theorem sameDoc_iff (a b : Doc) : sameDoc a b = true ↔ a = b := by
  unfold sameDoc
  rw [V.beq_iff]
  constructor
  · intro h; cases h; rfl
  · intro h; rw [h]

/-- no two stored documents are equal as values -/
def DocInj (docs : List SDoc) : Prop := ∀ x ∈ docs, ∀ y ∈ docs, x.doc = y.doc → x = y

/-- `_id_` is unique, so equal documents (equal `_id`) are the same stored document -/
theorem docInj_of_unique {c : Coll} (hp : IdIndexPresent c) (hu : UniqueOk sch c)
    (hok : DocsOk c.docs) : DocInj c.docs := by
  intro x hx y hy hd
  apply Classical.byContradiction
  intro hne
  obtain ⟨i, hm, hcfg⟩ := hp
  have hU := (hu.unique hok) "_id_" i hm (by rw [hcfg]; rfl) x y hx hy hne (idIndex_belongs hcfg _)
    (idIndex_belongs hcfg _)
  obtain ⟨t, ht⟩ := List.exists_mem_of_ne_nil _ (tuples_ne_nil i.columns x.doc)
  have := hU t ht t (hd ▸ ht)
  rw [tupleEq_refl] at this
  cases this

theorem docInj_new : DocInj (newColl true).docs := by
  intro x hx; simp [newColl] at hx

/-- in a collection, the same identity is the same value -/
theorem id_beq_sameDoc {docs : List SDoc} (hd : IdsDistinct docs) (hinj : DocInj docs) {x y : SDoc}
    (hx : x ∈ docs) (hy : y ∈ docs) : (x.id == y.id) = sameDoc x.doc y.doc :=
  Bool.eq_iff_iff.mpr (by simpa only [beq_iff_eq, sameDoc_iff] using id_eq_iff hd hinj hx hy)

/-- removal by identity = removal by value -/
theorem remove_abs {docs list : List SDoc} (hd : IdsDistinct docs) (hinj : DocInj docs)
    (hsub : ∀ x ∈ list, x ∈ docs) :
    (docs.filter (fun sd => !(list.any (·.id == sd.id)))).map (·.doc) =
      (docs.map (·.doc)).filter (fun d => !memDoc d (list.map (·.doc))) := by
  rw [List.filter_map]
  congr 1
  apply List.filter_congr
  intro sd hsd
  simp only [Function.comp, memDoc, List.any_map]
  congr 1
  apply Bool.eq_iff_iff.mpr
  simp only [List.any_eq_true, beq_iff_eq, Function.comp, sameDoc_iff]
  exact exists_congr fun x => and_congr_right fun hx => (id_eq_iff hd hinj (hsub x hx) hsd).trans eq_comm

/-- what the writes need to know about the target collection -/
structure CollOk (sch : SchemaEval) (c : Coll) : Prop where
  coherent : Coherent sch c
  docsOk : DocsOk c.docs
  inj : DocInj c.docs

theorem collOk_ensureNs {cat : Catalog} {n : Nat} (g : Good sch true cat n) (ok : OkDB (abs cat))
    {h : Handle} (hne : h ≠ oplogHandle) : CollOk sch (ensureNs cat h) := by
  have k := g.nsOk_ensure h
  have hok := okDB_ensureNs ok hne
  exact ⟨k.coherent, hok, docInj_of_unique (k.idIndex hne) (k.unique rfl) hok⟩

/-- `Collection.Delete` = the Spec's delete -/
theorem delete_abs {c : Coll} (k : CollOk sch c) (q : Doc) (sort : Option Doc) (skip limit : Int)
    (hne : noMatchError sch q c.docs) :
    (c.delete sch q sort skip limit).map (fun r => (absC r.1, r.2.map (·.doc))) =
      (absC c).delete sch q sort skip limit := by
  unfold SColl.delete
  have hs := select_abs c q sort skip limit k.docsOk hne
  rw [← hs]
  cases hsel : selectDocs sch c q sort skip limit with
  | error e => rw [Coll.delete_eq, hsel]; rfl
  | ok list =>
    obtain ⟨c', hdel⟩ := delete_ok k.coherent hsel
    rw [hdel]
    obtain ⟨_, idx', hf, rfl⟩ := Coll.delete_ok hdel
    simp only [Except.map, SColl.remove, absC]
    rw [remove_abs k.coherent.1 k.inj (selectDocs_mem hsel), foldIdx_remove_shape hf]

/-- `Transaction.delete` = the Spec's `opDelete` -/
theorem deleteOp_abs {cat : Catalog} {n : Nat} (g : Good sch true cat n) (ok : OkDB (abs cat)) {h : Handle}
    (hne : h ≠ oplogHandle) (q : Doc) (sort : Option Doc) (skip limit : Int) (nu : Nu)
    (hq : QueryOk sch (abs cat) h q) :
    (deleteOp sch cat h q sort skip limit nu).map (fun r => (abs r.1, r.2.1)) =
      opDelete sch (abs cat) h q sort skip limit := by
  unfold deleteOp opDelete
  rw [abs_coll cat hne, ← delete_abs (collOk_ensureNs g ok hne) q sort skip limit (queryOk_noMatchError hne hq)]
  cases hdel : (ensureNs cat h).delete sch q sort skip limit with
  | error e => simp only [hdel, Except.map]
  | ok r =>
    obtain ⟨coll, list⟩ := r
    have := (abs_fold_append (fun cn (sd : SDoc) => appendOplog cn.1 cn.2 h "delete" (some sd.doc) none)
      (fun _ _ => ⟨_, _, _, _, rfl⟩) list (cat.set h coll, nu) (set_keeps g.1.oplog)).1
    simp only [hdel, Except.map]
    rw [this, abs_set cat coll hne]
    cases list <;> rfl

/-- a transaction publishes its catalog iff the method says it changed something -/
theorem commit_keepIf (s : Sys) (c : Prop) [Decidable c] (cat' : Catalog) (nu' : Nu) :
    abs (s.commit (if c then { catalog := cat', dirty := true } else { catalog := s.catalog }) nu').catalog =
      keepIf (decide c) (abs cat') (abs s.catalog) := by
  by_cases h : c <;> simp [h, Sys.commit, keepIf]

theorem commit_if (s : Sys) (b : Bool) (cat' : Catalog) (nu' : Nu) :
    abs (s.commit (if b = true then { catalog := cat', dirty := true } else { catalog := s.catalog }) nu').catalog =
      keepIf b (abs cat') (abs s.catalog) := by
  simpa using commit_keepIf s (b = true) cat' nu'

/-- `Transaction.Delete` = the Spec's `deleteCall` -/
theorem txnDelete_abs (s : Sys) (h : Handle) (q : Doc) (sort : Option Doc) (limit : Int) (oids : List V)
    (g : Good sch true s.catalog s.nextId) (ok : OkDB (abs s.catalog))
    (hq : QueryOk sch (abs s.catalog) h q) :
    deleteCall sch (abs s.catalog) h q sort limit =
      (Txn.delete sch { catalog := s.catalog } h q sort 0 limit (s.nu oids)).map
        (fun r => (abs (s.commit r.1 r.2.2).catalog, r.2.1)) := by
  unfold deleteCall Txn.delete
  cases hwr : writable h true with
  | error e => rfl
  | ok _ =>
    have hne := writable_ne_oplog hwr
    simp only [abs_get? s.catalog hne, Option.isNone_map]
    cases hg : (s.catalog.get? h).isNone with
    | true => simp [Except.map, Sys.commit]
    | false =>
      simp only [Bool.false_eq_true, ↓reduceIte]
      rw [← deleteOp_abs g ok hne q sort 0 limit (s.nu oids) hq]
      cases deleteOp sch s.catalog h q sort 0 limit (s.nu oids) with
      | error e => rfl
      | ok r =>
        simp only [Except.map]
        cases r.2.1.matched.isEmpty <;> simp [Sys.commit, keepIf]

theorem refines_deleteOne (s : Sys) (h : Handle) (q : Doc) (oids : List V)
    (g : Good sch true s.catalog s.nextId) (ok : OkDB (abs s.catalog))
    (hq : QueryOk sch (abs s.catalog) h q) : Refines sch s (.deleteOne h q) oids := by
  unfold Refines Sys.step
  simp only [Spec.step, runCall, txnDelete_abs s h q none 1 oids g ok hq]
  cases Txn.delete sch { catalog := s.catalog } h q none 0 1 (s.nu oids) <;> rfl

theorem refines_deleteMany (s : Sys) (h : Handle) (q : Doc) (oids : List V)
    (g : Good sch true s.catalog s.nextId) (ok : OkDB (abs s.catalog))
    (hq : QueryOk sch (abs s.catalog) h q) : Refines sch s (.deleteMany h q) oids := by
  unfold Refines Sys.step
  simp only [Spec.step, runCall, txnDelete_abs s h q none 0 oids g ok hq]
  cases Txn.delete sch { catalog := s.catalog } h q none 0 0 (s.nu oids) <;> rfl

theorem refines_findOneAndDelete (s : Sys) (h : Handle) (q : Doc) (sort proj : Option Doc) (oids : List V)
    (g : Good sch true s.catalog s.nextId) (ok : OkDB (abs s.catalog))
    (hq : QueryOk sch (abs s.catalog) h q) : Refines sch s (.findOneAndDelete h q sort proj) oids := by
  unfold Refines Sys.step
  simp only [Spec.step, runCall, txnDelete_abs s h q sort 1 oids g ok hq]
  cases Txn.delete sch { catalog := s.catalog } h q sort 0 1 (s.nu oids) with
  | error e => rfl
  | ok r =>
    simp only [Except.map]
    cases projOpt sch proj r.2.1.matched.head? <;> rfl

end Lungo.SeqRef
