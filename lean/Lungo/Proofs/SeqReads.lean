/-
  Lungo.Proofs.SeqReads — C01, the calls that do not change the database: the well-formedness
  vocabulary (`OkDB`, `QueryOk`, stated on the Spec's state) and the refinement of
  find / findOne / count / estimatedCount / distinct / listIndexes / listCollections / listDatabases.
-/
import Lungo.Proofs.SeqAbs
namespace Lungo.SeqRef
open Lungo Lungo.Spec

variable {sch : SchemaEval}

/-- every stored document is a Go value (int64 payloads in range): the domain of the C12 order laws -/
def OkDB (db : SeqDB) : Prop := ∀ h c, (h, c) ∈ db.colls → ∀ d ∈ c.docs, DocOk d

/-- the filter evaluates (to true or false) on every stored document of the namespace -/
def QueryOk (sch : SchemaEval) (db : SeqDB) (h : Handle) (q : Doc) : Prop :=
  ∀ d ∈ (db.coll h).docs, ∀ e, Match sch d q ≠ .error e

/-- the refinement statement for one call: the Spec, started in the abstraction of the state,
    returns the same reply or the same error, and the abstraction commutes -/
def Refines (sch : SchemaEval) (s : Sys) (c : Call) (oids : List V) : Prop :=
  Spec.step sch (abs s.catalog) c oids =
    (Sys.step sch s c oids).map (fun p => (abs p.1.catalog, p.2))

theorem okDB_docsOk {cat : Catalog} (ok : OkDB (abs cat)) {h : Handle} {c : Coll}
    (hm : (h, c) ∈ cat.namespaces) (hne : h ≠ oplogHandle) : DocsOk c.docs := by
  intro x hx
  have : (h, absC c) ∈ (abs cat).colls := by
    simp only [abs, List.mem_map]
    exact ⟨(h, c), hm, absNs_user hne c⟩
  exact ok h (absC c) this x.doc (List.mem_map.mpr ⟨x, hx, rfl⟩)

theorem okDB_ensureNs {cat : Catalog} (ok : OkDB (abs cat)) {h : Handle} (hne : h ≠ oplogHandle) :
    DocsOk (ensureNs cat h).docs := by
  unfold ensureNs
  cases hg : cat.get? h with
  | none => intro x hx; simp [newColl] at hx
  | some c => exact okDB_docsOk ok (Catalog.get?_mem hg) hne

theorem queryOk_noMatchError {cat : Catalog} {h : Handle} {q : Doc} (hne : h ≠ oplogHandle)
    (hq : QueryOk sch (abs cat) h q) : noMatchError sch q (ensureNs cat h).docs := by
  intro sd hsd e
  rw [QueryOk, abs_coll cat hne] at hq
  exact hq sd.doc (List.mem_map.mpr ⟨sd, hsd, rfl⟩) e

/-- `Transaction.Find` and the Spec's `findDocs` return the same documents (or the same error) -/
theorem findDocs_abs {cat : Catalog} {h : Handle} (hne : h ≠ oplogHandle) (q : Doc) (sort : Option Doc)
    (skip limit : Int) (ok : OkDB (abs cat)) (hq : QueryOk sch (abs cat) h q) (d : Bool) :
    findDocs sch (abs cat) h q sort skip limit =
      Txn.find sch { catalog := cat, dirty := d } h q sort skip limit := by
  unfold findDocs Txn.find
  cases h.validate true with
  | error e => rfl
  | ok _ =>
    simp only [abs_get? cat hne]
    cases hg : cat.get? h with
    | none => rfl
    | some c =>
      have hne' := queryOk_noMatchError hne hq
      rw [ensureNs_of_get hg] at hne'
      have := select_abs c q sort skip limit (okDB_docsOk ok (Catalog.get?_mem hg) hne) hne'
      simp only [Option.map_some, Coll.find]
      rw [← this]
      cases selectDocs sch c q sort skip limit <;> rfl

theorem commit_clean (s : Sys) (nu : Nu) :
    (s.commit { catalog := s.catalog } nu).catalog = s.catalog := by
  simp [Sys.commit]

theorem refines_find (s : Sys) (h : Handle) (q : Doc) (o : FindOpts) (oids : List V)
    (hne : h ≠ oplogHandle) (ok : OkDB (abs s.catalog)) (hq : QueryOk sch (abs s.catalog) h q) :
    Refines sch s (.find h q o) oids := by
  unfold Refines Sys.step
  simp only [Spec.step, runCall, findDocs_abs hne q o.sort o.skip o.limit ok hq false]
  cases Txn.find sch { catalog := s.catalog } h q o.sort o.skip o.limit with
  | error e => rfl
  | ok l =>
    simp only
    cases projList sch o.proj l <;> simp [Except.map, commit_clean]

theorem refines_findOne (s : Sys) (h : Handle) (q : Doc) (o : FindOpts) (oids : List V)
    (hne : h ≠ oplogHandle) (ok : OkDB (abs s.catalog)) (hq : QueryOk sch (abs s.catalog) h q) :
    Refines sch s (.findOne h q o) oids := by
  unfold Refines Sys.step
  simp only [Spec.step, runCall, findDocs_abs hne q o.sort o.skip 1 ok hq false]
  cases Txn.find sch { catalog := s.catalog } h q o.sort o.skip 1 with
  | error e => rfl
  | ok l =>
    cases l with
    | nil => simp [Except.map, commit_clean]
    | cons x r =>
      simp only
      cases projList sch o.proj (x :: r) <;> simp [Except.map, commit_clean]

theorem refines_count (s : Sys) (h : Handle) (q : Doc) (skip limit : Int) (oids : List V)
    (hne : h ≠ oplogHandle) (ok : OkDB (abs s.catalog)) (hq : QueryOk sch (abs s.catalog) h q) :
    Refines sch s (.count h q skip limit) oids := by
  unfold Refines Sys.step
  simp only [Spec.step, runCall, findDocs_abs hne q none skip limit ok hq false]
  cases Txn.find sch { catalog := s.catalog } h q none skip limit <;> simp [Except.map, commit_clean]

theorem refines_distinct (s : Sys) (h : Handle) (field : String) (q : Doc) (oids : List V)
    (hne : h ≠ oplogHandle) (ok : OkDB (abs s.catalog)) (hq : QueryOk sch (abs s.catalog) h q) :
    Refines sch s (.distinct h field q) oids := by
  unfold Refines Sys.step
  simp only [Spec.step, runCall, findDocs_abs hne q none 0 0 ok hq false]
  cases Txn.find sch { catalog := s.catalog } h q none 0 0 <;> simp [Except.map, commit_clean]

theorem refines_estCount (s : Sys) (h : Handle) (oids : List V) (hne : h ≠ oplogHandle) :
    Refines sch s (.estCount h) oids := by
  unfold Refines Sys.step
  simp only [Spec.step, runCall, Txn.count]
  cases h.validate true with
  | error e => rfl
  | ok _ =>
    simp only [abs_get? s.catalog hne, Except.map, commit_clean]
    cases s.catalog.get? h <;> simp [absC]

theorem indexSpecDoc_eq (n : String) (i : Index) :
    indexSpecDoc n i.config =
      ([("v", V.i32 2), ("key", .doc i.config.key), ("name", .str n)] : Doc) ++
      (if i.config.unique && n != "_id_" then [("unique", .bool true)] else []) ++
      (match i.config.partialF with
       | some p => [("partialFilterExpression", V.doc p)]
       | none => []) ++
      (if i.config.expiry > 0 then [("expireAfterSeconds", .i32 (wrap32 (i.config.expiry / 1000000000)))] else []) := rfl

theorem refines_listIndexes (s : Sys) (h : Handle) (oids : List V) (hne : h ≠ oplogHandle) :
    Refines sch s (.listIndexes h) oids := by
  unfold Refines Sys.step
  simp only [Spec.step, runCall, Txn.listIndexes]
  cases h.validate true with
  | error e => rfl
  | ok _ =>
    simp only [abs_get? s.catalog hne]
    cases s.catalog.get? h with
    | none => simp [Except.map, commit_clean]
    | some c =>
      simp only [Option.map_some, Except.map, commit_clean, absC, shape, List.map_map, byName]
      rfl

theorem filter_abs (cat : Catalog) (p : Handle → Bool) :
    (abs cat).colls.filter (fun x => p x.1) = (cat.namespaces.filter (fun x => p x.1)).map absNs := by
  simp only [abs, List.filter_map]
  rfl

theorem refines_listCollections (s : Sys) (db : String) (q : Doc) (oids : List V) :
    Refines sch s (.listCollections db q) oids := by
  unfold Refines Sys.step
  simp only [Spec.step, runCall]
  cases (Handle.mk db "").validate false with
  | error e => rfl
  | ok _ =>
    have : ((abs s.catalog).colls.filter (·.1.db == db)).map (fun p => collectionInfo p.1) =
        listCollectionDocs s.catalog db := by
      rw [filter_abs s.catalog (·.db == db), List.map_map]; rfl
    simp only at this ⊢
    rw [this]
    cases filterPlain sch q (listCollectionDocs s.catalog db) <;> simp [Except.map, commit_clean, byName]

/-- "empty" per database: the oplog entries count as empty iff nothing is logged, i.e. iff every
    oplog entry is empty — and they all belong to the database `local` -/
theorem isEmptyColl_abs (cat : Catalog) (name : String) :
    ((abs cat).colls.filter (·.1.db == name)).all (fun p => (abs cat).isEmptyColl p.1 p.2) =
      (cat.namespaces.filter (·.1.db == name)).all (fun p => p.2.docs.isEmpty) := by
  have hl : (abs cat).logged = false ↔ ∀ q ∈ cat.namespaces, q.1 = oplogHandle → q.2.docs.isEmpty = true := by
    simp [abs]
  rw [filter_abs cat (·.db == name), List.all_map, Bool.eq_iff_iff]
  simp only [List.all_eq_true, List.mem_filter, Function.comp, beq_iff_eq, and_imp]
  have hop : ∀ p : Handle × Coll, p.1 = oplogHandle → absNs p = (oplogHandle, ⟨[], []⟩) :=
    fun p ho => by simp [absNs, ho]
  constructor
  · intro H p hp hn
    have := H p hp hn
    by_cases ho : p.1 = oplogHandle
    · simp only [hop p ho, SeqDB.isEmptyColl, beq_self_eq_true, ↓reduceIte, Bool.not_eq_true'] at this
      exact hl.mp this p hp ho
    · obtain ⟨a, b⟩ := p
      simpa [absNs_user ho, SeqDB.isEmptyColl, ho, absC] using this
  · intro H p hp hn
    by_cases ho : p.1 = oplogHandle
    · simp only [hop p ho, SeqDB.isEmptyColl, beq_self_eq_true, ↓reduceIte, Bool.not_eq_true']
      exact hl.mpr fun q hq hqo => H q hq (by rw [hqo, ← ho, hn])
    · obtain ⟨a, b⟩ := p
      simpa [absNs_user ho, SeqDB.isEmptyColl, ho, absC] using H _ hp hn

theorem databaseInfos_abs (cat : Catalog) : databaseInfos (abs cat) = listDatabaseDocs cat := by
  unfold databaseInfos listDatabaseDocs
  have h1 : (abs cat).colls.map (·.1.db) = cat.namespaces.map (·.1.db) := by
    simp only [abs, List.map_map]; rfl
  rw [h1]
  apply List.map_congr_left
  intro name _
  have := isEmptyColl_abs cat name
  simp only at this ⊢
  rw [this]

theorem refines_listDatabases (s : Sys) (q : Doc) (oids : List V) :
    Refines sch s (.listDatabases q) oids := by
  unfold Refines Sys.step
  simp only [Spec.step, runCall, databaseInfos_abs]
  cases filterPlain sch q (listDatabaseDocs s.catalog) <;> simp [Except.map, commit_clean, byName]

end Lungo.SeqRef
