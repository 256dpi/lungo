/-
  Lungo.Proofs.Codec — the model BSON decoder inverts the model encoder on `wfEnc` values.
-/
import Lungo.Model.Codec
namespace Lungo.Bson

@[simp] theorem leBytes_length (k n : Nat) : (leBytes k n).length = k := by
  induction k generalizing n with
  | zero => rfl
  | succ k ih => simp [leBytes, ih]

theorem leNat_leBytes (k n : Nat) (h : n < 256 ^ k) : leNat (leBytes k n) = n := by
  induction k generalizing n with
  | zero => simp [leBytes, leNat]; omega
  | succ k ih =>
    have h2 : n / 256 < 256 ^ k := by
      apply Nat.div_lt_of_lt_mul
      rw [Nat.pow_succ] at h; omega
    simp only [leBytes, leNat, ih _ h2, UInt8.toNat_ofNat']
    omega

theorem takeN_append (xs r : Bytes) : takeN xs.length (xs ++ r) = some (xs, r) := by
  induction xs with
  | nil => simp [takeN]
  | cons x xs ih => simp [takeN, ih]

theorem takeN_append' (n : Nat) (xs r : Bytes) (h : xs.length = n) : takeN n (xs ++ r) = some (xs, r) := by
  subst h; exact takeN_append xs r

theorem rdNat_leBytes (k n : Nat) (r : Bytes) (h : n < 256 ^ k) :
    rdNat k (leBytes k n ++ r) = some (n, r) := by
  simp [rdNat, takeN_append' k (leBytes k n) r (leBytes_length k n), leNat_leBytes k n h]

theorem splitNul_append (xs r : Bytes) (h : xs.contains 0 = false) :
    splitNul (xs ++ 0 :: r) = some (xs, r) := by
  induction xs with
  | nil => simp [splitNul]
  | cons x xs ih =>
    simp only [List.contains_cons, Bool.or_eq_false_iff] at h
    have hx : x ≠ 0 := by
      intro e; subst e; simp at h
    simp [splitNul, hx, ih h.2]

theorem bytesStr?_strBytes (s : String) : bytesStr? (strBytes s) = some s := by
  simp [bytesStr?, strBytes, String.fromUTF8?, s.isValidUTF8, String.fromUTF8]

theorem toSigned32_small (n : Nat) (h : n < 2 ^ 31) : toSigned 32 n = (n : Int) := by
  unfold toSigned
  have : ¬ (n ≥ 2 ^ (32 - 1)) := by simp; omega
  simp [this]

theorem toSigned32_enc (z : Int) (h : inI32 z = true) :
    toSigned 32 (z % (2 : Int) ^ 32).toNat = z := by
  unfold inI32 i32Min i32Max at h
  simp only [Bool.and_eq_true, decide_eq_true_eq] at h
  unfold toSigned
  have e : (2 : Int) ^ 32 = 4294967296 := by decide
  have e' : (2 : Nat) ^ (32 - 1) = 2147483648 := by decide
  rw [e, e']
  split <;> omega

theorem toSigned64_enc (z : Int) (h : inI64 z = true) :
    toSigned 64 (z % (2 : Int) ^ 64).toNat = z := by
  unfold inI64 i64Min i64Max at h
  simp only [Bool.and_eq_true, decide_eq_true_eq] at h
  unfold toSigned
  have e : (2 : Int) ^ 64 = 18446744073709551616 := by decide
  have e' : (2 : Nat) ^ (64 - 1) = 9223372036854775808 := by decide
  rw [e, e']
  split <;> omega

theorem enc32_lt (z : Int) : (z % (2 : Int) ^ 32).toNat < 256 ^ 4 := by
  have := Int.emod_lt_of_pos z (show (0 : Int) < 2 ^ 32 by decide)
  have := Int.emod_nonneg z (show ((2 : Int) ^ 32) ≠ 0 by decide)
  omega

theorem enc64_lt (z : Int) : (z % (2 : Int) ^ 64).toNat < 256 ^ 8 := by
  have := Int.emod_lt_of_pos z (show (0 : Int) < 2 ^ 64 by decide)
  have := Int.emod_nonneg z (show ((2 : Int) ^ 64) ≠ 0 by decide)
  omega

theorem decDigits_noNul (f n : Nat) (acc : Bytes) (h : acc.contains 0 = false) :
    (decDigits f n acc).contains 0 = false := by
  induction f generalizing n acc with
  | zero => simpa [decDigits] using h
  | succ f ih =>
    have hd : (UInt8.ofNat (48 + n % 10) == (0 : UInt8)) = false := by
      apply beq_false_of_ne
      intro e
      have := congrArg UInt8.toNat e
      simp [UInt8.toNat_ofNat'] at this
      omega
    have h' : (UInt8.ofNat (48 + n % 10) :: acc).contains 0 = false := by
      simp only [List.contains_cons, Bool.or_eq_false_iff]
      refine ⟨?_, h⟩
      rw [Bool.beq_comm]; exact hd
    simp only [decDigits]
    split
    · exact h'
    · exact ih _ _ h'

theorem idxKey_noNul (i : Nat) : (idxKey i).contains 0 = false :=
  decDigits_noNul _ _ _ rfl

theorem tyByte_toNat (v : V) : (tyByte v).toNat = v.typ := by
  cases v <;> rfl

theorem tyByte_ne_zero (v : V) : tyByte v ≠ 0 := by
  cases v <;> (intro e; have := congrArg UInt8.toNat e; revert this; simp [tyByte, V.typ])

theorem noNul_contains {s : String} (h : noNul s = true) : (strBytes s).contains 0 = false := by
  simpa [noNul] using h

theorem rdString_enc (s : String) (rest : Bytes) (h : (strBytes s).length + 1 < 2 ^ 31) :
    rdString (leBytes 4 ((strBytes s).length + 1) ++ (strBytes s ++ [0]) ++ rest) = some (s, rest) := by
  have hlt : (strBytes s).length + 1 < 256 ^ 4 := by omega
  unfold rdString
  rw [List.append_assoc, rdNat_leBytes 4 _ _ hlt]
  simp only [toSigned32_small _ h]
  have hpos : ¬ (((strBytes s).length + 1 : Nat) : Int) ≤ 0 := by omega
  rw [if_neg hpos]
  have hn : (((strBytes s).length + 1 : Nat) : Int).toNat - 1 = (strBytes s).length := by omega
  rw [hn, List.append_assoc, takeN_append]
  simp [bytesStr?_strBytes]

theorem rdBinary_enc (sub : UInt8) (d rest : Bytes) (h : d.length + 4 < 2 ^ 31)
    (hq : (sub == 2 && d.isEmpty) = false) :
    rdBinary (encV (.bin sub d) ++ rest) = some (.bin sub d, rest) := by
  have hlt : d.length < 256 ^ 4 := by omega
  have hlt4 : d.length + 4 < 256 ^ 4 := by omega
  have hs : d.length < 2 ^ 31 := by omega
  unfold rdBinary encV
  by_cases h2 : sub = 2
  · subst h2
    have hne : d.length ≠ 0 := by
      intro e
      have : d = [] := List.eq_nil_of_length_eq_zero e
      subst this
      simp at hq
    simp only [if_true, List.append_assoc, rdNat_leBytes 4 _ _ hlt4, List.cons_append,
      toSigned32_small _ h]
    have hc : (True ∧ ((d.length + 4 : Nat) : Int) > 4) := ⟨trivial, by omega⟩
    rw [if_pos hc, rdNat_leBytes 4 _ _ hlt]
    simp only [toSigned32_small _ hs]
    have hnn : ¬ ((d.length : Nat) : Int) < 0 := by omega
    rw [if_neg hnn]
    have : ((d.length : Nat) : Int).toNat = d.length := by omega
    rw [this, takeN_append]
  · simp only [if_neg h2, List.append_assoc, rdNat_leBytes 4 _ _ hlt, List.cons_append,
      toSigned32_small _ hs]
    have hc : ¬ (sub = 2 ∧ ((d.length : Nat) : Int) > 4) := fun c => h2 c.1
    rw [if_neg hc]
    have hnn : ¬ ((d.length : Nat) : Int) < 0 := by omega
    rw [if_neg hnn]
    have : ((d.length : Nat) : Int).toNat = d.length := by omega
    rw [this, takeN_append]

theorem u64_lt (b : UInt64) : b.toNat < 256 ^ 8 := by
  have := b.toNat_lt
  omega

theorem decScalar_enc (v : V) (rest : Bytes) (hw : wfEnc v = true) (h3 : v.typ ≠ 3) (h4 : v.typ ≠ 4) :
    decScalar v.typ (encV v ++ rest) = some (v, rest) := by
  cases v with
  | null => rfl
  | missing => simp [wfEnc] at hw
  | i32 n =>
    simp only [wfEnc] at hw
    simp only [decScalar, encV, V.typ, encI32]
    rw [rdNat_leBytes 4 _ _ (enc32_lt n)]
    simp only [toSigned32_enc n hw]
  | i64 n =>
    simp only [wfEnc] at hw
    simp only [decScalar, encV, V.typ, encI64]
    rw [rdNat_leBytes 8 _ _ (enc64_lt n)]
    simp only [toSigned64_enc n hw]
  | f64 b =>
    simp only [decScalar, encV, V.typ, rdNat_leBytes 8 _ _ (u64_lt b), UInt64.ofNat_toNat]
  | dec hi lo =>
    simp only [decScalar, encV, V.typ, List.append_assoc, rdNat_leBytes 8 _ _ (u64_lt lo),
      rdNat_leBytes 8 _ _ (u64_lt hi), UInt64.ofNat_toNat]
  | str s =>
    simp only [wfEnc, decide_eq_true_eq] at hw
    simp only [decScalar, encV, V.typ, rdString_enc s rest hw]
  | doc fs => exact absurd rfl h3
  | arr xs => exact absurd rfl h4
  | bin sub d =>
    simp only [wfEnc, Bool.and_eq_true, decide_eq_true_eq, Bool.not_eq_true'] at hw
    simp only [decScalar, V.typ, rdBinary_enc sub d rest hw.1 hw.2]
  | oid b =>
    simp only [wfEnc, beq_iff_eq] at hw
    simp only [decScalar, encV, V.typ, takeN_append' 12 b rest hw]
  | bool b => cases b <;> rfl
  | date ms =>
    simp only [wfEnc] at hw
    simp only [decScalar, encV, V.typ, encI64]
    rw [rdNat_leBytes 8 _ _ (enc64_lt ms)]
    simp only [toSigned64_enc ms hw]
  | ts t i =>
    simp only [wfEnc, Bool.and_eq_true, decide_eq_true_eq] at hw
    have h1 : t < 256 ^ 4 := by omega
    have h2 : i < 256 ^ 4 := by omega
    simp only [decScalar, encV, V.typ, List.append_assoc, rdNat_leBytes 4 _ _ h1, rdNat_leBytes 4 _ _ h2]
  | regex p o =>
    simp only [wfEnc, Bool.and_eq_true, beq_iff_eq] at hw
    obtain ⟨⟨hp, ho⟩, hs⟩ := hw
    simp only [decScalar, encV, V.typ, hs, List.append_assoc, List.cons_append,
      splitNul_append _ _ (noNul_contains hp), List.nil_append,
      splitNul_append _ _ (noNul_contains ho), bytesStr?_strBytes]

mutual
/-- Fuel that suffices to decode the encoding of a value. -/
def need : V → Nat
  | .doc fs => 1 + needFields fs
  | .arr xs => 1 + needList xs
  | _ => 1
def needFields : List (String × V) → Nat
  | [] => 1
  | (_, v) :: r => 1 + need v + needFields r
def needList : List V → Nat
  | [] => 1
  | v :: r => 1 + need v + needList r
end

/-- The int32 size prefix of a document or array with elements `body`, read back. -/
theorem rdNat_size (body rest : Bytes) (hsz : body.length + 5 < 2 ^ 31) :
    rdNat 4 (leBytes 4 (body.length + 5) ++ (body ++ [0]) ++ rest) = some (body.length + 5, body ++ 0 :: rest) := by
  rw [List.append_assoc, List.append_assoc]
  exact rdNat_leBytes 4 _ _ (by omega)

/-- What remains after the container once its declared size is taken off: the `endRem` of the element loop. -/
theorem size_endRem (body rest : Bytes) :
    ((leBytes 4 (body.length + 5) ++ (body ++ [0]) ++ rest).length : Int) - ((body.length + 5 : Nat) : Int)
      = rest.length := by
  simp only [List.length_append, leBytes_length, List.length_cons, List.length_nil]
  omega

theorem decVal_scalar (f t : Nat) (bs : Bytes) (h3 : t ≠ 3) (h4 : t ≠ 4) :
    decVal (f + 1) t bs = decScalar t bs := by
  rw [decVal, if_neg h3, if_neg h4]

theorem decVal_doc_step (fs : List (String × V)) (f : Nat) (rest : Bytes)
    (hsz : (encElems fs).length + 5 < 2 ^ 31)
    (ih : decElems f (encElems fs ++ 0 :: rest) rest.length = some (fs, rest)) :
    decVal (f + 1) 3 (encV (.doc fs) ++ rest) = some (.doc fs, rest) := by
  rw [decVal, if_pos rfl, encV, rdNat_size _ _ hsz]
  simp only [toSigned32_small _ hsz, size_endRem, ih]

theorem decVal_arr_step (xs : List V) (f : Nat) (rest : Bytes)
    (hsz : (encArr 0 xs).length + 5 < 2 ^ 31)
    (ih : decArr f (encArr 0 xs ++ 0 :: rest) rest.length = some (xs, rest)) :
    decVal (f + 1) 4 (encV (.arr xs) ++ rest) = some (.arr xs, rest) := by
  rw [decVal, if_neg (by decide), if_pos rfl, encV, rdNat_size _ _ hsz]
  simp only [toSigned32_small _ hsz, size_endRem, ih]

/-- One element of a document: type byte, key, NUL, payload; then the rest of the elements. -/
theorem decElems_cons {f : Nat} {t : UInt8} {kb bs tail r : Bytes} {k : String} {v : V} {fs : List (String × V)}
    {endRem : Int} (ht : t ≠ 0) (hkb : kb.contains 0 = false) (hk : bytesStr? kb = some k)
    (hv : decVal f t.toNat bs = some (v, tail)) (hr : decElems f tail endRem = some (fs, r)) :
    decElems (f + 1) (t :: (kb ++ 0 :: bs)) endRem = some ((k, v) :: fs, r) := by
  rw [decElems, if_neg ht, splitNul_append _ _ hkb]
  simp only [hk, hv, hr]

/-- One element of an array: as in a document, with the key skipped. -/
theorem decArr_cons {f : Nat} {t : UInt8} {kb bs tail r : Bytes} {v : V} {xs : List V} {endRem : Int}
    (ht : t ≠ 0) (hkb : kb.contains 0 = false)
    (hv : decVal f t.toNat bs = some (v, tail)) (hr : decArr f tail endRem = some (xs, r)) :
    decArr (f + 1) (t :: (kb ++ 0 :: bs)) endRem = some (v :: xs, r) := by
  rw [decArr, if_neg ht, splitNul_append _ _ hkb]
  simp only [hv, hr]

theorem decVal_sc (v : V) (hw : wfEnc v = true) (fuel : Nat) (rest : Bytes) (hf : 0 < fuel)
    (h3 : v.typ ≠ 3) (h4 : v.typ ≠ 4) : decVal fuel v.typ (encV v ++ rest) = some (v, rest) := by
  obtain ⟨f, rfl⟩ := Nat.exists_eq_succ_of_ne_zero (Nat.ne_of_gt hf)
  rw [decVal_scalar f _ _ h3 h4]
  exact decScalar_enc v rest hw h3 h4

/- The decoder inverts the encoder, by recursion on the value as the encoder goes.  Containers spend one
   unit of fuel and hand the rest to the element loop; an element spends one and gives the same rest to
   its value and to the remaining elements (`need` adds these up). -/
mutual
theorem decVal_enc (v : V) (hw : wfEnc v = true) (fuel : Nat) (rest : Bytes) (hf : need v ≤ fuel) :
    decVal fuel v.typ (encV v ++ rest) = some (v, rest) := by
  match v, fuel with
  | .doc fs, 0 => simp [need] at hf
  | .arr xs, 0 => simp [need] at hf
  | .doc fs, f + 1 =>
    simp only [wfEnc, Bool.and_eq_true, decide_eq_true_eq] at hw
    simp only [need] at hf
    exact decVal_doc_step fs f rest hw.2 (decElems_enc fs hw.1 f rest (by omega))
  | .arr xs, f + 1 =>
    simp only [wfEnc, Bool.and_eq_true, decide_eq_true_eq] at hw
    simp only [need] at hf
    exact decVal_arr_step xs f rest hw.2 (decArr_enc xs 0 hw.1 f rest (by omega))
  | .null, f | .missing, f | .i32 _, f | .i64 _, f | .f64 _, f | .dec _ _, f | .str _, f | .bin _ _, f
  | .oid _, f | .bool _, f | .date _, f | .ts _ _, f | .regex _ _, f =>
    exact decVal_sc _ hw f rest hf (Nat.ne_of_beq_eq_false rfl) (Nat.ne_of_beq_eq_false rfl)
theorem decElems_enc (fs : List (String × V)) (hw : wfEncFields fs = true) (fuel : Nat) (rest : Bytes)
    (hf : needFields fs ≤ fuel) :
    decElems fuel (encElems fs ++ 0 :: rest) rest.length = some (fs, rest) := by
  match fs, fuel with
  | [], 0 => simp [needFields] at hf
  | _ :: _, 0 => simp [needFields] at hf
  | [], f + 1 => simp [encElems, decElems]
  | (k, v) :: r, f + 1 =>
    simp only [wfEncFields, Bool.and_eq_true] at hw
    simp only [needFields] at hf
    rw [encElems, List.cons_append, List.append_assoc, List.cons_append, List.append_assoc]
    exact decElems_cons (tyByte_ne_zero v) (noNul_contains hw.1.1) (bytesStr?_strBytes k)
      (tyByte_toNat v ▸ decVal_enc v hw.1.2 f _ (by omega)) (decElems_enc r hw.2 f rest (by omega))
theorem decArr_enc (xs : List V) (i : Nat) (hw : wfEncList xs = true) (fuel : Nat) (rest : Bytes)
    (hf : needList xs ≤ fuel) :
    decArr fuel (encArr i xs ++ 0 :: rest) rest.length = some (xs, rest) := by
  match xs, fuel with
  | [], 0 => simp [needList] at hf
  | _ :: _, 0 => simp [needList] at hf
  | [], f + 1 => simp [encArr, decArr]
  | v :: r, f + 1 =>
    simp only [wfEncList, Bool.and_eq_true] at hw
    simp only [needList] at hf
    rw [encArr, List.cons_append, List.append_assoc, List.cons_append, List.append_assoc]
    exact decArr_cons (tyByte_ne_zero v) (idxKey_noNul i)
      (tyByte_toNat v ▸ decVal_enc v hw.1 f _ (by omega)) (decArr_enc r (i + 1) hw.2 f rest (by omega))
end

mutual
theorem need_le (v : V) : need v ≤ (encV v).length + 1 := by
  match v with
  | .doc fs =>
    have := needFields_le fs
    simp only [need, encV, List.length_append, leBytes_length, List.length_cons, List.length_nil]
    omega
  | .arr xs =>
    have := needList_le xs 0
    simp only [need, encV, List.length_append, leBytes_length, List.length_cons, List.length_nil]
    omega
  | .null | .missing | .i32 _ | .i64 _ | .f64 _ | .dec _ _ | .str _ | .bin _ _ | .oid _
  | .bool _ | .date _ | .ts _ _ | .regex _ _ => simp [need]
theorem needFields_le (fs : List (String × V)) : needFields fs ≤ (encElems fs).length + 1 := by
  match fs with
  | [] => simp [needFields]
  | (k, v) :: r =>
    have := need_le v
    have := needFields_le r
    simp only [needFields, encElems, List.length_append, List.length_cons]
    omega
theorem needList_le (xs : List V) (i : Nat) : needList xs ≤ (encArr i xs).length + 1 := by
  match xs with
  | [] => simp [needList]
  | v :: r =>
    have := need_le v
    have := needList_le r (i + 1)
    simp only [needList, encArr, List.length_append, List.length_cons]
    omega
end

/-- `bson.Unmarshal (bson.Marshal d) = d` on the model, for every well-formed document. -/
theorem decDoc_encDoc (d : Doc) (hw : wfEncDoc d = true) : decDoc (encDoc d) = some d := by
  simp only [wfEncDoc, wfEnc, Bool.and_eq_true, decide_eq_true_eq] at hw
  obtain ⟨hfs, hsz⟩ := hw
  have hshape : encDoc d = leBytes 4 ((encElems d).length + 5) ++ (encElems d ++ [0]) := by rw [encDoc, encV]
  have hlen : (encDoc d).length = (encElems d).length + 5 := by
    rw [hshape, List.length_append, leBytes_length, List.length_append]; simp only [List.length_cons, List.length_nil]
    omega
  have hel : decElems ((encElems d).length + 5 + 1) (encElems d ++ [0]) 0 = some (d, []) :=
    decElems_enc d hfs _ [] (by have := needFields_le d; omega)
  have hrd : rdNat 4 (encDoc d) = some ((encElems d).length + 5, encElems d ++ [0]) := by
    rw [hshape, ← List.append_nil (_ ++ _)]
    exact rdNat_size (encElems d) [] hsz
  rw [decDoc, hrd]
  simp only [toSigned32_small _ hsz, hlen, ne_eq, not_true_eq_false, if_false]
  rw [hel]

end Lungo.Bson
