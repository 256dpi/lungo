/-
  Lungo.Proofs.ArithLaws — the type-promotion table of `Add` / `Mul` (bsonkit/math.go), used by C11.
-/
import Lungo.Model.Arith
namespace Lungo

/-- the numeric BSON types; `V.numTy v = none` when `v` is not a number. -/
inductive NumTy where
  | int32 | int64 | double | decimal
deriving Repr, DecidableEq

def V.numTy : V → Option NumTy
  | .i32 _ => some .int32
  | .i64 _ => some .int64
  | .f64 _ => some .double
  | .dec _ _ => some .decimal
  | _ => none

/-- the exact integer payload of an integer value. -/
def V.intVal : V → Int
  | .i32 n => n
  | .i64 n => n
  | _ => 0

theorem inI32_iff (n : Int) : inI32 n = true ↔ (-2147483648 ≤ n ∧ n ≤ 2147483647) := by
  unfold inI32 i32Min i32Max; rw [Bool.and_eq_true, decide_eq_true_iff, decide_eq_true_iff]

theorem inI64_iff (n : Int) : inI64 n = true ↔ (-9223372036854775808 ≤ n ∧ n ≤ 9223372036854775807) := by
  unfold inI64 i64Min i64Max; rw [Bool.and_eq_true, decide_eq_true_iff, decide_eq_true_iff]

theorem inI64_of_inI32 {n : Int} (h : inI32 n = true) : inI64 n = true := by
  rw [inI32_iff] at h; rw [inI64_iff]; omega

theorem add_i32_inI64 {a b : Int} (ha : inI32 a = true) (hb : inI32 b = true) : inI64 (a + b) = true := by
  rw [inI32_iff] at ha hb; rw [inI64_iff]; omega

/-- |a·b| ≤ 2^31 · 2^31 = 2^62 -/
theorem mul_i32_inI64 {a b : Int} (ha : inI32 a = true) (hb : inI32 b = true) : inI64 (a * b) = true := by
  rw [inI32_iff] at ha hb; rw [inI64_iff]
  have h1 : a.natAbs ≤ 2147483648 := by omega
  have h2 : b.natAbs ≤ 2147483648 := by omega
  have h3 : (a * b).natAbs ≤ 2147483648 * 2147483648 := by
    rw [Int.natAbs_mul]; exact Nat.mul_le_mul h1 h2
  omega

theorem intResult_narrow (r : Int) (h : inI64 r = true) :
    intResult false r = if inI32 r then .i32 r else .i64 r := by
  unfold intResult
  by_cases h1 : inI32 r = true <;> simp [h1, h]

theorem intResult_wide (r : Int) :
    intResult true r = if inI64 r then .i64 r else .missing := by
  unfold intResult; simp

theorem intResult_wf (w : Bool) (r : Int) : (intResult w r).wf = true := by
  unfold intResult
  by_cases h1 : (!w && inI32 r) = true
  · rw [if_pos h1]; simp at h1; simp [V.wf, h1.2]
  · rw [if_neg h1]
    by_cases h2 : inI64 r = true
    · rw [if_pos h2]; simp [V.wf, h2]
    · rw [if_neg h2]; simp [V.wf]

theorem decToD128_isDec (d : SDec) : ∃ h l, some (decToD128 d) = some (.dec h l) := by
  unfold decToD128
  split <;> exact ⟨_, _, rfl⟩

theorem decToD128_wf (d : SDec) : (decToD128 d).wf = true := by
  unfold decToD128
  split <;> rfl

/-- the result-type table of `Add`/`Mul`, as a predicate on (a, b, result) parameterised by the
    exact integer operation `op` (`+` or `*`). -/
def ArithTable (op : Int → Int → Int) (a b : V) (res : Option V) : Prop :=
  match a.numTy, b.numTy with
  | some .int32, some .int32 =>
      -- int32 unless the exact result leaves int32, then int64; never rejected
      res = some (if inI32 (op a.intVal b.intVal) then .i32 (op a.intVal b.intVal) else .i64 (op a.intVal b.intVal))
        ∧ inI64 (op a.intVal b.intVal) = true
  | some .int32, some .int64 | some .int64, some .int32 | some .int64, some .int64 =>
      -- int64 iff the exact result is an int64, else rejected (Missing)
      res = some (if inI64 (op a.intVal b.intVal) then .i64 (op a.intVal b.intVal) else .missing)
  | some .double, some .int32 | some .double, some .int64 | some .double, some .double
  | some .int32, some .double | some .int64, some .double =>
      ∃ r, res = some (.f64 r)
  | some .decimal, some .int32 | some .decimal, some .int64 | some .decimal, some .decimal
  | some .int32, some .decimal | some .int64, some .decimal =>
      ∃ h l, res = some (.dec h l)
  | some .double, some .decimal | some .decimal, some .double =>
      res = none          -- decimal.NewFromFloat: not modelled
  | none, _ | _, none =>
      res = some .missing -- not a number: rejected

/-- `Add` and `Mul` are one table with three operations plugged in: the exact integer operation, the
    IEEE operation on bit patterns and the shopspring operation.  The laws are proved of the table. -/
def arith (iop : Int → Int → Int) (fop : UInt64 → UInt64 → UInt64) (dop : SDec → SDec → SDec) (num arg : V) :
    Option V :=
  match num, arg with
  | .i32 a, .i32 b => some (intResult false (iop a b))
  | .i32 a, .i64 b => some (intResult true (iop a b))
  | .i32 a, .f64 b => some (.f64 (fop (f64OfInt a) b))
  | .i32 a, .dec h l => some (decToD128 (dop (sdecOfInt a) (sdecOfD128 h l)))
  | .i64 a, .i32 b => some (intResult true (iop a b))
  | .i64 a, .i64 b => some (intResult true (iop a b))
  | .i64 a, .f64 b => some (.f64 (fop (f64OfInt a) b))
  | .i64 a, .dec h l => some (decToD128 (dop (sdecOfInt a) (sdecOfD128 h l)))
  | .f64 a, .i32 b => some (.f64 (fop a (f64OfInt b)))
  | .f64 a, .i64 b => some (.f64 (fop a (f64OfInt b)))
  | .f64 a, .f64 b => some (.f64 (fop a b))
  | .f64 _, .dec _ _ => none
  | .dec h l, .i32 b => some (decToD128 (dop (sdecOfD128 h l) (sdecOfInt b)))
  | .dec h l, .i64 b => some (decToD128 (dop (sdecOfD128 h l) (sdecOfInt b)))
  | .dec _ _, .f64 _ => none
  | .dec h l, .dec h' l' => some (decToD128 (dop (sdecOfD128 h l) (sdecOfD128 h' l')))
  | _, _ => some .missing

theorem Add_eq_arith (a b : V) : Add a b = arith (· + ·) f64Add SDec.add a b := rfl

theorem Mul_eq_arith (a b : V) : Mul a b = arith (· * ·) f64Mul SDec.mul a b := rfl

section
variable {iop : Int → Int → Int} {fop : UInt64 → UInt64 → UInt64} {dop : SDec → SDec → SDec}

/-- The table holds of `arith` for every integer operation that keeps int32 operands within int64.
    Row by row; a non-number on either side falls through to the last row of both. -/
theorem arith_table (hi : ∀ {x y}, inI32 x = true → inI32 y = true → inI64 (iop x y) = true)
    (a b : V) (wa : a.wf = true) (wb : b.wf = true) : ArithTable iop a b (arith iop fop dop a b) := by
  cases a with
  | i32 x => cases b with
    | i32 y => exact ⟨congrArg some (intResult_narrow _ (hi wa wb)), hi wa wb⟩
    | i64 y => exact congrArg some (intResult_wide _)
    | f64 y => exact ⟨_, rfl⟩
    | dec h l => exact decToD128_isDec _
    | _ => exact rfl
  | i64 x => cases b with
    | i32 y | i64 y => exact congrArg some (intResult_wide _)
    | f64 y => exact ⟨_, rfl⟩
    | dec h l => exact decToD128_isDec _
    | _ => exact rfl
  | f64 x => cases b with
    | i32 y | i64 y | f64 y => exact ⟨_, rfl⟩
    | _ => exact rfl
  | dec h l => cases b with
    | i32 y | i64 y | dec _ _ => exact decToD128_isDec _
    | _ => exact rfl
  | _ => exact rfl

theorem arith_result_wf (a b r : V) (h : arith iop fop dop a b = some r) : r.wf = true := by
  unfold arith at h
  split at h <;> cases h <;> simp only [intResult_wf, decToD128_wf, V.wf]

end

end Lungo
