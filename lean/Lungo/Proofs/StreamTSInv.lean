/-
  Lungo.Proofs.StreamTSInv — the combined inductive invariant holds in every reachable state.
-/
import Lungo.Proofs.StreamTSDrop
namespace Lungo.StreamTS

/-- The field letters: `pc` program counters, `h` holders of the stream mutex, `sg` signal channel, `m` single
    consumer (`multi = false`), `sp` send pending, `w` wake-up, `e` `Engine.Close`, `g` global history, `d` delivered
    data, `df` default state of uncreated streams, `v3` / `v` invalidation by a drop event, `l` lost position. -/
structure Inv (s : State) : Prop where
  pc : InvPC s
  h  : InvH s
  sg : InvS s
  m  : InvM s
  sp : InvSP s
  w  : InvW s
  e  : InvE s
  g  : InvG s
  d  : InvD s
  df : InvDef s
  v3 : InvV3 s
  v  : InvV s
  l  : InvL s

theorem Inv_init : Inv init :=
  ⟨InvPC_init, InvH_init, InvS_init, InvM_init, InvSP_init, InvW_init, InvE_init, InvG_init,
   InvD_init, InvDef_init, InvV3_init, InvV_init, InvL_init⟩

theorem Inv_step {s s' a c} (hs : step s a c = some s') (i : Inv s) : Inv s' :=
  have h := step_cases hs
  ⟨InvPC_step h i.pc, InvH_step h i.h i.pc, InvS_step h i.sg i.sp i.pc, InvM_step h i.m i.pc,
   InvSP_step h i.sp i.h i.pc i.sg, InvW_step h i.w i.pc i.m i.sg i.h, InvE_step h i.e i.sg,
   InvG_step h i.g, InvD_step h i.g i.d, InvDef_step h i.df i.pc, InvV3_step h i.v3,
   InvV_step h i.v i.h, InvL_step h i.l i.g i.d i.h i.pc⟩

theorem reachable_inv {s : State} (h : Reachable s) : Inv s := by
  induction h with
  | init => exact Inv_init
  | step a c _ hs ih => exact Inv_step hs ih

theorem frozen {s s' : State} (hr : Reachable s) (hs : Steps s s') : Frozen s s' := by
  induction hs with
  | refl => exact .refl s
  | step a c hss h2 ih =>
    have i := reachable_inv (reachable_steps hr hss)
    exact ih.trans (frozen_step (step_cases h2) i.h i.df)

end Lungo.StreamTS
