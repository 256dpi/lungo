/-
  Lungo.Proofs.ValueTree — a value as a tree: the values directly inside it (`V.members`) and
  induction over them.
-/
import Lungo.Model.Value
namespace Lungo

/-- Induction over a value with the hypothesis for every member of a document or array. -/
theorem V.induct_mem {P : V → Prop}
    (doc : ∀ fs : List (String × V), (∀ kv ∈ fs, P kv.2) → P (.doc fs))
    (arr : ∀ xs : List V, (∀ x ∈ xs, P x) → P (.arr xs))
    (flat : ∀ v : V, v.isDoc = false → v.isArr = false → P v) (v : V) : P v :=
  V.rec (motive_1 := P) (motive_2 := fun fs => ∀ kv ∈ fs, P kv.2)
    (motive_3 := fun xs => ∀ x ∈ xs, P x) (motive_4 := fun kv => P kv.2)
    (flat _ rfl rfl) (flat _ rfl rfl) (fun _ => flat _ rfl rfl) (fun _ => flat _ rfl rfl)
    (fun _ => flat _ rfl rfl) (fun _ _ => flat _ rfl rfl) (fun _ => flat _ rfl rfl)
    doc arr
    (fun _ _ => flat _ rfl rfl) (fun _ => flat _ rfl rfl) (fun _ => flat _ rfl rfl)
    (fun _ => flat _ rfl rfl) (fun _ _ => flat _ rfl rfl) (fun _ _ => flat _ rfl rfl)
    (fun _ h => nomatch h)
    (fun _ _ h ih kv hkv => (List.mem_cons.mp hkv).elim (fun e => e ▸ h) (ih kv))
    (fun _ h => nomatch h)
    (fun _ _ h ih x hx => (List.mem_cons.mp hx).elim (fun e => e ▸ h) (ih x))
    (fun _ _ h => h) v

/-- the values directly inside a value: the field values of a document, the elements of an array -/
def V.members : V → List V
  | .doc fs => fs.map (·.2)
  | .arr xs => xs
  | _ => []

theorem V.induct {P : V → Prop} (h : ∀ v : V, (∀ w ∈ v.members, P w) → P v) : ∀ v, P v :=
  V.induct_mem
    (fun fs ih => h _ fun w hw => by
      obtain ⟨kv, hkv, rfl⟩ := List.mem_map.mp hw
      exact ih kv hkv)
    (fun xs ih => h _ ih)
    (fun v hd ha => h v fun w hw => by
      cases v <;> first | (cases hd; done) | (cases ha; done) | cases hw)

end Lungo
