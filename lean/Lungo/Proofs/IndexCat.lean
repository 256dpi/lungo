/-
  Lungo.Proofs.IndexCat — the catalog-level invariant (`Inv` + `UniqueOkCat`) is preserved by
  every transaction method of Lungo/Model/Txn.lean and every call of Lungo/Model/Api.lean.
-/
import Lungo.Proofs.IndexReject
import Lungo.Proofs.CatStep
import Lungo.Proofs.OplogLaws
import Lungo.Model.Session
namespace Lungo

variable {sch : SchemaEval} {uq : Bool}

/-- what `Good` (below) says about one namespace; `uq`: with the uniqueness clause of C07 -/
structure NsOk (sch : SchemaEval) (uq : Bool) (h : Handle) (c : Coll) (n : Nat) : Prop where
  coherent : Coherent sch c
  below : IdsBelow c.docs n
  bare : h = oplogHandle → c.indexes = []
  idIndex : h ≠ oplogHandle → IdIndexPresent c
  unique : uq = true → UniqueOk sch c
  names : NamesDistinct c

/-- the C15 invariant, together with C07 on well-formed documents when `uq = true`
    (one proof for both: `uq = false` gives the preservation of `Inv` alone) -/
def Good (sch : SchemaEval) (uq : Bool) (cat : Catalog) (n : Nat) : Prop :=
  Inv sch cat n ∧ (uq = true → UniqueOkCat sch cat)

theorem good_of_inv {cat : Catalog} {n : Nat} (g : Inv sch cat n) : Good sch false cat n :=
  ⟨g, fun h => nomatch h⟩

theorem Good.nsOk {cat : Catalog} {n : Nat} (g : Good sch uq cat n) {h : Handle} {c : Coll}
    (hm : (h, c) ∈ cat.namespaces) : NsOk sch uq h c n :=
  ⟨g.1.coherent h c hm, g.1.below h c hm, fun e => g.1.oplogBare c (e ▸ hm), g.1.idIndex h c hm, fun hu => g.2 hu h c hm,
   g.1.names h c hm⟩

theorem Good.of {cat : Catalog} {n : Nat} (hns : ∀ h c, (h, c) ∈ cat.namespaces → NsOk sch uq h c n)
    (hop : ∃ c, (oplogHandle, c) ∈ cat.namespaces) : Good sch uq cat n :=
  ⟨⟨fun h c hm => (hns h c hm).coherent, fun h c hm => (hns h c hm).below, hop,
    fun c hm => (hns _ c hm).bare rfl, fun h c hm => (hns h c hm).idIndex,
    fun h c hm => (hns h c hm).names⟩,
   fun hu h c hm => (hns h c hm).unique hu⟩

theorem Good.congr_ns {cat cat' : Catalog} {n : Nat} (g : Good sch uq cat n)
    (e : cat'.namespaces = cat.namespaces) : Good sch uq cat' n :=
  Good.of (fun _ _ hm => g.nsOk (e ▸ hm)) (e ▸ g.1.oplog)

theorem NsOk.mono {h : Handle} {c : Coll} {n m : Nat} (k : NsOk sch uq h c n) (hnm : n ≤ m) : NsOk sch uq h c m :=
  ⟨k.coherent, k.below.mono hnm, k.bare, k.idIndex, k.unique, k.names⟩

theorem Good.mono {cat : Catalog} {n m : Nat} (g : Good sch uq cat n) (hnm : n ≤ m) : Good sch uq cat m :=
  Good.of (fun _ _ hm => (g.nsOk hm).mono hnm) g.1.oplog

/-- a collection derived from a good one with the same index definitions -/
theorem NsOk.of_shape {h : Handle} {c c' : Coll} {n n' : Nat} (k : NsOk sch uq h c n)
    (hc : Coherent sch c') (hb : IdsBelow c'.docs n') (hu : uq = true → UniqueOk sch c')
    (hs : shape c'.indexes = shape c.indexes) : NsOk sch uq h c' n' := by
  refine ⟨hc, hb, ?_, ?_, hu, k.names.of_shape hs⟩
  · intro e
    have := k.bare e
    rw [this] at hs
    cases hi : c'.indexes with
    | nil => rfl
    | cons a r => rw [hi] at hs; simp [shape] at hs
  · intro e
    rw [idIndexPresent_iff, hs, ← idIndexPresent_iff]
    exact k.idIndex e

theorem NsOk.new {h : Handle} {n : Nat} (hne : h ≠ oplogHandle) : NsOk sch uq h (newColl true) n :=
  ⟨.new true, fun x hx => by simp [newColl] at hx, fun e => absurd e hne,
   fun _ => ⟨{ config := idIndexConfig, columns := [{ path := "_id", reverse := false }], entries := [] },
     by simp [newColl], rfl⟩, fun _ => .new true, .new true⟩

theorem find?_fst {κ α : Type} [BEq κ] [LawfulBEq κ] {l : List (κ × α)} {k : κ} {p : κ × α}
    (h : l.find? (·.1 == k) = some p) : (k, p.2) ∈ l := by
  have := List.find?_some h
  simp only [beq_iff_eq] at this
  exact this ▸ List.mem_of_find?_eq_some h

theorem get?_none {cat : Catalog} {h : Handle} (e : cat.get? h = none) :
    ∀ c, (h, c) ∉ cat.namespaces := by
  unfold Catalog.get? at e
  intro c hm
  simpa using List.find?_eq_none.mp (Option.map_eq_none_iff.mp e) (h, c) hm

theorem set_keeps {cat : Catalog} {h k : Handle} {coll : Coll}
    (hk : ∃ c, (k, c) ∈ cat.namespaces) : ∃ c, (k, c) ∈ (cat.set h coll).namespaces := by
  obtain ⟨c, hc⟩ := hk
  unfold Catalog.set
  split
  · by_cases e : k = h
    · exact ⟨coll, List.mem_map.mpr ⟨(k, c), hc, by simp [e]⟩⟩
    · exact ⟨c, List.mem_map.mpr ⟨(k, c), hc, by simp [e]⟩⟩
  · exact ⟨c, List.mem_append_left _ hc⟩

theorem Good.set {cat : Catalog} {n n' : Nat} {h : Handle} {coll : Coll} (g : Good sch uq cat n)
    (hnn : n ≤ n') (k : NsOk sch uq h coll n') : Good sch uq (cat.set h coll) n' := by
  refine Good.of ?_ (set_keeps g.1.oplog)
  intro h' c' hm
  rcases Catalog.mem_set hm with ⟨rfl, rfl⟩ | ⟨hm, _⟩
  · exact k
  · exact (g.nsOk hm).mono hnn

/-- the namespace a method works on: the stored one, or a new one (never for the oplog, which is
    always present) -/
theorem Good.nsOk_ensure {cat : Catalog} {n : Nat} (g : Good sch uq cat n) (h : Handle) :
    NsOk sch uq h (ensureNs cat h) n := by
  unfold Lungo.ensureNs
  cases e : cat.get? h with
  | some c => exact g.nsOk (Catalog.get?_mem e)
  | none =>
    refine .new fun eh => ?_
    obtain ⟨c, hc⟩ := g.1.oplog
    exact get?_none e c (eh ▸ hc)

theorem foldl_inv {α β : Type} (P : β → Prop) (g : β → α → β) (hg : ∀ b a, P b → P (g b a)) :
    ∀ (l : List α) (b : β), P b → P (l.foldl g b)
  | [], _, h => h
  | a :: r, b, h => foldl_inv P g hg r (g b a) (hg b a h)

/-- state of a catalog/ν pair during a method: good, and ν only moved forward from `n0` -/
def GoodFrom (sch : SchemaEval) (uq : Bool) (n0 : Nat) (cn : Catalog × Nu) : Prop :=
  Good sch uq cn.1 cn.2.nextId ∧ n0 ≤ cn.2.nextId

/-- an event joins the oplog collection: one more document with a fresh identity, still no index -/
theorem GoodFrom.appendOplog {n0 : Nat} {cn : Catalog × Nu} {h : Handle} {op : String}
    {doc : Option Doc} {ch : Option (List (String × V))} (g : GoodFrom sch uq n0 cn) :
    GoodFrom sch uq n0 (Lungo.appendOplog cn.1 cn.2 h op doc ch) := by
  obtain ⟨cat, nu⟩ := cn
  obtain ⟨g, hn⟩ := g
  obtain ⟨oc, hoc⟩ := g.1.oplog
  have k : NsOk sch uq oplogHandle ((cat.get? oplogHandle).getD (newColl false)) nu.nextId := by
    cases e : cat.get? oplogHandle with
    | none => exact absurd hoc (get?_none e oc)
    | some c => exact g.nsOk (Catalog.get?_mem e)
  have hbare := k.bare rfl
  refine ⟨(g.set (Nat.le_succ _) (k.of_shape (c' := { (cat.get? oplogHandle).getD (newColl false) with
      docs := ((cat.get? oplogHandle).getD (newColl false)).docs ++
        [⟨nu.nextId, oplogEvent (cat.clock + 1) h op doc ch⟩] })
    ⟨k.coherent.1.append_fresh k.below.fresh, fun n i hm => by simp only [hbare] at hm; cases hm⟩
    k.below.append_fresh (fun _ n i hm => by simp only [hbare] at hm; cases hm) rfl)).congr_ns rfl,
    Nat.le_succ_of_le hn⟩

theorem NsOk.insert {h : Handle} {c c' : Coll} {d : Doc} {nu nu' : Nu} {sd : SDoc}
    (k : NsOk sch uq h c nu.nextId) (e : c.insert sch d nu = .ok (c', sd, nu')) :
    NsOk sch uq h c' nu'.nextId ∧ nu.nextId ≤ nu'.nextId := by
  obtain ⟨h1, h2⟩ := Coherent.insert k.coherent k.below e
  refine ⟨k.of_shape h1 h2 (fun hu => UniqueOk.insert k.coherent (k.unique hu) e) (insert_shape e), ?_⟩
  obtain ⟨_, _, _, _, _, _, _, rfl⟩ := Coll.insert_ok e
  exact Nat.le_succ _

theorem NsOk.upsert {ac : ACtx} {h : Handle} {c c' : Coll} {q : Doc} {repl update : Option Doc}
    {filters : List Doc} {nu nu' : Nu} {sd : SDoc}
    (k : NsOk ac.sch uq h c nu.nextId) (e : c.upsert ac q repl update filters nu = .ok (c', sd, nu')) :
    NsOk ac.sch uq h c' nu'.nextId ∧ nu.nextId ≤ nu'.nextId := by
  obtain ⟨doc, e⟩ := upsert_spec e
  exact k.insert e

theorem NsOk.replace {h : Handle} {c : Coll} {q repl : Doc} {sort : Option Doc} {nu nu' : Nu}
    {res : CResult} (k : NsOk sch uq h c nu.nextId) (e : c.replace sch q repl sort nu = .ok (res, nu')) :
    NsOk sch uq h res.coll nu'.nextId ∧ nu.nextId ≤ nu'.nextId := by
  obtain ⟨h1, h2, h3⟩ := Coherent.replace k.coherent k.below e
  exact ⟨k.of_shape h1 h2 (fun hu => UniqueOk.replace k.coherent (k.unique hu) e) (replace_shape k.coherent e), h3⟩

theorem NsOk.update {ac : ACtx} {h : Handle} {c : Coll} {q u : Doc} {sort : Option Doc}
    {skip limit : Int} {filters : List Doc} {nu nu' : Nu} {res : CResult}
    (k : NsOk ac.sch uq h c nu.nextId) (e : c.update ac q u sort skip limit filters nu = .ok (res, nu')) :
    NsOk ac.sch uq h res.coll nu'.nextId ∧ nu.nextId ≤ nu'.nextId := by
  obtain ⟨h1, h2, h3⟩ := Coherent.update k.coherent k.below e
  exact ⟨k.of_shape h1 h2 (fun hu => UniqueOk.update k.coherent k.below (k.unique hu) e) (update_shape e), h3⟩

theorem NsOk.delete {h : Handle} {c c' : Coll} {q : Doc} {sort : Option Doc} {skip limit : Int}
    {list : List SDoc} {n : Nat} (k : NsOk sch uq h c n) (e : c.delete sch q sort skip limit = .ok (c', list)) :
    NsOk sch uq h c' n := by
  obtain ⟨h1, h2⟩ := Coherent.delete k.coherent e
  exact k.of_shape h1 (h2 n k.below) (fun hu => UniqueOk.delete (k.unique hu) e) (delete_shape e)

theorem NsOk.createIndex {h : Handle} {c c' : Coll} {name name' : String} {config : IndexConfig}
    {n : Nat} (k : NsOk sch uq h c n) (hne : h ≠ oplogHandle)
    (e : c.createIndex sch name config = .ok (c', name')) : NsOk sch uq h c' n := by
  obtain ⟨h1, h2⟩ := Coherent.createIndex k.coherent e
  refine ⟨h1, by rw [h2]; exact k.below, fun e' => absurd e' hne, fun _ => ?_,
    fun hu => UniqueOk.createIndex k.coherent (k.unique hu) e, k.names.createIndex e⟩
  obtain ⟨i, hi, hc⟩ := k.idIndex hne
  exact ⟨i, createIndex_keeps e _ hi, hc⟩

theorem NsOk.dropIndex {h : Handle} {c c' : Coll} {name : String} {dropped : List String}
    {n : Nat} (k : NsOk sch uq h c n) (hne : h ≠ oplogHandle)
    (e : c.dropIndex name = .ok (c', dropped)) : NsOk sch uq h c' n := by
  obtain ⟨h1, h2⟩ := Coherent.dropIndex k.coherent e
  refine ⟨h1, by rw [h2]; exact k.below, fun e' => absurd e' hne, fun _ => ?_,
    fun hu => UniqueOk.dropIndex (k.unique hu) e, k.names.dropIndex e⟩
  obtain ⟨i, hi, hc⟩ := k.idIndex hne
  exact ⟨i, dropIndex_keeps_id e i hi, hc⟩

/-- a collection method keeps what `Good` says about the namespace, and ν does not go back -/
theorem CollStep.nsOk {ac : ACtx} {h : Handle} {a b : Coll × Nu} (s : CollStep ac h a b)
    (k : NsOk ac.sch uq h a.1 a.2.nextId) : NsOk ac.sch uq h b.1 b.2.nextId ∧ a.2.nextId ≤ b.2.nextId := by
  cases s with
  | insert e => exact k.insert e
  | upsert e => exact k.upsert e
  | replace e => exact k.replace e
  | update e => exact k.update e
  | delete e => exact ⟨k.delete e, Nat.le_refl _⟩
  | manage hne m =>
    refine ⟨?_, Nat.le_refl _⟩
    cases m with
    | same => exact k
    | createIndex e => exact k.createIndex hne e
    | dropIndex e => exact k.dropIndex hne e

theorem GoodFrom.trans {n0 n1 : Nat} {cn : Catalog × Nu} (g : GoodFrom sch uq n1 cn) (h : n0 ≤ n1) :
    GoodFrom sch uq n0 cn := ⟨g.1, Nat.le_trans h g.2⟩

theorem Good.base {cat : Catalog} {n : Nat} {h : Handle} (g : Good sch uq cat n) (hne : h ≠ oplogHandle) :
    Good sch uq (if (cat.get? h).isSome then cat else cat.set h (newColl true)) n := by
  split
  · exact g
  · exact g.set (Nat.le_refl _) (.new hne)

theorem Good.filter {cat : Catalog} {n : Nat} (g : Good sch uq cat n) (p : Handle × Coll → Bool)
    (hp : ∀ c, (oplogHandle, c) ∈ cat.namespaces → p (oplogHandle, c) = true) :
    Good sch uq { cat with namespaces := cat.namespaces.filter p } n := by
  refine Good.of (fun h c hm => g.nsOk (List.mem_filter.mp hm).1) ?_
  obtain ⟨c, hc⟩ := g.1.oplog
  exact ⟨c, List.mem_filter.mpr ⟨hc, hp c hc⟩⟩

/-- the invariant survives every step (`CatStep`): with `Txn.*_steps` and `runCall_steps` this is its
    preservation by every transaction method and every driver call -/
theorem CatStep.good {ac : ACtx} {strict : Prop} {a b : Catalog × Nu} (s : CatStep ac strict a b) :
    Good ac.sch uq a.1 a.2.nextId → GoodFrom ac.sch uq a.2.nextId b := by
  induction s with
  | refl a => exact fun g => ⟨g, Nat.le_refl _⟩
  | trans _ _ ih1 ih2 => exact fun g => (ih2 (ih1 g).1).trans (ih1 g).2
  | discard _ ih => exact fun g => ⟨g.mono (ih g).2, (ih g).2⟩
  | write _ k => exact fun g => let ⟨k', hle⟩ := k.nsOk (g.nsOk_ensure _); ⟨g.set hle k', hle⟩
  | filter p hp => exact fun g => ⟨g.filter p fun c _ => hp c, Nat.le_refl _⟩
  | oplog => exact fun g => GoodFrom.appendOplog ⟨g, Nat.le_refl _⟩

theorem Good.insertOne {cat cat' : Catalog} {h : Handle} {d d' : Doc} {nu nu' : Nu}
    (g : Good sch uq cat nu.nextId) (hne : h ≠ oplogHandle)
    (e : insertOne sch cat h d nu = .ok (cat', d', nu')) : GoodFrom sch uq nu.nextId (cat', nu') :=
  (insertOne_steps (ac := acOf sch) (strict := False) (fun _ => hne) e).good g

/-- `Inv` alone (C15) along the steps of a method, in the form the transaction-level theorems state -/
theorem CatStep.inv {ac : ACtx} {a b : Catalog × Nu} (s : CatStep ac False a b)
    (hi : Inv ac.sch a.1 a.2.nextId) : Inv ac.sch b.1 b.2.nextId ∧ a.2.nextId ≤ b.2.nextId :=
  let g := s.good (good_of_inv hi); ⟨g.1.1, g.2⟩

/-- … for the methods that take no ν (collection and index management) -/
theorem CatStep.inv_at {ac : ACtx} {cat cat' : Catalog} {n : Nat}
    (s : ∀ nu, CatStep ac False (cat, nu) (cat', nu)) (hi : Inv ac.sch cat n) : Inv ac.sch cat' n :=
  ((s ⟨n, []⟩).inv hi).1

/-- one driver call on a transaction (plain call or inside a session) preserves the invariant of
    the transaction's catalog -/
theorem Good.runCall {t t' : Txn} {nu nu' : Nu} {c : Call} {r : Reply}
    (g : Good sch uq t.catalog nu.nextId)
    (e : runCall sch t nu c = .ok (t', nu', r)) : GoodFrom sch uq nu.nextId (t'.catalog, nu') :=
  (runCall_steps e).good g

def SysGood (sch : SchemaEval) (uq : Bool) (s : Sys) : Prop := Good sch uq s.catalog s.nextId

theorem SysGood.commit {s : Sys} {t : Txn} {nu' : Nu} (g : SysGood sch uq s)
    (k : GoodFrom sch uq s.nextId (t.catalog, nu')) : SysGood sch uq (s.commit t nu') := by
  unfold Sys.commit SysGood
  split
  · exact k.1
  · exact g.mono k.2

theorem SysGood.commit0 {s : Sys} {t : Txn} {oids : List V} (g : SysGood sch uq s)
    (k : Good sch uq t.catalog s.nextId) : SysGood sch uq (s.commit t (s.nu oids)) :=
  g.commit ⟨k, Nat.le_refl _⟩

theorem SysGood.init : SysGood sch uq Sys.init := by
  refine Good.of ?_ ⟨newColl false, by simp [Sys.init, newCatalog]⟩
  intro h c hm
  simp only [Sys.init, newCatalog, List.mem_singleton, Prod.mk.injEq] at hm
  obtain ⟨rfl, rfl⟩ := hm
  exact ⟨.new false, fun x hx => by simp [newColl] at hx, fun _ => rfl, fun e => absurd rfl e, fun _ => .new false, .new false⟩

theorem SysGood.runCall {s : Sys} {c : Call} {oids : List V} {t : Txn} {nu : Nu} {r : Reply}
    (g : SysGood sch uq s) (e : runCall sch { catalog := s.catalog } (s.nu oids) c = .ok (t, nu, r)) :
    GoodFrom sch uq s.nextId (t.catalog, nu) :=
  Good.runCall (t := { catalog := s.catalog }) (nu := s.nu oids) g e

theorem SysGood.step {s s' : Sys} {c : Call} {oids : List V} {r : Reply} (g : SysGood sch uq s)
    (e : Sys.step sch s c oids = .ok (s', r)) : SysGood sch uq s' := by
  obtain ⟨t, nu, he, rfl⟩ := Sys.step_ok e
  exact g.commit (g.runCall he)

theorem SysGood.run {s : Sys} (g : SysGood sch uq s) (calls : List (Call × List V)) :
    SysGood sch uq (Sys.run sch s calls) := by
  unfold Sys.run
  refine foldl_inv (SysGood sch uq) _ ?_ calls s g
  intro b a hb
  split
  · rename_i s' r he; exact hb.step he
  · exact hb

def SGood (sch : SchemaEval) (uq : Bool) (s : SSys) : Prop :=
  SysGood sch uq s.sys ∧
  ∀ k st t, (k, st) ∈ s.sessions → st.txn = some t → Good sch uq t.catalog s.sys.nextId

theorem sess_txn {s : SSys} {k : Nat} {t : Txn} (h : (s.sess k).txn = some t) :
    ∃ st, (k, st) ∈ s.sessions ∧ st.txn = some t := by
  unfold SSys.sess at h
  cases hf : s.sessions.find? (·.1 == k) with
  | none => rw [hf] at h; cases h
  | some p => rw [hf] at h; exact ⟨p.2, find?_fst hf, h⟩

theorem mem_setSess {s : SSys} {k k' : Nat} {st st' : SessState}
    (hm : (k', st') ∈ (s.setSess k st).sessions) : st' = st ∨ (k', st') ∈ s.sessions := by
  rw [SSys.setSess, apply_ite SSys.sessions] at hm
  exact (mem_assocPut hm).imp (·.2) (·.1)

@[simp] theorem setSess_sys (s : SSys) (k : Nat) (st : SessState) : (s.setSess k st).sys = s.sys := by
  unfold SSys.setSess; split <;> rfl

/-- a step of the session-level system: the new committed state is good, ν did not go back, and
    every open transaction was open before or is good -/
theorem SGood.next {s s' : SSys} (g : SGood sch uq s) (hs : SysGood sch uq s'.sys)
    (hle : s.sys.nextId ≤ s'.sys.nextId)
    (h : ∀ k st t, (k, st) ∈ s'.sessions → st.txn = some t →
      (k, st) ∈ s.sessions ∨ Good sch uq t.catalog s'.sys.nextId) : SGood sch uq s' :=
  ⟨hs, fun k st t hm ht => (h k st t hm ht).elim (fun hm' => (g.2 k st t hm' ht).mono hle) id⟩

/-- … where one session's state was replaced -/
theorem SGood.next_setSess {s s' : SSys} {k : Nat} {st : SessState} (g : SGood sch uq s)
    (hsess : s'.sessions = (s.setSess k st).sessions) (hs : SysGood sch uq s'.sys)
    (hle : s.sys.nextId ≤ s'.sys.nextId)
    (h : ∀ t, st.txn = some t → Good sch uq t.catalog s'.sys.nextId) : SGood sch uq s' :=
  g.next hs hle fun _ _ t hm ht => by
    rcases mem_setSess (hsess ▸ hm) with rfl | hm
    · exact .inr (h t ht)
    · exact .inl hm

theorem SGood.init : SGood sch uq SSys.init :=
  ⟨SysGood.init, fun _ _ _ hm => by simp [SSys.init] at hm⟩

theorem SGood.step {s : SSys} (g : SGood sch uq s) (c : SCall) : SGood sch uq (s.step sch c).1 := by
  unfold SSys.step
  cases c with
  | start sid =>
    simp only
    split
    · exact g
    · split
      · exact g
      · split
        · exact g
        · exact g.next_setSess rfl (by simp only [setSess_sys]; exact g.1) (by simp)
            fun t ht => by cases ht; simp only [setSess_sys]; exact g.1
  | commit sid =>
    simp only
    split
    · exact g
    · split
      · exact g
      · rename_i t ht
        obtain ⟨st0, hm0, ht0⟩ := sess_txn ht
        refine g.next_setSess rfl ?_ (Nat.le_refl _) (fun t h => by cases h)
        show Good sch uq (if t.dirty then t.catalog else s.sys.catalog) s.sys.nextId
        split
        · exact g.2 sid st0 t hm0 ht0
        · exact g.1
  | abort sid =>
    simp only
    split
    · exact g
    · split
      · exact g
      · exact g.next_setSess rfl (by simp only [setSess_sys]; exact g.1) (by simp) (fun t h => by cases h)
  | endSession sid =>
    simp only
    split
    · exact g
    · refine SGood.next_setSess (s := match (s.sess sid).txn with
          | none => s
          | some _ => { s with holder := none }) ?_ rfl ?_ ?_ (fun t h => by cases h)
      · split
        · exact g
        · exact ⟨g.1, g.2⟩
      · rw [setSess_sys]; split <;> exact g.1
      · rw [setSess_sys]; exact Nat.le_refl _
  | call sid c oids =>
    simp only
    split
    · rename_i k t hact
      split
      · exact g
      · split
        · exact g
        · rename_i t' nu r he
          have ht : (s.sess k).txn = some t := by
            split at hact
            · cases hact
            · rename_i k0
              cases hx : (s.sess k0).txn with
              | none => rw [hx] at hact; cases hact
              | some t0 =>
                rw [hx] at hact
                simp only [Option.map_some, Option.some.injEq, Prod.mk.injEq] at hact
                obtain ⟨rfl, rfl⟩ := hact
                exact hx
          obtain ⟨st0, hm0, ht0⟩ := sess_txn ht
          obtain ⟨g1, hle⟩ := Good.runCall (nu := ⟨s.sys.nextId, oids⟩) (g.2 k st0 t hm0 ht0) he
          exact g.next_setSess rfl (g.1.mono hle) hle fun t'' ht'' => by cases ht''; exact g1
    · split
      · exact g
      · split
        · exact g
        · split
          · exact g
          · rename_i sys' r he
            obtain ⟨t1, nu1, hr, rfl⟩ := Sys.step_ok he
            exact g.next (g.1.step he) (g.1.runCall hr).2 fun _ _ _ hm _ => .inl hm

end Lungo
