/-
  Lungo.Proofs.NoPanic2 — the no-panic lemmas of the layers above Match / Apply:
  Project, Sort, Collection, Transaction, the driver calls (Api) and the session layer.
  One lemma per model function, named `<function>_np`; after them the bounds that keep `resolve`
  and `put` from running away (`resolve_fuel_stable`, `put_index_rejected`, `put_index_guard`) and
  what a caller observes of a sequence of calls (`Sys.trace`, `Sys.after`, `SSys.trace`).

  `NP r` (from Proofs/NoPanic) says "the result `r` is not `.error (.panic _)`".
  Errors that a call stores INSIDE a successful result (`TResult.error`, the `errors` of a
  bulk write, the `err` of `insertMany`) are covered as well: `TResult.NP`, `ResultsNP`, `Reply.NP`.
-/
import Lungo.Proofs.NoPanic
import Lungo.Proofs.CatStep
import Lungo.Model.Session
import Lungo.Spec.IndexSpec
namespace Lungo

/-- the `$jsonSchema` evaluator parameter reports no panic (it is `schemaUnmodelled` in the driver). -/
def SchNoPanic (sch : SchemaEval) : Prop := ∀ a b, NP (sch a b)

theorem projectCondition_np (s : PState) (path : String) (v : V) : NP (projectCondition s path v) := by
  unfold projectCondition
  np_tree []

theorem projectSlice_np (s : PState) (d : Doc) (path : String) (v : V) : NP (projectSlice s d path v) := by
  unfold projectSlice
  np_tree []

theorem firstElemMatch_np (sch : SchemaEval) (hs : SchNoPanic sch) (query : Doc) (xs : List V) :
    NP (firstElemMatch sch query xs) := by
  induction xs with
  | nil => exact NP_ok _
  | cons item r ih => unfold firstElemMatch; np_tree [(match_np_all sch hs).2.1, ih]

theorem projectElemMatch_np (sch : SchemaEval) (hs : SchNoPanic sch) (s : PState) (d : Doc) (path : String)
    (v : V) : NP (projectElemMatch sch s d path v) := by
  unfold projectElemMatch
  np_tree [firstElemMatch_np sch hs]

theorem projOp_np (sch : SchemaEval) (hs : SchNoPanic sch) (s : PState) (d : Doc) (op path : String) (v : V) :
    NP (projOp sch s d op path v) := by
  unfold projOp
  np_tree [projectCondition_np, projectSlice_np, projectElemMatch_np sch hs]

theorem projOps_np (sch : SchemaEval) (hs : SchNoPanic sch) (s : PState) (d : Doc) (path : String)
    (l : List (String × V)) : NP (projOps sch s d path l) := by
  induction l generalizing s with
  | nil => exact NP_ok _
  | cons kv r ih => unfold projOps; np_tree [projOp_np sch hs, ih]

theorem projProcess_np (sch : SchemaEval) (hs : SchNoPanic sch) (s : PState) (d : Doc)
    (l : List (String × V)) : NP (projProcess sch s d l) := by
  induction l generalizing s with
  | nil => exact NP_ok _
  | cons kv r ih => unfold projProcess; np_tree [projOps_np sch hs, projectCondition_np, ih]

theorem Put_id_np (d : Doc) (x : V) (pre : Bool) : NP (Put d ["_id"] x pre) :=
  Put_np d _ x pre (List.cons_ne_nil _ _)

theorem putAll_np (res : Doc) (l : List (String × V)) : NP (putAll res l) := by
  induction l generalizing res with
  | nil => exact NP_ok _
  | cons kv r ih => unfold putAll; np_tree [Put_splitPath_np, ih]

/-- `mongokit.Project` -/
theorem Project_np (sch : SchemaEval) (hs : SchNoPanic sch) (d proj : Doc) : NP (Project sch d proj) := by
  unfold Project
  np_tree [projProcess_np sch hs, Put_id_np, putAll_np]

theorem columns_np (spec : Doc) : NP (columns spec) := by
  induction spec with
  | nil => exact NP_ok _
  | cons kv r ih => unfold columns; np_tree [ih]

theorem sortBySpec_np (list : List Doc) (spec : Doc) : NP (sortBySpec list spec) := by
  unfold sortBySpec
  np_tree [columns_np]

theorem partialMatches_np (sch : SchemaEval) (hs : SchNoPanic sch) (i : Index) (d : Doc) :
    NP (partialMatches sch i d) := by
  unfold partialMatches
  np_tree [Match_np sch hs]

theorem Index.add_np (sch : SchemaEval) (hs : SchNoPanic sch) (i : Index) (sd : SDoc) : NP (i.add sch sd) := by
  unfold Index.add
  np_tree [partialMatches_np sch hs]

theorem Index.remove_np (sch : SchemaEval) (hs : SchNoPanic sch) (i : Index) (sd : SDoc) :
    NP (i.remove sch sd) := by
  unfold Index.remove
  np_tree [partialMatches_np sch hs]

theorem newIndex_np (config : IndexConfig) : NP (newIndex config) := by
  unfold newIndex
  np_tree [columns_np]

theorem Index.build_np (sch : SchemaEval) (hs : SchNoPanic sch) (i : Index) (l : List SDoc) :
    NP (i.build sch l) := by
  induction l generalizing i with
  | nil => exact NP_ok _
  | cons sd r ih => unfold Index.build; np_tree [Index.add_np sch hs, ih]

theorem IndexConfig.name_np (c : IndexConfig) : NP c.name := by
  unfold IndexConfig.name
  np_tree [columns_np]

theorem addToIndexes_np (sch : SchemaEval) (hs : SchNoPanic sch) (sd : SDoc) (l : List (String × Index)) :
    NP (addToIndexes sch sd l) := by
  induction l with
  | nil => exact NP_ok _
  | cons ni r ih => unfold addToIndexes; np_tree [Index.add_np sch hs, ih]

theorem removeFromIndexes_np (sch : SchemaEval) (hs : SchNoPanic sch) (sd : SDoc) (l : List (String × Index)) :
    NP (removeFromIndexes sch sd l) := by
  induction l with
  | nil => exact NP_ok _
  | cons ni r ih => unfold removeFromIndexes; np_tree [Index.remove_np sch hs, ih]

theorem filterDocs_np (sch : SchemaEval) (hs : SchNoPanic sch) (query : Doc) (limit : Nat) (l : List SDoc) :
    NP (filterDocs sch query limit l) := by
  induction l generalizing limit with
  | nil => exact NP_ok _
  | cons sd r ih => unfold filterDocs; np_tree [Match_np sch hs, ih]

theorem selectDocs_np (sch : SchemaEval) (hs : SchNoPanic sch) (c : Coll) (query : Doc) (sort : Option Doc)
    (skip limit : Int) : NP (selectDocs sch c query sort skip limit) := by
  unfold selectDocs
  np_tree [columns_np, filterDocs_np sch hs]

theorem Coll.find_np (sch : SchemaEval) (hs : SchNoPanic sch) (c : Coll) (query : Doc) (sort : Option Doc)
    (skip limit : Int) : NP (c.find sch query sort skip limit) :=
  selectDocs_np sch hs c query sort skip limit

theorem Nu.oid_np (n : Nu) : NP n.oid := by
  unfold Nu.oid
  np_tree []

theorem ensureId_np (d : Doc) (nu : Nu) : NP (ensureId d nu) := by
  unfold ensureId
  np_tree [Nu.oid_np, Put_id_np]

theorem Coll.insert_np (sch : SchemaEval) (hs : SchNoPanic sch) (c : Coll) (d : Doc) (nu : Nu) :
    NP (c.insert sch d nu) := by
  unfold Coll.insert
  np_tree [ensureId_np, addToIndexes_np sch hs]

theorem Coll.replace.upd_np (sch : SchemaEval) (hs : SchNoPanic sch) (old nw : SDoc) (l : List (String × Index)) :
    NP (Coll.replace.upd sch old nw l) := by
  induction l with
  | nil => exact NP_ok _
  | cons ni r ih => unfold Coll.replace.upd; np_tree [Index.add_np sch hs, Index.remove_np sch hs, ih]

theorem Coll.replace_np (sch : SchemaEval) (hs : SchNoPanic sch) (c : Coll) (query repl : Doc)
    (sort : Option Doc) (nu : Nu) : NP (c.replace sch query repl sort nu) := by
  unfold Coll.replace
  np_tree [selectDocs_np sch hs, Put_id_np, Coll.replace.upd_np sch hs]

theorem foldIdx_np (f : List (String × Index) → SDoc → Res (List (String × Index))) (hf : ∀ i s, NP (f i s))
    (idx : List (String × Index)) (l : List SDoc) : NP (foldIdx f idx l) := by
  induction l generalizing idx with
  | nil => exact NP_ok _
  | cons sd r ih => unfold foldIdx; np_tree [hf, ih]

theorem Coll.update.applyAll_np (ac : ACtx) (hs : SchNoPanic ac.sch) (update : Doc) (afs : List Doc) (nu : Nu)
    (l : List SDoc) : NP (Coll.update.applyAll ac update afs nu l) := by
  induction l generalizing nu with
  | nil => exact NP_ok _
  | cons sd r ih => unfold Coll.update.applyAll; np_tree [Apply_np { ac with upsert := false } hs, ih]

theorem Coll.update_np (ac : ACtx) (hs : SchNoPanic ac.sch) (c : Coll) (query update : Doc) (sort : Option Doc)
    (skip limit : Int) (afs : List Doc) (nu : Nu) : NP (c.update ac query update sort skip limit afs nu) := by
  unfold Coll.update
  np_tree [selectDocs_np ac.sch hs, Coll.update.applyAll_np ac hs, foldIdx_np, removeFromIndexes_np ac.sch hs,
    addToIndexes_np ac.sch hs]

theorem extractEq_np (doc : Doc) (path : String) (v : V) : NP (extractEq doc path v) := by
  unfold extractEq
  np_tree [Put_splitPath_np]

theorem extractIn_np (doc : Doc) (path : String) (v : V) : NP (extractIn doc path v) := by
  unfold extractIn
  np_tree [Put_splitPath_np]

theorem extractOps_np (doc : Doc) (path : String) (l : List (String × V)) : NP (extractOps doc path l) := by
  induction l generalizing doc with
  | nil => exact NP_ok _
  | cons kv r ih => unfold extractOps; np_tree [extractEq_np, extractIn_np, ih]

/-- `extractSeq` and `extractAndLoop` call each other on parts of the query (Lean derives no functional
    induction principle for the pair), hence the induction on a bound of its size. -/
theorem extract_np_all (n : Nat) :
    (∀ doc query pfx root, sizeOf query ≤ n → NP (extractSeq doc query pfx root)) ∧
    (∀ doc items, sizeOf items ≤ n → NP (extractAndLoop doc items)) := by
  induction n with
  | zero => constructor <;> intro _ l <;> cases l <;> simp
  | succ n ih =>
    constructor
    · intro doc query pfx root h
      unfold extractSeq
      np_tree [Put_splitPath_np, extractIn_np, extractEq_np, extractOps_np]
      all_goals first | apply ih.1 | apply ih.2
      all_goals simp only [List.cons.sizeOf_spec, Prod.mk.sizeOf_spec, V.arr.sizeOf_spec, V.doc.sizeOf_spec] at h ⊢
      all_goals omega
    · intro doc items h
      unfold extractAndLoop
      np_tree []
      all_goals first | apply ih.1 | apply ih.2
      all_goals simp only [List.cons.sizeOf_spec, V.doc.sizeOf_spec] at h ⊢
      all_goals omega

/-- `mongokit.Extract` -/
theorem Extract_np (query : Doc) : NP (Extract query) :=
  (extract_np_all _).1 [] query "" true (Nat.le_refl _)

theorem extractSeq_np (doc : Doc) (query : List (String × V)) (pfx : String) (root : Bool) :
    NP (extractSeq doc query pfx root) :=
  (extract_np_all _).1 doc query pfx root (Nat.le_refl _)

theorem extractAndLoop_np (doc : Doc) (items : List V) : NP (extractAndLoop doc items) :=
  (extract_np_all (sizeOf items)).2 doc items (Nat.le_refl _)

theorem Coll.upsert_np (ac : ACtx) (hs : SchNoPanic ac.sch) (c : Coll) (query : Doc) (repl update : Option Doc)
    (afs : List Doc) (nu : Nu) : NP (c.upsert ac query repl update afs nu) := by
  unfold Coll.upsert
  np_tree [Extract_np, Put_id_np, Apply_np { ac with upsert := true } hs, Coll.insert_np ac.sch hs]

theorem Coll.delete_np (sch : SchemaEval) (hs : SchNoPanic sch) (c : Coll) (query : Doc) (sort : Option Doc)
    (skip limit : Int) : NP (c.delete sch query sort skip limit) := by
  unfold Coll.delete
  np_tree [selectDocs_np sch hs, foldIdx_np, removeFromIndexes_np sch hs]

theorem Coll.createIndex_np (sch : SchemaEval) (hs : SchNoPanic sch) (c : Coll) (name : String)
    (config : IndexConfig) : NP (c.createIndex sch name config) := by
  unfold Coll.createIndex
  np_tree [IndexConfig.name_np, newIndex_np, Index.build_np sch hs]

theorem Coll.dropIndex_np (c : Coll) (name : String) : NP (c.dropIndex name) := by
  unfold Coll.dropIndex
  np_tree []

def Err.isPanic : Err → Bool
  | .panic _ => true
  | _ => false

/-- an optional stored error is not a panic -/
def OptNP (e : Option Err) : Prop := ∀ site, e ≠ some (.panic site)

theorem OptNP_none : OptNP none := by intro s h; cases h

theorem OptNP_of_NP {α} {r : Res α} (h : NP r) {e : Err} (he : r = .error e) : OptNP (some e) := by
  intro s h'; cases h'; exact h s he

/-- the per-operation results of a transaction method carry no panic -/
def TResult.NP (r : TResult) : Prop := OptNP r.error

theorem TResult.NP_of_none {r : TResult} (h : r.error = none) : r.NP := by
  unfold TResult.NP; rw [h]; exact OptNP_none

theorem Handle.validate_np (h : Handle) (b : Bool) : NP (h.validate b) := by
  unfold Handle.validate
  np_tree []

theorem writable_np (h : Handle) (b : Bool) : NP (writable h b) := by
  unfold writable
  np_tree [Handle.validate_np]

theorem Txn.create_np (t : Txn) (h : Handle) : NP (t.create h) := by
  unfold Txn.create
  np_tree [writable_np]

theorem Txn.find_np (sch : SchemaEval) (hs : SchNoPanic sch) (t : Txn) (h : Handle) (query : Doc)
    (sort : Option Doc) (skip limit : Int) : NP (t.find sch h query sort skip limit) := by
  unfold Txn.find
  np_tree [Handle.validate_np, Coll.find_np sch hs]

theorem insertOne_np (sch : SchemaEval) (hs : SchNoPanic sch) (cat : Catalog) (h : Handle) (d : Doc) (nu : Nu) :
    NP (insertOne sch cat h d nu) := by
  unfold insertOne
  np_tree [Coll.insert_np sch hs]

theorem Txn.insert.go_np (sch : SchemaEval) (hs : SchNoPanic sch) (h : Handle) (ordered : Bool) (cat : Catalog)
    (nu : Nu) (acc : List Doc) (err : Option Err) (l : List Doc) (he : OptNP err) :
    OptNP (Txn.insert.go sch h ordered cat nu acc err l).2.2.2 := by
  induction l generalizing cat nu acc err with
  | nil => exact he
  | cons d r ih =>
    unfold Txn.insert.go
    split
    · rename_i e hie
      have hne : OptNP (if err.isNone = true then some e else err) := by
        split
        · exact OptNP_of_NP (insertOne_np sch hs _ _ _ _) hie
        · exact he
      simp only
      split
      · exact hne
      · exact ih _ _ _ _ hne
    · exact ih _ _ _ _ he

theorem Txn.insert_np (sch : SchemaEval) (t : Txn) (h : Handle) (list : List Doc)
    (ordered : Bool) (nu : Nu) : NP (t.insert sch h list ordered nu) := by
  unfold Txn.insert
  np_tree [writable_np]

/-- the error that `Transaction.Insert` stores in its result is no panic either -/
theorem Txn.insert_result_np (sch : SchemaEval) (hs : SchNoPanic sch) (t t' : Txn) (h : Handle) (list : List Doc)
    (ordered : Bool) (nu nu' : Nu) (r : TResult) (hr : t.insert sch h list ordered nu = .ok (t', r, nu')) :
    r.NP := by
  obtain ⟨_, g, rfl, rfl, _⟩ := Txn.insert_ok hr
  exact Txn.insert.go_np sch hs h ordered _ nu [] none list OptNP_none

theorem replaceOp_np (ac : ACtx) (hs : SchNoPanic ac.sch) (cat : Catalog) (h : Handle) (query repl : Doc)
    (sort : Option Doc) (upsert : Bool) (nu : Nu) : NP (replaceOp ac cat h query repl sort upsert nu) := by
  unfold replaceOp
  np_tree [Coll.replace_np ac.sch hs, Coll.upsert_np ac hs]

theorem updateOp_np (ac : ACtx) (hs : SchNoPanic ac.sch) (cat : Catalog) (h : Handle) (query update : Doc)
    (sort : Option Doc) (upsert : Bool) (skip limit : Int) (afs : List Doc) (nu : Nu) :
    NP (updateOp ac cat h query update sort upsert skip limit afs nu) := by
  unfold updateOp
  np_tree [Coll.update_np ac hs, Coll.upsert_np ac hs]

theorem deleteOp_np (sch : SchemaEval) (hs : SchNoPanic sch) (cat : Catalog) (h : Handle) (query : Doc)
    (sort : Option Doc) (skip limit : Int) (nu : Nu) : NP (deleteOp sch cat h query sort skip limit nu) := by
  unfold deleteOp
  np_tree [Coll.delete_np sch hs]

/-! Replace, update and delete store no error in their result: only `Transaction.Insert` and
    `Transaction.Bulk` do. -/

theorem replaceOp_result (ac : ACtx) (cat cat' : Catalog) (h : Handle) (query repl : Doc)
    (sort : Option Doc) (upsert : Bool) (nu nu' : Nu) (r : TResult)
    (hr : replaceOp ac cat h query repl sort upsert nu = .ok (cat', r, nu')) : r.error = none := by
  unfold replaceOp at hr
  simp only at hr
  repeat' split at hr
  all_goals cases hr <;> rfl

theorem updateOp_result (ac : ACtx) (cat cat' : Catalog) (h : Handle) (query update : Doc)
    (sort : Option Doc) (upsert : Bool) (skip limit : Int) (afs : List Doc) (nu nu' : Nu) (r : TResult)
    (hr : updateOp ac cat h query update sort upsert skip limit afs nu = .ok (cat', r, nu')) : r.error = none := by
  unfold updateOp at hr
  simp only at hr
  repeat' split at hr
  all_goals cases hr <;> rfl

theorem deleteOp_result (sch : SchemaEval) (cat cat' : Catalog) (h : Handle) (query : Doc)
    (sort : Option Doc) (skip limit : Int) (nu nu' : Nu) (r : TResult)
    (hr : deleteOp sch cat h query sort skip limit nu = .ok (cat', r, nu')) : r.error = none := by
  unfold deleteOp at hr
  simp only at hr
  repeat' split at hr
  all_goals cases hr <;> rfl

theorem Txn.replace_np (ac : ACtx) (hs : SchNoPanic ac.sch) (t : Txn) (h : Handle) (query : Doc)
    (sort : Option Doc) (repl : Doc) (upsert : Bool) (nu : Nu) :
    NP (t.replace ac h query sort repl upsert nu) := by
  unfold Txn.replace
  np_tree [writable_np, replaceOp_np ac hs]

theorem Txn.update_np (ac : ACtx) (hs : SchNoPanic ac.sch) (t : Txn) (h : Handle) (query : Doc)
    (sort : Option Doc) (update : Doc) (skip limit : Int) (upsert : Bool) (afs : List Doc) (nu : Nu) :
    NP (t.update ac h query sort update skip limit upsert afs nu) := by
  unfold Txn.update
  np_tree [writable_np, updateOp_np ac hs]

theorem Txn.delete_np (sch : SchemaEval) (hs : SchNoPanic sch) (t : Txn) (h : Handle) (query : Doc)
    (sort : Option Doc) (skip limit : Int) (nu : Nu) : NP (t.delete sch h query sort skip limit nu) := by
  unfold Txn.delete
  np_tree [writable_np, deleteOp_np sch hs]

theorem Txn.replace_result (ac : ACtx) (t t' : Txn) (h : Handle) (query : Doc)
    (sort : Option Doc) (repl : Doc) (upsert : Bool) (nu nu' : Nu) (r : TResult)
    (hr : t.replace ac h query sort repl upsert nu = .ok (t', r, nu')) : r.error = none := by
  obtain ⟨_, ⟨_, rfl, _⟩ | ⟨_, hop, _⟩⟩ := Txn.replace_ok hr
  · rfl
  · exact replaceOp_result _ _ _ _ _ _ _ _ _ _ _ hop

theorem Txn.update_result (ac : ACtx) (t t' : Txn) (h : Handle) (query : Doc)
    (sort : Option Doc) (update : Doc) (skip limit : Int) (upsert : Bool) (afs : List Doc) (nu nu' : Nu) (r : TResult)
    (hr : t.update ac h query sort update skip limit upsert afs nu = .ok (t', r, nu')) : r.error = none := by
  obtain ⟨_, ⟨_, rfl, _⟩ | ⟨_, hop, _⟩⟩ := Txn.update_ok hr
  · rfl
  · exact updateOp_result _ _ _ _ _ _ _ _ _ _ _ _ _ _ hop

theorem Txn.delete_result (sch : SchemaEval) (t t' : Txn) (h : Handle) (query : Doc)
    (sort : Option Doc) (skip limit : Int) (nu nu' : Nu) (r : TResult)
    (hr : t.delete sch h query sort skip limit nu = .ok (t', r, nu')) : r.error = none := by
  obtain ⟨_, ⟨_, rfl, _⟩ | ⟨_, hop, _⟩⟩ := Txn.delete_ok hr
  · rfl
  · exact deleteOp_result _ _ _ _ _ _ _ _ _ _ _ hop

/-- all stored per-operation errors are panic free -/
def ResultsNP (rs : List TResult) : Prop := ∀ r ∈ rs, TResult.NP r

theorem ResultsNP_nil : ResultsNP [] := by intro r h; cases h

theorem ResultsNP_append {a : List TResult} {r : TResult} (ha : ResultsNP a) (hr : r.NP) : ResultsNP (a ++ [r]) := by
  intro x hx
  rcases List.mem_append.mp hx with h | h
  · exact ha x h
  · cases List.mem_singleton.mp h; exact hr

/-- the loop of `Transaction.Bulk`: a failed operation stores the error of its call, a successful one the
    result of insert / replace / update / delete, which holds no error. -/
theorem Txn.bulk.go_np (ac : ACtx) (hs : SchNoPanic ac.sch) (h : Handle) (ordered : Bool) (cat : Catalog)
    (nu : Nu) (acc : List TResult) (changes : Nat) (ops : List Operation) (ha : ResultsNP acc) :
    ResultsNP (Txn.bulk.go ac h ordered cat nu acc changes ops).2.2.1 := by
  induction ops generalizing cat nu acc changes with
  | nil => exact ha
  | cons op r ih =>
    unfold Txn.bulk.go
    simp only
    split
    · rename_i e he
      have hacc : ResultsNP (acc ++ [{ error := some e }]) := by
        refine ResultsNP_append ha (OptNP_of_NP ?_ he)
        np_tree [insertOne_np ac.sch hs, replaceOp_np ac hs, updateOp_np ac hs, deleteOp_np ac.sch hs]
      split
      · exact hacc
      · exact ih _ _ _ _ hacc
    · rename_i tr _ he
      refine ih _ _ _ _ (ResultsNP_append ha (TResult.NP_of_none ?_))
      split at he
      · split at he <;> cases he <;> rfl
      · exact replaceOp_result _ _ _ _ _ _ _ _ _ _ _ he
      · exact updateOp_result _ _ _ _ _ _ _ _ _ _ _ _ _ _ he
      · exact deleteOp_result _ _ _ _ _ _ _ _ _ _ _ he

theorem Txn.bulk_np (ac : ACtx) (t : Txn) (h : Handle) (ops : List Operation) (ordered : Bool) (nu : Nu) :
    NP (t.bulk ac h ops ordered nu) := by
  unfold Txn.bulk
  np_tree [writable_np]

theorem Txn.bulk_result_np (ac : ACtx) (hs : SchNoPanic ac.sch) (t t' : Txn) (h : Handle) (ops : List Operation)
    (ordered : Bool) (nu nu' : Nu) (rs : List TResult) (hr : t.bulk ac h ops ordered nu = .ok (t', rs, nu')) :
    ResultsNP rs := by
  obtain ⟨_, g, rfl, rfl, _⟩ := Txn.bulk_ok hr
  exact Txn.bulk.go_np ac hs h ordered _ nu [] 0 ops ResultsNP_nil

theorem Txn.drop_np (t : Txn) (h : Handle) (nu : Nu) : NP (t.drop h nu) := by
  unfold Txn.drop
  np_tree [writable_np]

theorem Txn.createIndex_np (sch : SchemaEval) (hs : SchNoPanic sch) (t : Txn) (h : Handle) (name : String)
    (config : IndexConfig) : NP (t.createIndex sch h name config) := by
  unfold Txn.createIndex
  np_tree [writable_np, Coll.createIndex_np sch hs]

theorem Txn.dropIndex_np (t : Txn) (h : Handle) (name : String) : NP (t.dropIndex h name) := by
  unfold Txn.dropIndex
  np_tree [writable_np, Coll.dropIndex_np]

theorem Txn.dropIndexByKey_np (t : Txn) (h : Handle) (key : Doc) : NP (t.dropIndexByKey h key) := by
  unfold Txn.dropIndexByKey
  np_tree [writable_np, Txn.dropIndex_np]

theorem Txn.listIndexes_np (t : Txn) (h : Handle) : NP (t.listIndexes h) := by
  unfold Txn.listIndexes
  np_tree [Handle.validate_np]

theorem Txn.count_np (t : Txn) (h : Handle) : NP (t.count h) := by
  unfold Txn.count
  np_tree [Handle.validate_np]

theorem Txn.expire.go_np (sch : SchemaEval) (hs : SchNoPanic sch) (nowMs : Int) (cat : Catalog) (nu : Nu)
    (deleted : Nat) (l : List (Handle × Coll)) : NP (Txn.expire.go sch nowMs cat nu deleted l) := by
  induction l generalizing cat nu deleted with
  | nil => exact NP_ok _
  | cons hc r ih => unfold Txn.expire.go; np_tree [deleteOp_np sch hs, ih]

theorem Txn.expire_np (sch : SchemaEval) (hs : SchNoPanic sch) (t : Txn) (nowMs : Int) (nu : Nu) :
    NP (t.expire sch nowMs nu) := by
  unfold Txn.expire
  np_tree [Txn.expire.go_np sch hs]

theorem mapM_np {α β} (f : α → Res β) (hf : ∀ a, NP (f a)) (l : List α) : NP (l.mapM f) := by
  induction l with
  | nil => rw [List.mapM_nil]; exact NP_ok _
  | cons a r ih =>
    rw [List.mapM_cons]
    cases h1 : f a with
    | error e => exact NP_of_error (hf a) h1
    | ok b =>
      cases h2 : List.mapM f r with
      | error e => exact NP_of_error ih h2
      | ok bs => exact NP_ok _

theorem projList_np (sch : SchemaEval) (hs : SchNoPanic sch) (proj : Option Doc) (ds : List Doc) :
    NP (projList sch proj ds) := by
  unfold projList
  np_tree [mapM_np, Project_np sch hs]

theorem validateReplacement_np (d : Doc) : NP (validateReplacement d) := by
  unfold validateReplacement
  np_tree []

theorem projOpt_np (sch : SchemaEval) (hs : SchNoPanic sch) (proj : Option Doc) (d : Option Doc) :
    NP (projOpt sch proj d) := by
  unfold projOpt
  np_tree [Project_np sch hs]

theorem filterPlain_np (sch : SchemaEval) (hs : SchNoPanic sch) (q : Doc) (l : List Doc) :
    NP (filterPlain sch q l) := by
  induction l with
  | nil => exact NP_ok _
  | cons d r ih => unfold filterPlain; np_tree [Match_np sch hs, ih]

theorem acOf_sch (sch : SchemaEval) : (acOf sch).sch = sch := rfl

theorem runCall_np (sch : SchemaEval) (hs : SchNoPanic sch) (t0 : Txn) (nu : Nu) (c : Call) :
    NP (runCall sch t0 nu c) := by
  have hs' : SchNoPanic (acOf sch).sch := hs
  unfold runCall
  np_tree [Txn.insert_np sch, Txn.find_np sch hs, projList_np sch hs, Txn.count_np, Txn.update_np (acOf sch) hs',
    validateReplacement_np, Txn.replace_np (acOf sch) hs', Txn.delete_np sch hs, projOpt_np sch hs,
    Txn.bulk_np (acOf sch), Txn.createIndex_np sch hs, Txn.dropIndex_np, Txn.dropIndexByKey_np,
    Txn.listIndexes_np, Txn.create_np, Txn.drop_np, Handle.validate_np, filterPlain_np sch hs,
    Txn.expire_np sch hs]
  -- left: `insertOne` turns the error that `Transaction.Insert` stored in its result into its own
  intro site hc
  cases hc
  exact Txn.insert_result_np sch hs _ _ _ _ _ _ _ _ ‹_› site ‹_›

/-- errors a reply carries (insertMany's error, the bulk-write error list) are no panics -/
def Reply.NP : Reply → Prop
  | .ids _ err => OptNP err
  | .bulk _ _ _ _ _ _ errs => ∀ p ∈ errs, ∀ site, p.2 ≠ .panic site
  | _ => True

theorem updReply_np (r : TResult) : (updReply r).NP := by
  unfold updReply; split <;> trivial

/-- a fold keeps what every step keeps -/
theorem foldl_keeps {α β} {P : β → Prop} {Q : α → Prop} {f : β → α → β} (hf : ∀ b a, P b → Q a → P (f b a)) :
    ∀ (l : List α) (b : β), P b → (∀ a ∈ l, Q a) → P (l.foldl f b)
  | [], _, hb, _ => hb
  | a :: l, b, hb, hl =>
    foldl_keeps hf l _ (hf b a hb (hl a List.mem_cons_self)) fun x hx => hl x (List.mem_cons_of_mem _ hx)

theorem runCall_reply_np (sch : SchemaEval) (hs : SchNoPanic sch) (t0 t : Txn) (nu nu' : Nu) (c : Call) (r : Reply)
    (h : runCall sch t0 nu c = .ok (t, nu', r)) : r.NP := by
  have hs' : SchNoPanic (acOf sch).sch := hs
  revert h
  unfold runCall
  cases c
  case insertMany hd docs ordered =>
    simp only
    split <;> intro h <;> cases h
    exact Txn.insert_result_np sch hs _ _ _ _ _ _ _ _ ‹_›
  case bulkWrite hd models ordered =>
    -- the reply is a fold over the per-operation results; a step adds at most the error of its result
    simp only
    repeat' split
    all_goals intro h; cases h
    rename_i results _ heq
    have hres := Txn.bulk_result_np (acOf sch) hs' _ _ _ _ _ _ _ _ heq
    refine foldl_keeps (P := Reply.NP) (Q := fun p => p.2.1.NP) ?_ _ _ (fun _ hp => nomatch hp) ?_
    · intro acc ⟨i, tr, op⟩ hacc htr
      simp only
      repeat' split
      all_goals first | exact hacc | skip
      intro p hp site
      rcases List.mem_append.mp hp with hp | hp
      · exact hacc p hp site
      · cases List.mem_singleton.mp hp
        intro hc
        exact htr site (by simp only at hc; rw [← hc]; assumption)
    · intro ⟨i, tr, op⟩ hp
      exact hres tr (List.of_mem_zip (List.of_mem_zip hp).2).1
  all_goals
    simp only
    repeat' split
    all_goals intro h; cases h
    all_goals first | trivial | exact updReply_np _

theorem countDollar_eq (s : String) : countDollar s = s.toList.count '$' :=
  List.count_eq_length_filter.symm

theorem findIdx_dollar {cs : List Char} {idx : Nat} (h : cs.findIdx? (· == '$') = some idx) :
    (cs.take idx).count '$' = 0 ∧ ∃ r, cs.drop idx = '$' :: r := by
  induction cs generalizing idx with
  | nil => simp at h
  | cons c r ih =>
    rw [List.findIdx?_cons] at h
    split at h
    · cases h
      exact ⟨rfl, r, by simp_all⟩
    · cases hr : r.findIdx? (· == '$') with
      | none => simp [hr] at h
      | some j =>
        simp [hr] at h
        subst h
        have := ih hr
        simp_all

theorem count_digits (i : Nat) : (toString i).toList.count '$' = 0 := by
  show (Nat.repr i).toList.count '$' = 0
  rw [Nat.toList_repr, List.count_eq_zero]
  intro hc
  have hd := Nat.isDigit_of_mem_toDigits (by decide) (by decide) hc
  revert hd; decide

theorem buildPath_fewer_dollars (path head op : String) (tail : Option String) (i : Nat)
    (h : splitDynamicPath path = (some head, some op, tail)) :
    countDollar (buildPath head i tail) < countDollar path := by
  unfold splitDynamicPath at h
  simp only at h
  split at h
  · cases h
  · rename_i idx hidx
    obtain ⟨h0, r, hr⟩ := findIdx_dollar hidx
    have hsplit := congrArg (List.count '$') (List.take_append_drop idx path.toList)
    have htw := congrArg (List.count '$') (List.takeWhile_append_dropWhile (p := (· != '.')) (l := path.toList.drop idx))
    have hseg : 1 ≤ ((path.toList.drop idx).takeWhile (· != '.')).count '$' := by
      rw [hr, List.takeWhile_cons]; simp
    rw [List.count_append] at hsplit htw
    split at h
    · cases h
    · simp only [Prod.mk.injEq, Option.some.injEq] at h
      obtain ⟨hh, _, ht⟩ := h
      have hhead : head.toList.count '$' = 0 := by
        have := (List.take_sublist (idx - 1) (path.toList.take idx)).count_le '$'
        rw [List.take_take, Nat.min_eq_left (Nat.sub_le _ _)] at this
        rw [← hh, String.toList_ofList]
        omega
      have htail : ∀ t, tail = some t → t.toList.count '$' + 1 ≤ (path.toList.drop idx).count '$' := by
        intro t htt
        rw [htt] at ht
        split at ht
        · simp only [Option.some.injEq] at ht
          have := (List.drop_sublist 1 ((path.toList.drop idx).dropWhile (· != '.'))).count_le '$'
          rw [← ht, String.toList_ofList]
          omega
        · cases ht
      have hbase : ((if head == "" then "" else head ++ ".") ++ toString i).toList.count '$' = 0 := by
        rw [String.toList_append, List.count_append, count_digits]
        split
        · rfl
        · rw [String.toList_append, List.count_append, hhead]; rfl
      rw [countDollar_eq, countDollar_eq]
      unfold buildPath
      cases tail with
      | none => simp only; omega
      | some t =>
        have := htail t rfl
        simp only [String.toList_append, List.count_append] at hbase ⊢
        have : ".".toList.count '$' = 0 := rfl
        omega

/-- any two fuels above the number of `$` give the same result: the fuel-exhaustion branch of
    `resolve` is not what produced it. -/
theorem resolve_fuel_stable (sch : SchemaEval) (doc : Doc) (afs : List Doc) (n : Nat) :
    ∀ (m : Nat) (path : String), countDollar path < n → countDollar path < m →
      resolve sch n path doc afs = resolve sch m path doc afs := by
  induction n with
  | zero => intro m path h; omega
  | succ n ih =>
    intro m path hn hm
    cases m with
    | zero => omega
    | succ m =>
      unfold resolve
      split
      · rfl
      · rfl
      · rename_i head op tail hsp
        have hlt : ∀ i, countDollar (buildPath head i tail) < countDollar path :=
          fun i => buildPath_fewer_dollars path head op tail i hsp
        have hrec : ∀ i, resolve sch n (buildPath head i tail) doc afs = resolve sch m (buildPath head i tail) doc afs :=
          fun i => ih m _ (by have := hlt i; omega) (by have := hlt i; omega)
        simp only [hrec]

theorem insertAtIdx_length {α} (xs ys : List α) (i : Nat) : (insertAtIdx xs i ys).length = xs.length + ys.length := by
  unfold insertAtIdx
  simp only [List.length_append, List.length_take, List.length_drop]
  omega

theorem parseIndex_le_maxInt {s : String} {n : Nat} (h : parseIndex s = some n) : n ≤ maxInt := by
  unfold parseIndex at h
  simp only at h
  repeat' split at h
  all_goals first | (cases h; done) | (cases h; assumption)

/-- a key that `ParseIndex` does not accept (anything but plain digits: signed numerals such as
    "-1" or "+1" included) and `math.MaxInt` (where `index+1` would wrap) are rejected -/
theorem put_index_rejected (xs : List V) (key : String) (rest : Path) (value : V) (pre : Bool)
    (hne : ¬(key = "" ∧ rest = [])) (hbad : parseIndex key = none ∨ parseIndex key = some maxInt) :
    put (.arr xs) (key :: rest) value pre = .error .err := by
  rw [put_cons, if_pos]
  right
  rcases hbad with h | h <;> simp [admitsPut, h]

/-- a successful `put` below an array wrote the element at `index`, padding with nulls up to it: the
    key parsed as an index (so `0 ≤ index`), `index+1` does not wrap, at most `MaxArrayPadding` nulls
    are added, the new array has length `max len (index+1)`, and no element outside is accessed. -/
theorem put_index_guard (xs : List V) (key : String) (rest : Path) (value : V) (pre : Bool) (nv prev : V)
    (h : put (.arr xs) (key :: rest) value pre = .ok (nv, prev)) :
    ∃ (index : Nat) (ys : List V), parseIndex key = some index ∧ index + 1 ≤ maxInt ∧
      index ≤ xs.length + maxArrayPadding ∧
      nv = .arr ys ∧ ys.length = max xs.length (index + 1) := by
  obtain ⟨_, ha, c, _, rfl⟩ := put_cons_ok h
  cases hk : parseIndex key with
  | none => simp [admitsPut, hk] at ha
  | some index =>
    have hmax := parseIndex_le_maxInt hk
    simp only [admitsPut, hk, beq_iff_eq] at ha
    split at ha
    · cases ha
    · simp only [store, hk]
      split
      · exact ⟨index, _, rfl, by omega, by omega, rfl, by rw [List.length_set]; omega⟩
      · rw [if_neg ‹_›] at ha
        refine ⟨index, _, rfl, by omega, ?_, rfl, ?_⟩
        · simp at ha; omega
        · simp only [List.length_append, List.length_replicate, List.length_cons, List.length_nil]
          omega

theorem Sys.step_np (sch : SchemaEval) (hs : SchNoPanic sch) (s : Sys) (c : Call) (oids : List V) :
    NP (s.step sch c oids) := by
  unfold Sys.step
  np_tree [runCall_np sch hs]

theorem Sys.step_reply_np (sch : SchemaEval) (hs : SchNoPanic sch) (s s' : Sys) (c : Call) (oids : List V) (r : Reply)
    (h : s.step sch c oids = .ok (s', r)) : r.NP := by
  unfold Sys.step at h
  split at h
  · cases h
  · rename_i heq; cases h
    exact runCall_reply_np sch hs _ _ _ _ _ _ heq

/-- what a caller of the session layer can observe carries no panic -/
def SReply.NP : SReply → Prop
  | .ok r => r.NP
  | .failed e => ∀ site, e ≠ .panic site
  | _ => True

theorem SReply.NP_failed_err : (SReply.failed .err).NP := by intro s h; cases h

theorem SSys.step_np (sch : SchemaEval) (hs : SchNoPanic sch) (s : SSys) (c : SCall) : (s.step sch c).2.NP := by
  unfold SSys.step
  cases c
  case call sid c oids =>
    simp only
    split
    · split
      · exact SReply.NP_failed_err
      · split
        · rename_i e he
          intro site hc
          exact runCall_np sch hs _ _ _ site (by rw [he, hc])
        · rename_i he
          exact runCall_reply_np sch hs _ _ _ _ _ _ he
    · split
      · exact SReply.NP_failed_err
      · split
        · trivial
        · split
          · rename_i e he
            intro site hc
            exact Sys.step_np sch hs _ _ _ site (by rw [he, hc])
          · rename_i he
            exact Sys.step_reply_np sch hs _ _ _ _ _ he
  all_goals
    simp only
    repeat' split
    all_goals first | exact SReply.NP_failed_err | trivial

/-- only an answered call (`ok r`) or a completed session command (`done`) changes the system -/
theorem SSys.step_unchanged (sch : SchemaEval) (s : SSys) (c : SCall) :
    (s.step sch c).1 = s ∨ (s.step sch c).2 = .done ∨ ∃ r, (s.step sch c).2 = .ok r := by
  generalize hr : s.step sch c = r
  unfold SSys.step at hr
  cases c
  all_goals
    simp only at hr
    repeat' split at hr
    all_goals subst hr; first | exact .inl rfl | exact .inr (.inl rfl) | exact .inr (.inr ⟨_, rfl⟩)

/-- what the caller observes of a sequence of calls: per call its reply or its error -/
def Sys.trace (sch : SchemaEval) (s : Sys) : List (Call × List V) → List (Res Reply)
  | [] => []
  | (c, oids) :: rest =>
    match s.step sch c oids with
    | .ok (s', r) => .ok r :: Sys.trace sch s' rest
    | .error e => .error e :: Sys.trace sch s rest      -- the harness carries on with the same system

/-- the system after a sequence of calls (failed calls are skipped), as `Sys.run` of Spec/IndexSpec -/
def Sys.after (sch : SchemaEval) (s : Sys) : List (Call × List V) → Sys
  | [] => s
  | (c, oids) :: rest =>
    match s.step sch c oids with
    | .ok (s', _) => Sys.after sch s' rest
    | .error _ => Sys.after sch s rest

/-- a failed call is a no-op: what every later call observes, and the final state, are exactly as
    if the failed call had not been made. -/
theorem Sys.failed_call_is_noop (sch : SchemaEval) (s : Sys) (c : Call) (oids : List V) (e : Err)
    (rest : List (Call × List V)) (h : s.step sch c oids = .error e) :
    Sys.trace sch s ((c, oids) :: rest) = .error e :: Sys.trace sch s rest ∧
    Sys.after sch s ((c, oids) :: rest) = Sys.after sch s rest := by
  constructor
  · rw [Sys.trace]; simp only [h]
  · rw [Sys.after]; simp only [h]

/-- every call of every sequence is served: one observation per call, none of them a panic -/
theorem Sys.trace_served (sch : SchemaEval) (hs : SchNoPanic sch) (s : Sys) (calls : List (Call × List V)) :
    (Sys.trace sch s calls).length = calls.length ∧
    ∀ o ∈ Sys.trace sch s calls, NP o ∧ ∀ r, o = .ok r → r.NP := by
  induction calls generalizing s with
  | nil => exact ⟨rfl, fun o ho => by cases ho⟩
  | cons co rest ih =>
    obtain ⟨c, oids⟩ := co
    rw [Sys.trace]
    split <;> rename_i he <;>
      refine ⟨by rw [List.length_cons, (ih _).1, List.length_cons], List.forall_mem_cons.mpr ⟨?_, (ih _).2⟩⟩
    · exact ⟨NP_ok _, fun r' hr => by cases hr; exact Sys.step_reply_np sch hs _ _ _ _ _ he⟩
    · exact ⟨NP_of_error (Sys.step_np sch hs _ _ _) he, fun r' hr => nomatch hr⟩

/-- the replies of a sequence of session-level calls -/
def SSys.trace (sch : SchemaEval) (s : SSys) : List SCall → List SReply
  | [] => []
  | c :: rest => (s.step sch c).2 :: SSys.trace sch (s.step sch c).1 rest

/-- every session-level call of every sequence is answered, never with a panic -/
theorem SSys.trace_served (sch : SchemaEval) (hs : SchNoPanic sch) (s : SSys) (calls : List SCall) :
    (SSys.trace sch s calls).length = calls.length ∧ ∀ o ∈ SSys.trace sch s calls, o.NP := by
  induction calls generalizing s with
  | nil => exact ⟨rfl, fun o ho => by cases ho⟩
  | cons c rest ih =>
    rw [SSys.trace]
    exact ⟨by rw [List.length_cons, (ih _).1, List.length_cons],
      List.forall_mem_cons.mpr ⟨SSys.step_np sch hs s c, (ih _).2⟩⟩

/-- `Sys.after` is the `Sys.run` used by the index properties (C07/C15) -/
theorem Sys.after_eq_run (sch : SchemaEval) (s : Sys) (calls : List (Call × List V)) :
    Sys.after sch s calls = Sys.run sch s calls := by
  induction calls generalizing s with
  | nil => rfl
  | cons co rest ih =>
    obtain ⟨c, oids⟩ := co
    rw [Sys.after, Sys.run, List.foldl_cons]
    split
    · rename_i s' r he; simp only [he]; exact ih s'
    · rename_i e he; simp only [he]; exact ih s

end Lungo
