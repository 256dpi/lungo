/-
  Lungo.Proofs.RetainLaws — retention (Transaction.Clean, C08 part 1): the order on event timestamps, the drop
  condition `droppable`, the prefix counter `leading`, and the two facts that tie them to the model:
  `cleanCount` is the number of leading droppable events (`cleanCount_eq`), and `Txn.clean` removes exactly
  that many events from the front of the log (`Txn.clean_eq`).
-/
import Lungo.Proofs.OplogLaws
import Lungo.Proofs.CompareLaws
namespace Lungo

/-- `a < b` on timestamps (primitive.CompareTimestamp = -1) -/
def tsLt (a b : Nat × Nat) : Bool := cmpTs a.1 a.2 b.1 b.2 == .lt

/-- `a ≤ b` on timestamps -/
def tsLe (a b : Nat × Nat) : Prop := a.1 < b.1 ∨ (a.1 = b.1 ∧ a.2 ≤ b.2)

theorem tsLt_iff (a b : Nat × Nat) : tsLt a b = true ↔ a.1 < b.1 ∨ (a.1 = b.1 ∧ a.2 < b.2) := by
  unfold tsLt cmpTs
  rcases Nat.lt_trichotomy a.1 b.1 with h | h | h
  · simp [h, Nat.lt_asymm h]
  · rcases Nat.lt_trichotomy a.2 b.2 with h2 | h2 | h2 <;> simp [h, h2, Nat.lt_asymm]
  · simp [h, Nat.lt_asymm h, Nat.ne_of_gt h]

/-- `<` is downward closed along `≤` -/
theorem tsLt_of_le_of_lt {a b c : Nat × Nat} (h : tsLe a b) (h2 : tsLt b c = true) : tsLt a c = true := by
  rw [tsLt_iff] at *
  unfold tsLe at h
  omega

/-- nothing is below `(T, 0)` within the same second -/
theorem tsLt_zero (a : Nat × Nat) (t : Nat) : tsLt a (t, 0) = true ↔ a.1 < t := by
  rw [tsLt_iff]; simp

theorem tsLe_refl (a : Nat × Nat) : tsLe a a := .inr ⟨rfl, Nat.le_refl _⟩

/-- non-decreasing timestamps, index form -/
theorem sorted_get {L : List (Nat × Nat)} (hs : L.Pairwise tsLe) {j j' : Nat} {a b : Nat × Nat}
    (ha : L[j]? = some a) (hb : L[j']? = some b) (hjj : j ≤ j') : tsLe a b := by
  by_cases e : j = j'
  · subst e; rw [ha] at hb; cases hb; exact tsLe_refl a
  · rw [List.pairwise_iff_getElem] at hs
    obtain ⟨hj, rfl⟩ := List.getElem?_eq_some_iff.mp ha
    obtain ⟨hj', rfl⟩ := List.getElem?_eq_some_iff.mp hb
    exact hs j j' hj hj' (by omega)

theorem cutoffT_nowrap (nowT ageS : Nat) (h1 : ageS ≤ nowT) (h2 : nowT < 4294967296) :
    cutoffT nowT ageS = nowT - ageS := by
  unfold cutoffT
  omega

/-- The drop condition of Clean for the event at index `i` with timestamp `ts` in a log of `n` events:
    * `afterMin` ("willing"): `i < n − minSize` (not one of the `minSize` newest) and, unless
      `minAge == 0`, `ts < (minT, 0)` (older than the minimum age);
    * `beyondMax` ("forced"): `i < n − maxSize` (more than `maxSize` events from the end, i.e. beyond
      the maximum size) or `ts < (maxT, now.I)` (older than the maximum age). -/
def droppable (n : Nat) (minSize maxSize : Int) (minAgeZero : Bool) (minT maxT nowI : Nat)
    (i : Nat) (ts : Nat × Nat) : Bool :=
  ((i : Int) < (n : Int) - minSize && (minAgeZero || tsLt ts (minT, 0))) &&
  ((i : Int) < (n : Int) - maxSize || tsLt ts (maxT, nowI))

theorem droppable_iff (n : Nat) (minSize maxSize : Int) (z : Bool) (minT maxT nowI i : Nat) (ts : Nat × Nat) :
    droppable n minSize maxSize z minT maxT nowI i ts = true ↔
      ((i : Int) < n - minSize ∧ (z = true ∨ tsLt ts (minT, 0) = true)) ∧
      ((i : Int) < n - maxSize ∨ tsLt ts (maxT, nowI) = true) := by
  simp only [droppable, Bool.and_eq_true, Bool.or_eq_true, decide_eq_true_eq]

/-- the drop condition is antitone in the index and in the timestamp -/
theorem droppable_antitone (n : Nat) (minSize maxSize : Int) (z : Bool) (minT maxT nowI : Nat)
    {i i' : Nat} {ts ts' : Nat × Nat} (hi : i ≤ i') (hts : tsLe ts ts')
    (h : droppable n minSize maxSize z minT maxT nowI i' ts' = true) :
    droppable n minSize maxSize z minT maxT nowI i ts = true := by
  rw [droppable_iff] at *
  exact ⟨⟨by omega, h.1.2.imp_right (tsLt_of_le_of_lt hts)⟩, h.2.imp (by omega) (tsLt_of_le_of_lt hts)⟩

/-- the drop condition is monotone in the counter of `now` (a later counter makes more events "older
    than the maximum age") -/
theorem droppable_mono_nowI (n : Nat) (minSize maxSize : Int) (z : Bool) (minT maxT : Nat) {nowI nowI' : Nat}
    (h : nowI ≤ nowI') (i : Nat) (ts : Nat × Nat)
    (hd : droppable n minSize maxSize z minT maxT nowI i ts = true) :
    droppable n minSize maxSize z minT maxT nowI' i ts = true := by
  rw [droppable_iff] at *
  refine ⟨hd.1, hd.2.imp_right fun h2 => ?_⟩
  rw [tsLt_iff] at *
  simp only at h2 ⊢
  omega

/-- the drop condition is antitone in both sizes (a larger minimum protects more, a larger maximum
    forces less) -/
theorem droppable_antitone_sizes (n : Nat) {minSize minSize' maxSize maxSize' : Int} (z : Bool) (minT maxT nowI : Nat)
    (h1 : minSize ≤ minSize') (h2 : maxSize ≤ maxSize') (i : Nat) (ts : Nat × Nat)
    (hd : droppable n minSize' maxSize' z minT maxT nowI i ts = true) :
    droppable n minSize maxSize z minT maxT nowI i ts = true := by
  rw [droppable_iff] at *
  exact ⟨⟨by omega, hd.1.2⟩, hd.2.imp_left (by omega)⟩

/-- the drop condition of the event at index `j` of the log that remains after `k ≤ n` events were
    removed is the drop condition of the same event at its old index `k + j` -/
theorem droppable_shift (n k : Nat) (hk : k ≤ n) (minSize maxSize : Int) (z : Bool) (minT maxT nowI : Nat)
    (j : Nat) (ts : Nat × Nat) :
    droppable (n - k) minSize maxSize z minT maxT nowI j ts = droppable n minSize maxSize z minT maxT nowI (k + j) ts := by
  unfold droppable
  have a : decide ((j : Int) < ((n - k : Nat) : Int) - minSize) = decide (((k + j : Nat) : Int) < (n : Int) - minSize) := by
    apply decide_eq_decide.mpr; omega
  have b : decide ((j : Int) < ((n - k : Nat) : Int) - maxSize) = decide (((k + j : Nat) : Int) < (n : Int) - maxSize) := by
    apply decide_eq_decide.mpr; omega
  rw [a, b]

/-- number of leading elements satisfying an indexed predicate -/
def leading {α} (p : Nat → α → Bool) : Nat → List α → Nat
  | _, [] => 0
  | i, a :: r => if p i a then 1 + leading p (i + 1) r else 0

theorem leading_cons_pos {α} {p : Nat → α → Bool} {i : Nat} {a : α} (h : p i a = true) (r : List α) :
    leading p i (a :: r) = leading p (i + 1) r + 1 := by
  rw [leading, if_pos h, Nat.add_comm]

theorem leading_cons_neg {α} {p : Nat → α → Bool} {i : Nat} {a : α} (h : ¬ p i a = true) (r : List α) :
    leading p i (a :: r) = 0 := by
  rw [leading, if_neg h]

theorem leading_le {α} (p : Nat → α → Bool) (i : Nat) (l : List α) : leading p i l ≤ l.length := by
  induction l generalizing i with
  | nil => exact Nat.le_refl 0
  | cons a r ih =>
    by_cases hp : p i a = true
    · rw [leading_cons_pos hp]; exact Nat.succ_le_succ (ih (i + 1))
    · rw [leading_cons_neg hp]; exact Nat.zero_le _

/-- every element of the counted prefix satisfies the predicate -/
theorem leading_spec {α} (p : Nat → α → Bool) (i : Nat) (l : List α) (j : Nat) (hj : j < leading p i l) :
    ∃ a, l[j]? = some a ∧ p (i + j) a = true := by
  induction l generalizing i j with
  | nil => cases hj
  | cons a r ih =>
    by_cases hp : p i a = true
    · cases j with
      | zero => exact ⟨a, rfl, hp⟩
      | succ j =>
        rw [leading_cons_pos hp] at hj
        obtain ⟨b, hb, hpb⟩ := ih (i + 1) j (by omega)
        exact ⟨b, hb, by rwa [Nat.add_right_comm, Nat.add_assoc] at hpb⟩
    · rw [leading_cons_neg hp] at hj; cases hj

/-- the element just after the counted prefix (if any) fails the predicate -/
theorem leading_stop {α} (p : Nat → α → Bool) (i : Nat) (l : List α) (h : leading p i l < l.length) :
    ∃ a, l[leading p i l]? = some a ∧ p (i + leading p i l) a = false := by
  induction l generalizing i with
  | nil => cases h
  | cons a r ih =>
    by_cases hp : p i a = true
    · rw [leading_cons_pos hp] at h ⊢
      obtain ⟨b, hb, hpb⟩ := ih (i + 1) (by simpa using h)
      exact ⟨b, hb, by rwa [Nat.add_right_comm, Nat.add_assoc] at hpb⟩
    · rw [leading_cons_neg hp]
      exact ⟨a, rfl, by simpa using hp⟩

/-- a pointwise weaker predicate counts at least as long a prefix -/
theorem leading_mono {α} (p q : Nat → α → Bool) (h : ∀ i a, p i a = true → q i a = true) (i : Nat) (l : List α) :
    leading p i l ≤ leading q i l := by
  induction l generalizing i with
  | nil => exact Nat.le_refl 0
  | cons a r ih =>
    by_cases hp : p i a = true
    · rw [leading_cons_pos hp, leading_cons_pos (h i a hp)]; exact Nat.succ_le_succ (ih (i + 1))
    · rw [leading_cons_neg hp]; exact Nat.zero_le _

/-- counting with a predicate whose index is shifted by `k` -/
theorem leading_shift {α} (p q : Nat → α → Bool) (k : Nat) (h : ∀ j a, p j a = q (k + j) a) (i : Nat) (l : List α) :
    leading p i l = leading q (k + i) l := by
  induction l generalizing i with
  | nil => rfl
  | cons a r ih => simp only [leading, h i a, ih (i + 1), Nat.add_assoc]

/-- after the counted prefix nothing more is counted: the first remaining element is a keeper -/
theorem leading_drop_self {α} (p : Nat → α → Bool) (i : Nat) (l : List α) :
    leading p (i + leading p i l) (l.drop (leading p i l)) = 0 := by
  induction l generalizing i with
  | nil => rfl
  | cons a r ih =>
    by_cases hp : p i a = true
    · rw [leading_cons_pos hp, List.drop_succ_cons, ← Nat.add_assoc, Nat.add_right_comm]
      exact ih (i + 1)
    · rw [leading_cons_neg hp]
      exact leading_cons_neg hp r

theorem cleanCount_go_eq (minAgeZero : Bool) (nowI : Nat) (n : Nat) (minSize maxSize : Int) (minT maxT : Nat)
    (i : Nat) (l : List (Nat × Nat)) :
    cleanCount.go minAgeZero nowI ((n : Int) - minSize) ((n : Int) - maxSize) minT maxT i l
      = leading (droppable n minSize maxSize minAgeZero minT maxT nowI) i l := by
  induction l generalizing i with
  | nil => rfl
  | cons a r ih =>
    simp only [cleanCount.go, leading, droppable, tsLt, ih]
    rfl

/-- `cleanCount` is the number of leading droppable events. -/
theorem cleanCount_eq (L : List (Nat × Nat)) (minSize maxSize : Int) (minAgeS maxAgeS : Nat)
    (minAgeZero : Bool) (nowT nowI : Nat) :
    cleanCount L minSize maxSize minAgeS maxAgeS minAgeZero nowT nowI
      = leading (droppable L.length minSize maxSize minAgeZero (cutoffT nowT minAgeS) (cutoffT nowT maxAgeS) nowI) 0 L :=
  cleanCount_go_eq ..

theorem cleanCount_le (L : List (Nat × Nat)) (minSize maxSize : Int) (minAgeS maxAgeS : Nat)
    (minAgeZero : Bool) (nowT nowI : Nat) :
    cleanCount L minSize maxSize minAgeS maxAgeS minAgeZero nowT nowI ≤ L.length := by
  rw [cleanCount_eq]; exact leading_le ..

theorem getP_ts_of_eventTs {d : Doc} {a : Nat × Nat} (h : eventTs d = some a) : getP d tsPath = .ts a.1 a.2 := by
  unfold eventTs at h
  split at h
  · rename_i heq
    cases h
    exact heq
  · cases h

/-- the loop of the model's `Txn.clean` on documents agrees with `cleanCount` on their timestamps -/
theorem cleanDropped_eq (n : Nat) (minSize maxSize : Int) (minAgeZero : Bool) (minT maxT nowI : Nat)
    (i : Nat) (docs : List SDoc) (L : List (Nat × Nat))
    (hts : docs.map (fun sd => eventTs sd.doc) = L.map some) :
    cleanDropped ((n : Int) - minSize) ((n : Int) - maxSize) minAgeZero minT maxT nowI i docs
      = leading (droppable n minSize maxSize minAgeZero minT maxT nowI) i L := by
  induction docs generalizing i L with
  | nil =>
    cases L with
    | nil => rfl
    | cons _ _ => cases hts
  | cons sd r ih =>
    cases L with
    | nil => cases hts
    | cons a L =>
      simp only [List.map_cons, List.cons.injEq] at hts
      simp only [cleanDropped, leading, droppable, tsLt, getP_ts_of_eventTs hts.1, V.cmp_ts, tsCmp, ih (i + 1) L hts.2]
      rfl

/-- an event at or after index `minIndex` stops the loop at once -/
theorem cleanDropped_zero_of_ge (minIndex maxIndex : Int) (z : Bool) (minT maxT nowI : Nat) (i : Nat) (docs : List SDoc)
    (h : minIndex ≤ (i : Int)) : cleanDropped minIndex maxIndex z minT maxT nowI i docs = 0 := by
  cases docs with
  | nil => rfl
  | cons sd r =>
    have : decide ((i : Int) < minIndex) = false := by simp; omega
    simp [cleanDropped, this]

/-- the transaction after Clean has removed the first `k` events of its log -/
def Txn.trimmed (t : Txn) (k : Nat) : Txn :=
  let oplog := (t.catalog.get? oplogHandle).getD (newColl false)
  { catalog := t.catalog.set oplogHandle { oplog with docs := oplog.docs.drop k }, dirty := true }

theorem Txn.trimmed_oplog (t : Txn) (k : Nat) : (t.trimmed k).oplog = t.oplog.drop k :=
  Catalog.oplog_set _ _

theorem Txn.trimmed_get? (t : Txn) (k : Nat) (h : Handle) (hne : h ≠ oplogHandle) :
    (t.trimmed k).catalog.get? h = t.catalog.get? h :=
  Catalog.get?_set_other _ _ _ _ hne

/-- Clean counts with the loop `cleanDropped` and removes that many events, if any -/
theorem Txn.clean_def (t : Txn) (minSize maxSize : Int) (minAgeS maxAgeS : Nat) (z : Bool) (nowT nowI : Nat) :
    t.clean minSize maxSize minAgeS maxAgeS z nowT nowI =
      if 0 < cleanDropped (t.oplog.length - minSize) (t.oplog.length - maxSize) z
          (cutoffT nowT minAgeS) (cutoffT nowT maxAgeS) nowI 0 t.oplog then
        t.trimmed (cleanDropped (t.oplog.length - minSize) (t.oplog.length - maxSize) z
          (cutoffT nowT minAgeS) (cutoffT nowT maxAgeS) nowI 0 t.oplog)
      else t := rfl

/-- `Txn.clean` on a log whose events carry the timestamps `L`: the first `cleanCount L …` events go, and the
    transaction is returned as it is if there are none -/
theorem Txn.clean_eq (t : Txn) (L : List (Nat × Nat)) (h : t.oplog.map (fun sd => eventTs sd.doc) = L.map some)
    (minSize maxSize : Int) (minAgeS maxAgeS : Nat) (z : Bool) (nowT nowI : Nat) :
    t.clean minSize maxSize minAgeS maxAgeS z nowT nowI =
      if 0 < cleanCount L minSize maxSize minAgeS maxAgeS z nowT nowI then
        t.trimmed (cleanCount L minSize maxSize minAgeS maxAgeS z nowT nowI)
      else t := by
  have hlen : t.oplog.length = L.length := by simpa using congrArg List.length h
  rw [Txn.clean_def, cleanCount_eq, ← cleanDropped_eq L.length _ _ _ _ _ _ 0 t.oplog L h, hlen]

/-- Clean removes the first `cleanCount L …` events -/
theorem Txn.clean_oplog (t : Txn) (L : List (Nat × Nat)) (h : t.oplog.map (fun sd => eventTs sd.doc) = L.map some)
    (minSize maxSize : Int) (minAgeS maxAgeS : Nat) (z : Bool) (nowT nowI : Nat) :
    (t.clean minSize maxSize minAgeS maxAgeS z nowT nowI).oplog
      = t.oplog.drop (cleanCount L minSize maxSize minAgeS maxAgeS z nowT nowI) := by
  rw [Txn.clean_eq t L h]
  split
  · exact Txn.trimmed_oplog ..
  · rename_i hk
    rw [Nat.eq_zero_of_not_pos hk]
    rfl

/-- … and the remaining events carry the remaining timestamps -/
theorem Txn.clean_ts (t : Txn) (L : List (Nat × Nat)) (h : t.oplog.map (fun sd => eventTs sd.doc) = L.map some)
    (minSize maxSize : Int) (minAgeS maxAgeS : Nat) (z : Bool) (nowT nowI : Nat) :
    (t.clean minSize maxSize minAgeS maxAgeS z nowT nowI).oplog.map (fun sd => eventTs sd.doc)
      = (L.drop (cleanCount L minSize maxSize minAgeS maxAgeS z nowT nowI)).map some := by
  rw [Txn.clean_oplog t L h, List.map_drop, h, List.map_drop]

end Lungo
