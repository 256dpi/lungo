/-
  Lungo.Proofs.ConcClosed — every call finishes within a bounded number of its own steps: a rank on the
  actor-local control state strictly decreases with every step of that actor (except the expiry actor's `tick`,
  which restarts its loop: the Go `select` picks randomly between a ready ticker and `Dying`). Whether the engine
  is alive plays no part in the decrease; after `tomb.Kill` (alive = false) it is what makes the next step of a
  waiting call enabled.
-/
import Lungo.Proofs.ConcInv
namespace Lungo.Conc

/-- Bound on the steps from `Pc.after` to the end of the call; the continuation says what is still to run. -/
def ar : K → Nat
  | .use => 10
  | .useCommit => 4
  | .useAbort => 1
  | .start => 6
  | .startAbort => 1
  | .sessCommit => 1
  | .sessAbort => 1
  | .expBegin => 8
  | .expAbort => 2
  | .expCommit => 2
  | .dBegin => 1
  | .dCommit => 1
  | .dAbort => 1

def rk : Pc → K → Nat
  | .idle, _ => 0
  | .bSessLock, k => 7 + ar k
  | .bSessRead, k => 6 + ar k
  | .bLock, k => 5 + ar k
  | .bCheck, k => 4 + ar k
  | .bAcquire, k => 3 + ar k
  | .bRelock, k => 2 + ar k
  | .bPost, k => 1 + ar k
  | .cLock, k => 3 + ar k
  | .cCheck, k => 2 + ar k
  | .cStore, k => 1 + ar k
  | .aLock, k => 2 + ar k
  | .aBody, k => 1 + ar k
  | .after, k => ar k
  | .uSessLock, _ => 20
  | .uSessRead, _ => 19
  | .uCb, _ => 9
  | .uCbSess, _ => 1
  | .uCbRead, _ => 1
  | .ssLock, _ => 16
  | .ssReserve, _ => 15
  | .ssRelock, _ => 5
  | .ssFinal, _ => 4
  | .scLock, _ => 6
  | .scBody, _ => 5
  | .saLock, _ => 5
  | .saBody, _ => 4
  | .clLock, _ => 4
  | .clKill, _ => 3
  | .clStreams, _ => 2
  | .clWait, _ => 1
  | .kLock, _ => 2
  | .kBody, _ => 1
  | .xWait, _ => 1
  | .xExpire, _ => 7
  | .xExited, _ => 0

/-- Bound on the number of further steps of this actor's current call. `rk` must go down along every edge pc → pc' of
    `step` other than `tick`, the continuation being counted through `ar` where a sub-call returns to `Pc.after`;
    `rank_decreases` checks exactly these inequalities. -/
def rank (l : Local) : Nat := rk l.pc l.k

macro "rank_tac" h:ident fn:ident : tactic => `(tactic| (
  unfold $fn at $h:ident
  conc_split $h
  all_goals (
    simp only [State.put, State.putS, State.finish, State.write, upd_apply, Local.back, Local.invoke,
      if_true, ite_true, rank]
    simp_all [rk, ar]
    try omega)))

theorem ar_le (k : K) : ar k ≤ 10 := by cases k <;> decide

theorem rank_le (l : Local) : rank l ≤ 20 := by
  have := ar_le l.k
  unfold rank
  cases l.pc <;> simp only [rk] <;> omega

/-- The rank goes down along every edge of the control-flow graph: `rk` counts down by one through straight-line code,
    a subroutine's program counters lie above its return point by construction (`i + ar k`), and the call sites,
    resumptions and ends are checked row by row. -/
theorem edge_rk {p p' : Pc} {k : K} {e : Edge} (h : edge p k p' = some e) : rk p' (e.k k) < rk p k := by
  revert h
  fun_cases edge p k p' <;> intro h <;> cases h <;> simp only [rk, ar, Edge.k] <;> omega

/-- Every step inside a call moves down the table `rk`; the only one that moves up is the ticker's. The engine need
    not be dead for that: a blocked acquisition is a disabled step, not a step that stays in place. What
    `alive = false` adds is that the `dying` outcome of every acquisition is enabled. -/
theorem rank_decreases {s s' : State} {a : ActorId} {c : Choice} (hs : step s a c = some s')
    (hidle : (s.loc a).pc ≠ .idle) (htick : c ≠ .tick) : rank (s'.loc a) < rank (s.loc a) := by
  obtain ⟨l', hl, -, f, -⟩ := step_sorted hs
  rw [hl, upd_same, rank]
  cases f with
  | go hp hk r he => rw [r.pc_k.1, r.pc_k.2]; subst hp hk; exact edge_rk he
  | invoke hp => exact absurd hp hidle
  | tick => exact absurd rfl htick

end Lungo.Conc
