/-
  Lungo.Proofs.ConcAll — the ownership invariant (`Oinv`) is preserved by every step, and `Inv1 ∧ Inv2` hold in every
  reachable state.
-/
import Lungo.Proofs.ConcOwn
namespace Lungo.Conc

/-- The owner's claim on `t` survives a step of actor `a` that keeps the owner, provided `a`'s own claim survives and so
    does the owning session's. -/
theorem Owned.frame {s s' : State} {a : ActorId} {l' : Local} {t : Tid} (h : Owned s t)
    (hl : s'.loc = upd s.loc a l') (ho : s'.eng.own = s.eng.own) (self : OwnsL (s.loc a) t → OwnsL l' t)
    (sess : ∀ sid, s.eng.own = .sess sid → (s.sess sid).txn = some t → (s'.sess sid).txn = some t) :
    Owned s' t := by
  cases hw : s.eng.own with
  | actor b =>
    rw [Owned.actor hw] at h
    rw [Owned.actor (ho.trans hw), hl, upd_apply]
    split
    · next e => exact self (e ▸ h)
    · exact h
  | sess sid => exact (Owned.sess (ho.trans hw) t).2 (sess sid hw ((Owned.sess hw t).1 h))

/-- `Oinv` after a step of actor `a` that leaves it at `l'`.  `owned` is the first clause; `abort` and `unset` are the
    two `sessAbort` clauses for `a` itself.  The other two say how little the step can do to anybody else: an installed
    transaction is the old one or carries a fresh id, and a session's `txn` is written only under that session's
    mutex. -/
theorem Oinv.lift {s s' : State} {a : ActorId} {l' : Local} (h1 : Inv1 s) (hb : Bnd s) (h : Oinv s)
    (hl : s'.loc = upd s.loc a l')
    (owned : s'.eng.alive = true → ∀ t, s'.eng.txn = some t → Owned s' t)
    (abort : l'.k = .sessAbort → l'.pc.inAbort = true → (s'.sess l'.sid).txn = l'.t)
    (unset : l'.k = .sessAbort → l'.pc = .after → s'.eng.alive = true → ∀ t, l'.t = some t → s'.eng.txn ≠ some t)
    (fresh : s'.eng.alive = true → ∀ t, s'.eng.txn = some t →
      (s.eng.alive = true ∧ s.eng.txn = some t) ∨ s.eng.nextTid ≤ t)
    (locked : ∀ sid, (s'.sess sid).txn = (s.sess sid).txn ∨ SHold (s.loc a) sid) : Oinv s' := by
  have other : ∀ b, b ≠ a → s'.loc b = s.loc b := fun b hb => by rw [hl, upd_other _ _ _ _ hb]
  have self : s'.loc a = l' := by rw [hl, upd_same]
  refine ⟨owned, fun b hk hp => ?_, fun b hk hp hal t ht => ?_⟩
  · by_cases hba : b = a
    · subst hba; rw [self] at hk hp ⊢; exact abort hk (Pc.inAbort_iff.2 hp)
    · rw [other b hba] at hk hp ⊢
      rcases locked (s.loc b).sid with heq | hh
      · rw [heq]; exact h.2.1 b hk hp
      · -- both `a` and `b` would hold the mutex of that session
        have hbm : SHold (s.loc b) (s.loc b).sid := by
          simp only [SHold]; rcases hp with hp | hp | hp <;> simp [hk, hp]
        have := ((h1.smutex_iff a _).2 hh).symm.trans ((h1.smutex_iff b _).2 hbm)
        exact absurd (Option.some.inj this).symm hba
  · by_cases hba : b = a
    · subst hba; rw [self] at hk hp ht; exact unset hk hp hal t ht
    · rw [other b hba] at hk hp ht
      intro htx
      rcases fresh hal t htx with ⟨hal0, ht0⟩ | hn
      · exact h.2.2 b hk hp hal0 t ht ht0
      · exact absurd (hb.2.1 b t ht) (Nat.not_lt_of_le hn)

/-- a move keeps the actor's claims -/
theorem OwnsL.move {l l' : Local} {t : Tid} (h : OwnsL l t) (ht : l'.t = l.t) (hh : l'.handle = l.handle)
    (pos : FinPos l' ↔ FinPos l) : OwnsL l' t := by
  rw [OwnsL_iff, ht, hh, pos]; exact OwnsL_iff.1 h

/-- back from the `Abort` of `AbortTransaction`, the actor's position claims nothing -/
theorem FinPos.not_sessAbort {l : Local} (hp : l.pc = .after) (hk : l.k = .sessAbort) : ¬ FinPos l := by
  simp [FinPos, PreW, hp, hk]

/-- rewriting the session whose mutex the actor holds -/
theorem upd_locked {l : Local} {ss : SessId → Sess} {x : Sess} (h : SHold l l.sid) (sid : SessId) :
    (upd ss l.sid x sid).txn = (ss sid).txn ∨ SHold l sid := by
  by_cases hs : sid = l.sid
  · exact .inr (hs ▸ h)
  · exact .inl (by rw [upd_other _ _ _ _ hs])

theorem oinv_step {s s' : State} {a : ActorId} (h1 : Inv1 s) (bd : Bnd s) (sv : Sinv s) (h : Oinv s)
    (d : OwnStep a s s') : Oinv s' := by
  have gB := h.2.1 a
  have gC := h.2.2 a
  cases d with
  | move l' hl he hs _ _ et eh pos ab =>
    obtain ⟨e1, e2, -, e4⟩ := he
    refine h.lift h1 bd hl (fun hal t ht => ?_) (fun hk hp => ?_) (fun hk hp => ?_)
      (fun hal t ht => .inl ⟨e4 hal, e1 ▸ ht⟩) fun sid => .inl (hs sid)
    · exact (h.1 (e4 hal) t (e1 ▸ ht)).frame hl e2 (·.move et eh pos.1) fun sid _ c => (hs sid).trans c
    · obtain ⟨k, p, -, es⟩ := ab hk hp
      rw [hs, es, et]; exact gB k (.inl p)
    · obtain ⟨-, -, p, -⟩ := ab hk (hp ▸ rfl)
      rw [hp] at p; cases p
  | regs l' hl he hs _ _ claims _ _ _ ab =>
    obtain ⟨e1, e2, -, e4⟩ := he
    refine h.lift h1 bd hl (fun hal t ht => ?_) (fun hk hp => ?_) (fun hk hp => ?_)
      (fun hal t ht => .inl ⟨e4 hal, e1 ▸ ht⟩) fun sid => .inl (hs sid)
    · exact (h.1 (e4 hal) t (e1 ▸ ht)).frame hl e2 (claims t).2 fun sid _ c => (hs sid).trans c
    · rw [hs]; exact (ab hk hp).2
    · exact absurd hp (ab hk (hp ▸ rfl)).1
  | fresh l' tx hl hs _ _ hn eal hf et eh _ nk hi =>
    refine h.lift h1 bd hl (fun hal t ht => ?_) (fun hk => absurd hk nk) (fun hk => absurd hk nk)
      (fun hal t ht => ?_) fun sid => .inl (hs sid)
    · rcases hi with ⟨e1, e2, _⟩ | ⟨_, e1, e2, pre⟩
      · exact (h.1 (eal ▸ hal) t (e1 ▸ ht)).frame hl e2 (fun c => .inl (eh ▸ c.handle hf))
          fun sid _ c => (hs sid).trans c
      · rw [Owned.actor e2, hl, upd_same]
        exact OwnsL_iff.2 (.inr ⟨et.trans (e1.symm.trans ht), .inl pre⟩)
    · rcases hi with ⟨e1, _⟩ | ⟨_, e1, _⟩
      · exact .inl ⟨eal ▸ hal, e1 ▸ ht⟩
      · exact .inr (Nat.le_of_eq (Option.some.inj (e1.symm.trans ht)))
  | fin l' hl hs _ eo _ eal hx done et eh ek es hb pcs =>
    obtain ⟨-, -, ab, -⟩ := fin_pos (h1.beginWf a) hb ek pcs
    have old : ∀ t, s'.eng.txn = some t → s.eng.txn = some t := fun _ => txn_of_fin hx
    refine h.lift h1 bd hl (fun hal t ht => ?_) (fun hk hp => ?_) (fun hk hp hal t ht' ht => ?_)
      (fun hal t ht => .inl ⟨eal ▸ hal, old t ht⟩) fun sid => .inl (hs sid)
    · -- had `a` been the finisher by position, the transaction would now be uninstalled
      refine (h.1 (eal ▸ hal) t (old t ht)).frame hl eo (fun c => ?_) fun sid _ c => (hs sid).trans c
      rcases OwnsL_iff.1 c with hh | ⟨hh, _⟩
      · exact .inl (eh ▸ hh)
      · rw [done (eal ▸ hal) t (old t ht) hh] at ht; cases ht
    · rw [hs, es, et]; exact gB (ek ▸ hk) (.inr (.inl (ab hk)))
    · rw [done (eal ▸ hal) t (old t ht) (et ▸ ht')] at ht; cases ht
  | give l' x hl hs _ _ hx _ eal o1 o2 hp hr ex hp' et eh =>
    have sh : SHold (s.loc a) (s.loc a).sid := by simp [SHold, hp]
    have idle : l'.pc.inAbort = false := hp' ▸ rfl
    refine h.lift h1 bd hl (fun hal t ht => ?_) (fun _ hp => ?_) (fun _ hp => ?_)
      (fun hal t ht => .inl ⟨eal ▸ hal, hx ▸ ht⟩) fun sid => hs ▸ upd_locked sh sid
    · have ht0 : s.eng.txn = some t := hx ▸ ht
      by_cases hc : s.eng.txn = (s.loc a).t
      · rw [Owned.sess (o1 hc), hs, upd_same, ex, ← hc]; exact ht0
      · refine (h.1 (eal ▸ hal) t ht0).frame hl (o2 hc) (fun c => ?_) fun sid _ c => ?_
        · rcases OwnsL_iff.1 c with hh | ⟨hh, _⟩
          · exact .inl (eh ▸ hh)
          · exact absurd (ht0.trans hh.symm) hc
        · rw [hs, upd_apply]
          split
          · -- the session is still `starting`, so it has no transaction yet
            next e =>
              have st : StartFlow (s.loc a) (s.loc a).sid := ⟨rfl, .inr (.inl hp)⟩
              have := sv.1 _ ((sv.2.2 _).symm.trans (by rw [(sv.2.1 a _).2 st]; rfl))
              rw [e, this] at c; cases c
          · exact c
    · rw [idle] at hp; cases hp
    · rw [hp'] at hp; cases hp
  | back l' x t₀ hl hs _ _ hx _ eal o1 o2 hp hst ex hp' ek et eh =>
    have sh : SHold (s.loc a) (s.loc a).sid := by simp [SHold, hp]
    have nk : l'.k ≠ .sessAbort := ek ▸ nofun
    refine h.lift h1 bd hl (fun hal t ht => ?_) (fun hk => absurd hk nk) (fun hk => absurd hk nk)
      (fun hal t ht => .inl ⟨eal ▸ hal, hx ▸ ht⟩) fun sid => hs ▸ upd_locked sh sid
    have ht0 : s.eng.txn = some t := hx ▸ ht
    by_cases hc : s.eng.txn = some t₀
    · rw [Owned.actor (o1 hc), hl, upd_same]
      exact OwnsL_iff.2 (.inr ⟨et.trans (hc.symm.trans ht0), .inr (.inl hp')⟩)
    · refine (h.1 (eal ▸ hal) t ht0).frame hl (o2 hc) (fun c => .inl (eh ▸ c.handle (hp ▸ rfl))) fun sid _ c => ?_
      rw [hs, upd_apply]
      split
      · next e => rw [e, hst] at c; exact absurd (ht0.trans c.symm) hc
      · exact c
  | clear l' x hl hs _ _ he hp hk ex hp' et eh =>
    obtain ⟨e1, e2, -, e4⟩ := he
    have sh : SHold (s.loc a) (s.loc a).sid := by simp [SHold, hp, hk]
    have idle : l'.pc.inAbort = false := hp' ▸ rfl
    refine h.lift h1 bd hl (fun hal t ht => ?_) (fun _ hp => ?_) (fun _ hp => ?_)
      (fun hal t ht => .inl ⟨e4 hal, e1 ▸ ht⟩) fun sid => hs ▸ upd_locked sh sid
    · refine (h.1 (e4 hal) t (e1 ▸ ht)).frame hl e2 (fun c => ?_) fun sid _ c => ?_
      · rcases OwnsL_iff.1 c with hh | ⟨_, hh⟩
        · exact .inl (eh ▸ hh)
        · exact absurd hh (FinPos.not_sessAbort hp hk)
      · rw [hs, upd_apply]
        split
        · -- `Abort` has uninstalled the session's transaction
          next e =>
            rw [e, gB hk (.inr (.inr hp))] at c
            exact absurd (e1 ▸ ht) (gC hk hp (e4 hal) t c)
        · exact c
    · rw [idle] at hp; cases hp
    · rw [hp'] at hp; cases hp

theorem inv2_step {s s' : State} {a : ActorId} {c : Choice} (h1 : Inv1 s) (h : Inv2 s)
    (hs : step s a c = some s') : Inv2 s' :=
  have d := step_ownStep h1 h.lwf hs
  ⟨lwf_step h1 h.lwf hs, rng_step h.rng hs, bnd_step h.bnd d, sinv_step h1 h.sinv hs,
    oinv_step h1 h.bnd h.sinv h.oinv d⟩

theorem inv_reachable {n : Nat} {s : State} (h : Reachable n s) : Inv1 s ∧ Inv2 s := by
  induction h with
  | init => exact ⟨inv1_init n, inv2_init n⟩
  | step _ hs ih => exact ⟨inv1_step ih.1 hs, inv2_step ih.1 ih.2 hs⟩

theorem reachable_n {n : Nat} {s : State} (h : Reachable n s) : s.n = n := by
  induction h with
  | init => rfl
  | step _ hs ih => rw [step_n hs]; exact ih

end Lungo.Conc
