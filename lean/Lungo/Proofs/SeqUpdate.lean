/-
  Lungo.Proofs.SeqUpdate — C01: updateOne / updateMany / findOneAndUpdate (with upsert).
  The implementation applies the update to clones of the selected documents, removes ALL selected
  documents from every index, adds ALL successors (uniqueness is that of the RESULTING collection),
  and replaces the documents slot by slot by identity. The Spec does the same on plain documents:
  `applyEach`, `admitAll` over the untouched documents, `swapAll`.
-/
import Lungo.Proofs.SeqIndex
namespace Lungo.SeqRef
open Lungo Lungo.Spec

variable {sch : SchemaEval}

theorem find?_congr_mem {α} {p q : α → Bool} : ∀ {l : List α}, (∀ x ∈ l, p x = q x) → l.find? p = l.find? q
  | [], _ => rfl
  | a :: r, h => by
    simp only [List.find?_cons, h a (by simp)]
    rw [find?_congr_mem (fun x hx => h x (List.mem_cons_of_mem _ hx))]

/-- the successor of a stored document in a list of (old, new, _) pairs, by identity -/
def succOf {α : Type} (pairs : List (SDoc × SDoc × α)) (sd : SDoc) : SDoc :=
  match pairs.find? (fun p => p.1.id == sd.id) with
  | some p => p.2.1
  | none => sd

/-- replacing one after the other = replacing simultaneously, when no successor carries the
    identity of a later predecessor -/
theorem foldl_replaceDoc_map {α : Type} : ∀ (pairs : List (SDoc × SDoc × α)) (docs : List SDoc),
    (∀ p ∈ pairs, ∀ p' ∈ pairs, p'.1.id ≠ p.2.1.id) →
    pairs.foldl (fun ds p => replaceDoc ds p.1.id p.2.1) docs = docs.map (succOf pairs)
  | [], docs, _ => by
    have : succOf ([] : List (SDoc × SDoc × α)) = id := by funext sd; rfl
    simp [this]
  | p :: r, docs, hf => by
    rw [List.foldl_cons, foldl_replaceDoc_map r _ (fun a ha b hb =>
      hf a (List.mem_cons_of_mem _ ha) b (List.mem_cons_of_mem _ hb))]
    unfold replaceDoc
    rw [List.map_map]
    apply List.map_congr_left
    intro sd _
    simp only [Function.comp, succOf, List.find?_cons]
    by_cases e : sd.id == p.1.id
    · have e' : (p.1.id == sd.id) = true := by
        have : sd.id = p.1.id := by simpa using e
        simp [this]
      simp only [e, ↓reduceIte, e']
      have hnone : r.find? (fun p' => p'.1.id == p.2.1.id) = none := by
        apply List.find?_eq_none.mpr
        intro p' hp'
        simpa using hf p (by simp) p' (List.mem_cons_of_mem _ hp')
      rw [hnone]
    · have e' : (p.1.id == sd.id) = false := by
        have : ¬ sd.id = p.1.id := by simpa using e
        simp only [beq_eq_false_iff_ne, ne_eq]
        exact fun h => this h.symm
      simp only [e, Bool.false_eq_true, ↓reduceIte, e']

theorem applyAll_applyEach {ac : ACtx} {u : Doc} {fs : List Doc} : ∀ (list : List SDoc) (nu : Nu),
    applyEach ac u fs (list.map (·.doc)) =
      (Coll.update.applyAll ac u fs nu list).map (fun r => (list.zip r.1).map (fun p => (p.1.doc, p.2.1.doc)))
  | [], nu => rfl
  | sd :: r, nu => by
    rw [List.map_cons, applyEach, Coll.update.applyAll]
    cases Apply { ac with upsert := false } sd.doc u fs with
    | error e => rfl
    | ok p =>
      obtain ⟨d', ch⟩ := p
      simp only [Nu.fresh]
      rw [applyAll_applyEach r { nu with nextId := nu.nextId + 1 }]
      cases Coll.update.applyAll ac u fs { nu with nextId := nu.nextId + 1 } r with
      | error e => rfl
      | ok q => rfl

/-- the results of the update on the stored documents are Go values -/
def ApplyOkOn (ac : ACtx) (docs : List Doc) (u : Doc) (fs : List Doc) : Prop :=
  ∀ d ∈ docs, ∀ d' ch, Apply { ac with upsert := false } d u fs = .ok (d', ch) → DocOk d'

theorem swapAll_nil (docs : List Doc) : swapAll docs [] = docs := by
  unfold swapAll
  simp

/-- the slots after the update, without identities -/
theorem replaced_abs {α : Type} {docs : List SDoc} {pairs : List (SDoc × SDoc × α)} {n0 : Nat}
    (hd : IdsDistinct docs) (hinj : DocInj docs) (hb : IdsBelow docs n0)
    (hold : ∀ p ∈ pairs, p.1 ∈ docs) (hnew : ∀ p ∈ pairs, n0 ≤ p.2.1.id) :
    (pairs.foldl (fun ds p => replaceDoc ds p.1.id p.2.1) docs).map (·.doc) =
      swapAll (docs.map (·.doc)) (pairs.map (fun p => (p.1.doc, p.2.1.doc))) := by
  rw [foldl_replaceDoc_map pairs docs (fun p hp p' hp' e => by
    have h1 := hb p'.1 (hold p' hp')
    have h2 := hnew p hp
    omega)]
  unfold swapAll
  rw [List.map_map, List.map_map]
  apply List.map_congr_left
  intro sd hsd
  simp only [Function.comp, succOf, List.find?_map]
  have hc : pairs.find? ((fun p : Doc × Doc => sameDoc sd.doc p.1) ∘ fun p => (p.1.doc, p.2.1.doc)) =
      pairs.find? (fun p => p.1.id == sd.id) := by
    exact find?_congr_mem fun p hp => (id_beq_sameDoc hd hinj hsd (hold p hp)).symm.trans BEq.comm
  rw [hc]
  cases pairs.find? (fun p => p.1.id == sd.id) <;> rfl

/-- the untouched documents followed by the successors: identities stay distinct (the successors are
    numbered from `n0` on, above every stored identity) and all are Go values -/
theorem rest_news_ok {docs rest news : List SDoc} {n0 : Nat} (hd : IdsDistinct docs) (hb : IdsBelow docs n0)
    (hok : DocsOk docs) (hsub : rest.Sublist docs) (hids : (news.map (·.id)).Nodup)
    (hnew : ∀ y ∈ news, n0 ≤ y.id ∧ DocOk y.doc) :
    IdsDistinct (rest ++ news) ∧ DocsOk (rest ++ news) := by
  constructor
  · unfold IdsDistinct
    rw [List.map_append, List.nodup_append]
    refine ⟨hd.sublist hsub, hids, fun a ha b hb' e => ?_⟩
    obtain ⟨x, hx, rfl⟩ := List.mem_map.mp ha
    obtain ⟨y, hy, rfl⟩ := List.mem_map.mp hb'
    have h1 := hb x (hsub.subset hx)
    have h2 := (hnew y hy).1
    omega
  · intro x hx
    rcases List.mem_append.mp hx with hx | hx
    · exact hok x (hsub.subset hx)
    · exact (hnew x hx).2

/-- `Collection.Update` = the Spec's update: (collection, matched, modified) -/
theorem update_abs {ac : ACtx} {c : Coll} (k : CollOk ac.sch c) {nu : Nu} (hb : IdsBelow c.docs nu.nextId)
    (q u : Doc) (sort : Option Doc) (skip limit : Int) (fs : List Doc)
    (hne : noMatchError ac.sch q c.docs) (hap : ApplyOkOn ac (c.docs.map (·.doc)) u fs) :
    (c.update ac q u sort skip limit fs nu).map
        (fun r => (absC r.1.coll, r.1.matched.map (·.doc), r.1.modified.map (·.doc))) =
      (absC c).update ac q u sort skip limit fs := by
  unfold SColl.update
  rw [Coll.update_eq, ← select_abs c q sort skip limit k.docsOk hne]
  cases hsel : selectDocs ac.sch c q sort skip limit with
  | error e => rfl
  | ok list =>
    have hmem := selectDocs_mem hsel
    have hdl := selectDocs_distinct hsel k.coherent.1
    simp only [Except.map, bind, Except.bind]
    rw [applyAll_applyEach list nu]
    cases happ : Coll.update.applyAll ac u fs nu list with
    | error e => rfl
    | ok res =>
      obtain ⟨news, nu'⟩ := res
      simp only [Except.map]
      have e2 : (list.zip news).map Prod.snd = news := List.map_snd_zip (by rw [applyAll_length happ]; omega)
      rw [List.any_map]
      cases hid : (list.zip news).any
          ((fun p : Doc × Doc => !sameId (Get p.2 "_id") (Get p.1 "_id")) ∘ fun p => (p.1.doc, p.2.1.doc)) with
      | true => simp [Function.comp_def] at hid ⊢; simp [hid]
      | false =>
        have hid' : (list.zip news).any (fun p => !sameId (Get p.2.1.doc "_id") (Get p.1.doc "_id")) = false := hid
        simp only [hid', Bool.false_eq_true, ↓reduceIte]
        obtain ⟨_, _, f3, _⟩ := update_pairs_facts k.coherent.1 hb hmem hdl happ
        have hinj : ∀ o' ∈ list, ∀ x, x ∈ c.docs → x.id = o'.id → x = o' :=
          fun o' ho x hx e => ids_inj k.coherent.1 x hx o' (hmem o' ho) e
        obtain ⟨idx1, hrem⟩ := foldIdx_remove_ok k.coherent.2 hmem hdl hinj
        have c1 := foldIdx_remove_coherent k.coherent.2 hinj hrem
        have hsh := foldIdx_remove_shape hrem
        -- the untouched documents, as a list
        have c1' : AllCoherent ac.sch (· ∈ c.docs.filter (fun sd => !(list.any (·.id == sd.id)))) idx1 :=
          c1.congr (fun x => mem_filter_notAny)
        obtain ⟨hdist, hokall⟩ := rest_news_ok (rest := c.docs.filter fun sd => !(list.any (·.id == sd.id)))
          (news := news.map (·.1)) k.coherent.1 hb k.docsOk List.filter_sublist
          (update_fresh hb (fun _ hx => hx) happ).2
          (fun y hy => by
            obtain ⟨n, hn, rfl⟩ := List.mem_map.mp hy
            obtain ⟨o', ho', ha⟩ := (applyAll_spec happ).2.2 n hn
            exact ⟨(f3 _ hy).1, hap o'.doc (List.mem_map.mpr ⟨o', hmem o' ho', rfl⟩) _ _ ha⟩)
        have hadm := foldIdx_add_admitAll (sch := ac.sch) (news.map (·.1)) _ idx1 c1' hdist hokall
        rw [hsh, remove_abs k.coherent.1 k.inj hmem] at hadm
        have hnews : (news.map (·.1)).map (·.doc) =
            ((list.zip news).map (fun p => (p.1.doc, p.2.1.doc))).map (·.2) := by
          calc (news.map (·.1)).map (·.doc) = news.map (fun x => x.1.doc) := by rw [List.map_map]; rfl
            _ = ((list.zip news).map Prod.snd).map (fun x => x.1.doc) := by rw [e2]
            _ = _ := by rw [List.map_map, List.map_map]; rfl
        rw [hnews] at hadm
        simp only [absC, SColl.remove, hrem] at hadm ⊢
        rw [← hadm]
        cases hadd : foldIdx (fun idx sd => addToIndexes ac.sch sd idx) idx1 (news.map (·.1)) with
        | error e => rfl
        | ok idx2 =>
          have hdocs := replaced_abs (pairs := list.zip news) k.coherent.1 k.inj hb
            (fun p hp => hmem p.1 (List.of_mem_zip hp).1)
            (fun p hp => (f3 p.2.1 (List.mem_map.mpr ⟨p.2, (List.of_mem_zip hp).2, rfl⟩)).1)
          simp only [Except.map, pure, Except.pure, Except.ok.injEq, Prod.mk.injEq, SColl.mk.injEq]
          refine ⟨⟨hdocs, ?_⟩, trivial, ?_⟩
          · rw [foldIdx_add_shape hadd, hsh]
          · simp only [List.map_map, List.filter_map]
            rfl

theorem update_oids {ac : ACtx} {c : Coll} {q u : Doc} {sort : Option Doc} {skip limit : Int}
    {fs : List Doc} {nu nu' : Nu} {res : CResult}
    (h : c.update ac q u sort skip limit fs nu = .ok (res, nu')) : nu'.oids = nu.oids := by
  obtain ⟨_, _, _, _, _, hap, _⟩ := Coll.update_ok h
  rw [(applyAll_spec hap).2.1]

/-- the document an upsert would insert is a Go value -/
def UpsertOk (ac : ACtx) (q : Doc) (repl update : Option Doc) (fs : List Doc) : Prop :=
  ∀ doc, upsertDoc ac q repl update fs = .ok doc → DocOk doc

/-- `Collection.Upsert` = the Spec's upsert -/
theorem upsert_abs {ac : ACtx} {c : Coll} {nu : Nu} (hc : Coherent ac.sch c) (hb : IdsBelow c.docs nu.nextId)
    (hok : DocsOk c.docs) (q : Doc) (repl update : Option Doc) (fs : List Doc)
    (hu : UpsertOk ac q repl update fs) (ho : ∀ o ∈ nu.oids, o.i64Ok = true) :
    (c.upsert ac q repl update fs nu).map (fun r => (absC r.1, r.2.1.doc, r.2.2.oids)) =
      (absC c).upsert ac q repl update fs nu.oids := by
  rw [Coll.upsert_eq]
  unfold SColl.upsert
  cases hd : upsertDoc ac q repl update fs with
  | error e => rfl
  | ok doc => exact insert_abs hc hb hok (hu doc hd) ho

theorem update_changes_len {ac : ACtx} {c : Coll} {q u : Doc} {sort : Option Doc} {skip limit : Int}
    {fs : List Doc} {nu nu' : Nu} {res : CResult}
    (h : c.update ac q u sort skip limit fs nu = .ok (res, nu')) :
    res.changes.length = res.modified.length := by
  obtain ⟨_, _, _, _, _, _, _, _, _, rfl⟩ := Coll.update_ok h
  simp

theorem zip_isEmpty {α β} : ∀ (l1 : List α) (l2 : List β), l2.length = l1.length →
    (l1.zip l2).isEmpty = l1.isEmpty
  | [], _, _ => by simp
  | a :: r, [], h => by simp at h
  | a :: r, b :: s, _ => by simp

/-- what an update call needs to know about its arguments, on the Spec's state -/
structure UpdateOk (ac : ACtx) (db : SeqDB) (h : Handle) (q u : Doc) (upsert : Bool) (fs : List Doc)
    (oids : List V) : Prop where
  query : QueryOk ac.sch db h q
  apply : ApplyOkOn ac (db.coll h).docs u fs
  ups : upsert = true → UpsertOk ac q none (some u) fs
  oids : ∀ o ∈ oids, o.i64Ok = true

/-- `Transaction.update` = the Spec's `opUpdate` -/
theorem updateOp_abs {ac : ACtx} {cat : Catalog} {nu : Nu} (g : Good ac.sch true cat nu.nextId)
    (ok : OkDB (abs cat)) {h : Handle} (hne : h ≠ oplogHandle) (q u : Doc) (sort : Option Doc)
    (upsert : Bool) (skip limit : Int) (fs : List Doc)
    (hw : UpdateOk ac (abs cat) h q u upsert fs nu.oids) :
    (updateOp ac cat h q u sort upsert skip limit fs nu).map (fun r => (abs r.1, r.2.1, r.2.2.oids)) =
      opUpdate ac (abs cat) h q u sort upsert skip limit fs nu.oids := by
  have k := g.nsOk_ensure h
  have kc := collOk_ensureNs g ok hne
  have happ : ApplyOkOn ac ((ensureNs cat h).docs.map (·.doc)) u fs := by
    have := hw.apply; rw [abs_coll cat hne] at this; exact this
  have hua := update_abs kc k.below q u sort skip limit fs (queryOk_noMatchError hne hw.query) happ
  unfold updateOp opUpdate
  rw [abs_coll cat hne]
  dsimp only
  rw [← hua]
  cases hupd : (ensureNs cat h).update ac q u sort skip limit fs nu with
  | error e => simp only [Except.map]
  | ok r =>
    obtain ⟨res, nu1⟩ := r
    simp only [Except.map, List.isEmpty_map]
    have hoids := update_oids hupd
    obtain ⟨_, _, hle⟩ := k.coherent.update k.below hupd
    cases hcond : (res.matched.isEmpty && upsert) with
    | true =>
      simp only [↓reduceIte]
      have hup : upsert = true := (Bool.and_eq_true_iff.mp hcond).2
      have hins := upsert_abs (ac := ac) (c := ensureNs cat h) (nu := nu1) k.coherent
        (k.below.mono hle) kc.docsOk q none (some u) fs (hw.ups hup) (by rw [hoids]; exact hw.oids)
      rw [hoids] at hins
      rw [← hins]
      cases hu : (ensureNs cat h).upsert ac q none (some u) fs nu1 with
      | error e => rfl
      | ok r2 =>
        obtain ⟨coll, sd, nu2⟩ := r2
        simp only [Except.map, abs_set_append g.1.oplog hne, appendOplog_nu]
    | false =>
      simp only [Bool.false_eq_true, ↓reduceIte]
      obtain ⟨hf, _, hfo⟩ := abs_fold_append
        (fun cn (a : SDoc × List (String × V)) => appendOplog cn.1 cn.2 h "update" (some a.1.doc) (some a.2))
        (fun _ _ => ⟨_, _, _, _, rfl⟩) (res.modified.zip res.changes) (cat.set h res.coll, nu1)
        (set_keeps g.1.oplog)
      rw [zip_isEmpty _ _ (update_changes_len hupd), abs_set cat res.coll hne] at hf
      simp only [hf, hfo, hoids]

/-- `Transaction.Update` = the Spec's `updateCall` -/
theorem txnUpdate_abs {ac : ACtx} (s : Sys) (h : Handle) (q u : Doc) (sort : Option Doc) (upsert : Bool)
    (limit : Int) (fs : List Doc) (oids : List V) (g : Good ac.sch true s.catalog s.nextId)
    (ok : OkDB (abs s.catalog)) (hw : UpdateOk ac (abs s.catalog) h q u upsert fs oids) :
    updateCall ac (abs s.catalog) h q u sort upsert limit fs oids =
      (Txn.update ac { catalog := s.catalog } h q sort u 0 limit upsert fs (s.nu oids)).map
        (fun r => (abs (s.commit r.1 r.2.2).catalog, r.2.1)) := by
  unfold updateCall Txn.update
  cases hwr : writable h true with
  | error e => rfl
  | ok _ =>
    have hne := writable_ne_oplog hwr
    simp only [abs_get? s.catalog hne, Option.isNone_map]
    cases hg : ((s.catalog.get? h).isNone && !upsert) with
    | true => simp [Except.map, Sys.commit]
    | false =>
      simp only [Bool.false_eq_true, ↓reduceIte]
      have hop := updateOp_abs (nu := s.nu oids) g ok hne q u sort upsert 0 limit fs hw
      simp only [Sys.nu] at hop ⊢
      rw [← hop]
      cases updateOp ac s.catalog h q u sort upsert 0 limit fs { nextId := s.nextId, oids := oids } with
      | error e => rfl
      | ok r =>
        obtain ⟨cat', res, nu'⟩ := r
        simp only [Except.map]
        cases hb : (!res.modified.isEmpty || res.upserted.isSome) <;> simp [Sys.commit, keepIf]

theorem refines_updateOne (s : Sys) (h : Handle) (q u : Doc) (upsert : Bool) (fs : List Doc) (oids : List V)
    (g : Good sch true s.catalog s.nextId) (ok : OkDB (abs s.catalog))
    (hw : UpdateOk (acOf sch) (abs s.catalog) h q u upsert fs oids) :
    Refines sch s (.updateOne h q u upsert fs) oids := by
  unfold Refines Sys.step
  simp only [Spec.step, runCall, txnUpdate_abs (ac := acOf sch) s h q u none upsert 1 fs oids g ok hw]
  cases Txn.update (acOf sch) { catalog := s.catalog } h q none u 0 1 upsert fs (s.nu oids) with
  | error e => rfl
  | ok r => rfl

theorem refines_updateMany (s : Sys) (h : Handle) (q u : Doc) (upsert : Bool) (fs : List Doc) (oids : List V)
    (g : Good sch true s.catalog s.nextId) (ok : OkDB (abs s.catalog))
    (hw : UpdateOk (acOf sch) (abs s.catalog) h q u upsert fs oids) :
    Refines sch s (.updateMany h q u upsert fs) oids := by
  unfold Refines Sys.step
  simp only [Spec.step, runCall, txnUpdate_abs (ac := acOf sch) s h q u none upsert 0 fs oids g ok hw]
  cases Txn.update (acOf sch) { catalog := s.catalog } h q none u 0 0 upsert fs (s.nu oids) with
  | error e => rfl
  | ok r => rfl

theorem refines_findOneAndUpdate (s : Sys) (h : Handle) (q u : Doc) (sort proj : Option Doc) (upsert after : Bool)
    (fs : List Doc) (oids : List V) (g : Good sch true s.catalog s.nextId) (ok : OkDB (abs s.catalog))
    (hw : UpdateOk (acOf sch) (abs s.catalog) h q u upsert fs oids) :
    Refines sch s (.findOneAndUpdate h q u sort proj upsert after fs) oids := by
  unfold Refines Sys.step
  simp only [Spec.step, runCall, txnUpdate_abs (ac := acOf sch) s h q u sort upsert 1 fs oids g ok hw]
  cases Txn.update (acOf sch) { catalog := s.catalog } h q sort u 0 1 upsert fs (s.nu oids) with
  | error e => rfl
  | ok r =>
    obtain ⟨t, res, nu⟩ := r
    simp only [Except.map]
    cases projOpt sch proj (famDoc res after) with
    | error e => rfl
    | ok d => rfl

end Lungo.SeqRef
