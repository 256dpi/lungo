/-
  Lungo.Proofs.ConcProgress — what the no-deadlock argument has to know about `Close` and the expiry goroutine:
  actor 0, and nobody else, runs the expiry goroutine's code (so it is never an idle client and never waits in
  `Close`), and an actor is in the tail of `Close` only once the engine is killed.
-/
import Lungo.Proofs.ConcInv
namespace Lungo.Conc

/-- the select, the expiry callback and the exit of `Engine.expire` -/
def Pc.exp : Pc → Bool
  | .xWait | .xExpire | .xExited => true
  | _ => false

/-- inside the subroutines `Engine.Begin` / `Commit` / `Abort` or at their return point, where the continuation
    `Local.k` says who called -/
def Pc.sub : Pc → Bool
  | .bLock | .bCheck | .bSessLock | .bSessRead | .bAcquire | .bRelock | .bPost
  | .cLock | .cCheck | .cStore | .aLock | .aBody | .after => true
  | _ => false

def K.exp : K → Bool
  | .expBegin | .expCommit | .expAbort => true
  | _ => false

/-- program counter and continuation are in the control flow of the expiry goroutine -/
def ctlExp (p : Pc) (k : K) : Bool := p.exp || (p.sub && k.exp)

def Local.exp (l : Local) : Bool := ctlExp l.pc l.k

theorem Local.exp_pc {l : Local} (h : l.exp = true) : l.pc.exp = true ∨ l.pc.sub = true := by
  unfold Local.exp ctlExp at h
  cases hx : l.pc.exp
  · rw [hx, Bool.false_or, Bool.and_eq_true] at h; exact Or.inr h.1
  · exact Or.inl rfl

/-- Actor 0 and nobody else runs the code of the expiry goroutine, and `Close` is past `tomb.Kill` only when the
    engine is dead. -/
def Xinv (s : State) : Prop :=
  (∀ a, (s.loc a).exp = true ↔ a = 0) ∧ (∀ a, (s.loc a).pc.closing = true → s.eng.alive = false)

theorem xinv_init (n : Nat) : Xinv (init n) := by
  refine ⟨fun b => ?_, fun b => ?_⟩ <;> by_cases hb : b = 0 <;> simp [init, hb, Local.exp, ctlExp, Pc.exp, Pc.sub, Pc.closing]

/-- every edge stays on its side of the expiry goroutine's code: a call site sets the continuation, a return point
    dispatches on it -/
theorem edge_exp {p p' : Pc} {k : K} {e : Edge} (h : edge p k p' = some e) : ctlExp p' (e.k k) = ctlExp p k := by
  revert h
  fun_cases edge p k p' <;> intro h <;> cases h <;> rfl

theorem Call.enter_exp {l l' : Local} {h : Option Tid} {cl : Call} (he : Call.enter l h cl = some l') :
    l'.exp = false := by
  revert he
  fun_cases Call.enter l h cl <;> intro he <;> first | (cases he; rfl) | (cases h <;> cases he; rfl) | cases he

/-- only the ticker and an idle client's call enter code from outside, each on its own side -/
theorem Flow.exp {s : State} {a : ActorId} {c : Choice} {l' : Local} (f : Flow s a c l') :
    l'.exp = (s.loc a).exp := by
  unfold Local.exp
  cases f with
  | go hp hk r he => rw [r.pc_k.1, r.pc_k.2]; subst hp hk; exact edge_exp he
  | invoke hp _ he => rw [hp]; exact Call.enter_exp he
  | tick hp => rw [hp]; rfl

theorem xinv_step {s s' : State} {a : ActorId} {c : Choice} (g : Xinv s)
    (hs : step s a c = some s') : Xinv s' := by
  obtain ⟨l', hl, -, f, d⟩ := step_sorted hs
  have self : s'.loc a = l' := by rw [hl, upd_same]
  refine ⟨fun b => ?_, fun b hb => ?_⟩
  · by_cases hba : b = a
    · subst hba; rw [self, f.exp]; exact g.1 b
    · rw [step_loc_other hs hba]; exact g.1 b
  · by_cases hba : b = a
    · subst hba
      rw [self] at hb
      rcases d.kill hb with h | h
      · exact alive_mono (g.2 b h) hs
      · exact h
    · rw [step_loc_other hs hba] at hb
      exact alive_mono (g.2 b hb) hs

theorem xinv_reachable {n : Nat} {s : State} (h : Reachable n s) : Xinv s := by
  induction h with
  | init => exact xinv_init n
  | step _ hs ih => exact xinv_step ih hs

end Lungo.Conc
