/-
  Lungo.Proofs.FS — invariants of the crash model: which contents a name can show (`Shows`, `PathInv`, `WF`; both
  together: `Base`), the three ways in which an operation changes a state and keeps them (`Base.frame`: inodes and
  descriptors, `Base.push`: a directory operation is logged, `Base.syncDir`; `AtomicWrite.exec_base` shows every call
  of the interpreter to be one of them), and that process death and power loss keep them.
-/
import Lungo.Model.FS
namespace Lungo.FS

/-- inode `i` is fully synced with content `c` -/
def Stable (s : State) (i : Ino) (c : Bytes) : Prop := s.ino i = ⟨c, []⟩

/-- effect of a directory operation on name `p`: `none` untouched, `some v` := `p ↦ v` -/
def DirOp.effect (p : Name) : DirOp → Option (Option Ino)
  | .link n i => if p = n then some (some i) else none
  | .unlink n => if p = n then some none else none
  | .rename a b i => if p = b then some (some i) else if p = a then some none else none

def DirOp.inoRef : DirOp → Option Ino
  | .link _ i => some i
  | .unlink _ => none
  | .rename _ _ i => some i

theorem Dir.set_same (d : Dir) (n : Name) (v : Option Ino) : d.set n v n = v := if_pos rfl

theorem Dir.set_other (d : Dir) {n m : Name} (v : Option Ino) (h : m ≠ n) : d.set n v m = d m := if_neg h

theorem effect_apply (op : DirOp) (d : Dir) (p : Name) :
    op.apply d p = match op.effect p with | none => d p | some v => v := by
  cases op <;> simp only [DirOp.apply, DirOp.effect, Dir.set]
  · split <;> rfl
  · split <;> rfl
  · split
    · rfl
    · split <;> rfl

theorem effect_inoRef {op : DirOp} {p i} (h : op.effect p = some (some i)) : op.inoRef = some i := by
  cases op <;> simp only [DirOp.effect] at h
  · split at h
    · exact Option.some.inj h
    · cases h
  · split at h <;> cases h
  · split at h
    · exact Option.some.inj h
    · split at h <;> cases h

theorem apply_cases (op : DirOp) (d : Dir) (p : Name) : op.apply d p = d p ∨ op.effect p = some (op.apply d p) := by
  have h := effect_apply op d p
  cases he : op.effect p with
  | none => rw [he] at h; exact .inl h
  | some v => rw [he] at h; exact .inr (congrArg some h.symm)

theorem applyAll_cases (ops : List DirOp) (d : Dir) (p : Name) :
    applyAll d ops p = d p ∨ ∃ op ∈ ops, op.effect p = some (applyAll d ops p) := by
  induction ops generalizing d with
  | nil => exact Or.inl rfl
  | cons op ops ih =>
    rcases ih (op.apply d) with h | ⟨op', hm, he⟩
    · exact (apply_cases op d p).imp h.trans fun he => ⟨op, List.mem_cons_self, he.trans (congrArg some h.symm)⟩
    · exact Or.inr ⟨op', List.mem_cons_of_mem _ hm, he⟩

theorem applyAll_append (d : Dir) (l₁ l₂ : List DirOp) : applyAll d (l₁ ++ l₂) = applyAll (applyAll d l₁) l₂ := by
  induction l₁ generalizing d with
  | nil => rfl
  | cons op l ih => exact ih _

/-- the value `v` a directory may give to the path is acceptable: absent and `A none`, or a
    fully synced inode whose content `c` satisfies `A (some c)` -/
def ValOK (s : State) (A : Option Bytes → Prop) : Option Ino → Prop
  | none => A none
  | some i => ∃ c, Stable s i c ∧ A (some c)

theorem ValOK.imp {s s' : State} {A B v} (hAB : ∀ x, A x → B x)
    (hi : ∀ i c, v = some i → Stable s i c → Stable s' i c) (h : ValOK s A v) : ValOK s' B v := by
  cases v with
  | none => exact hAB _ h
  | some i => obtain ⟨c, hs, ha⟩ := h; exact ⟨c, hi i c rfl hs, hAB _ ha⟩

theorem ValOK.mono {s A B v} (hAB : ∀ x, A x → B x) (h : ValOK s A v) : ValOK s B v :=
  h.imp hAB fun _ _ _ hs => hs

theorem ValOK.vol {s A v} (h : ValOK s A v) : A (v.map fun i => (s.ino i).vol) := by
  cases v with
  | none => exact h
  | some i =>
    obtain ⟨c, hs, ha⟩ := h
    have : (s.ino i).vol = c := by rw [hs]; exact List.append_nil c
    show A (some (s.ino i).vol)
    rw [this]
    exact ha

/-- every content the name `p` can show — durably, volatile, or through any pending operation — is in `A`
    and sits in a fully synced inode -/
structure PathInv (s : State) (p : Name) (A : Option Bytes → Prop) : Prop where
  d : ValOK s A (s.ddir p)
  v : ValOK s A (s.vdir p)
  pend : ∀ op ∈ s.pending, ∀ v, op.effect p = some v → ValOK s A v

/-- all inode references are below the allocation counter -/
structure WF (s : State) : Prop where
  v : ∀ n i, s.vdir n = some i → i < s.next
  d : ∀ n i, s.ddir n = some i → i < s.next
  pend : ∀ op ∈ s.pending, ∀ i, op.inoRef = some i → i < s.next

/-- the three ways a state can give the value `v` to the name `p`: durably, in the volatile directory, or by a
    pending operation.  `PathInv` and `WF` speak about exactly these values. -/
def Shows (s : State) (p : Name) (v : Option Ino) : Prop :=
  s.ddir p = v ∨ s.vdir p = v ∨ ∃ op ∈ s.pending, op.effect p = some v

theorem pathInv_iff {s p A} : PathInv s p A ↔ ∀ v, Shows s p v → ValOK s A v := by
  constructor
  · rintro h v (rfl | rfl | ⟨op, hm, he⟩)
    · exact h.d
    · exact h.v
    · exact h.pend op hm v he
  · exact fun h => ⟨h _ (.inl rfl), h _ (.inr (.inl rfl)), fun op hm v he => h v (.inr (.inr ⟨op, hm, he⟩))⟩

theorem PathInv.mono {s p A B} (hAB : ∀ x, A x → B x) (h : PathInv s p A) : PathInv s p B :=
  pathInv_iff.2 fun v hv => (pathInv_iff.1 h v hv).mono hAB

theorem WF.shows {s p i} (hw : WF s) : Shows s p (some i) → i < s.next
  | .inl h => hw.d p i h
  | .inr (.inl h) => hw.v p i h
  | .inr (.inr ⟨op, hm, he⟩) => hw.pend op hm i (effect_inoRef he)

theorem shows_applyAll {s : State} (p : Name) {sub : List DirOp} (hs : sub ⊆ s.pending) :
    Shows s p (applyAll s.ddir sub p) := by
  rcases applyAll_cases sub s.ddir p with he | ⟨op, hm, he⟩
  · exact .inl he.symm
  · exact .inr (.inr ⟨op, hs hm, he⟩)

structure Base (s : State) (p : Name) (A : Option Bytes → Prop) : Prop where
  wf : WF s
  inv : PathInv s p A

theorem Base.mono {s p A B} (hAB : ∀ x, A x → B x) (h : Base s p A) : Base s p B := ⟨h.wf, h.inv.mono hAB⟩

/-- inode `h` is not (and cannot become, through pending operations) the inode of name `p` -/
def Private (s : State) (p : Name) (h : Ino) : Prop := ¬ Shows s p (some h)

theorem WF.private_next {s} (hw : WF s) (p : Name) : Private s p s.next := fun h => Nat.lt_irrefl _ (hw.shows h)

/-- inodes, allocation counter and descriptors may change as long as every stable inode that `p` can show
    stays as it is -/
theorem Base.frame {s p A} (hb : Base s p A) (ino : Ino → Inode) {next : Ino} (fds : List Fd) (hn : s.next ≤ next)
    (hst : ∀ i c, Shows s p (some i) → Stable s i c → ino i = ⟨c, []⟩) :
    Base { s with ino := ino, next := next, fds := fds } p A :=
  ⟨⟨fun n i h => Nat.lt_of_lt_of_le (hb.wf.v n i h) hn, fun n i h => Nat.lt_of_lt_of_le (hb.wf.d n i h) hn,
    fun op hm i h => Nat.lt_of_lt_of_le (hb.wf.pend op hm i h) hn⟩,
   pathInv_iff.2 fun v hs => (pathInv_iff.1 hb.inv v hs).imp (fun _ hx => hx) fun i c e => hst i c (e ▸ hs)⟩

/-- a directory operation is carried out on the volatile directory and logged: it must refer to an allocated
    inode and give `p`, if it touches `p` at all, an acceptable value -/
theorem Base.push {s p A} (hb : Base s p A) (op : DirOp) (href : ∀ i, op.inoRef = some i → i < s.next)
    (hok : ∀ v, op.effect p = some v → ValOK s A v) :
    Base { s with vdir := op.apply s.vdir, pending := s.pending ++ [op] } p A := by
  have mem : ∀ {o}, o ∈ s.pending ++ [op] → o ∈ s.pending ∨ o = op := fun h =>
    (List.mem_append.mp h).imp_right List.mem_singleton.mp
  refine ⟨⟨fun n i h => ?_, hb.wf.d, fun o hm i h => ?_⟩, ⟨hb.inv.d, ?_, fun o hm v h => ?_⟩⟩
  · exact (apply_cases op s.vdir n).elim (fun e => hb.wf.v n i (e.symm.trans h)) fun he =>
      href i (effect_inoRef (he.trans (congrArg some h)))
  · exact (mem hm).elim (hb.wf.pend o · i h) fun e => href i (e ▸ h)
  · exact (apply_cases op s.vdir p).elim (fun e => show ValOK s A (op.apply s.vdir p) from e ▸ hb.inv.v) (hok _)
  · exact (mem hm).elim (hb.inv.pend o · v h) fun e => hok v (e ▸ h)

/-- the pending directory operations become durable -/
theorem Base.syncDir {s p A} (hb : Base s p A) :
    Base { s with ddir := applyAll s.ddir s.pending, pending := [] } p A :=
  have sh := fun n => shows_applyAll (s := s) n (List.Subset.refl _)
  ⟨⟨hb.wf.v, fun n i (hni : applyAll s.ddir s.pending n = some i) => hb.wf.shows (hni ▸ sh n),
      fun _ h => absurd h List.not_mem_nil⟩,
    ⟨pathInv_iff.1 hb.inv _ (sh p), hb.inv.v, fun _ h => absurd h List.not_mem_nil⟩⟩

theorem PathInv.load_ok {s p A} (h : PathInv s p A) : A (load s p) := h.v.vol

theorem load_kill (s : State) (p : Name) : load (kill s) p = load s p := rfl

/-- process death keeps the invariants (only descriptors are lost) -/
theorem kill_preserves {s : State} {p : Name} {A : Option Bytes → Prop} (hw : WF s) (h : PathInv s p A) :
    WF (kill s) ∧ PathInv (kill s) p A :=
  ⟨⟨hw.v, hw.d, hw.pend⟩, ⟨h.d, h.v, h.pend⟩⟩

/-- a fully synced inode has no un-synced remainder to lose or to replace by garbage -/
theorem Crash.stable {s s' : State} (hc : Crash s s') {i c} (h : Stable s i c) : Stable s' i c := by
  obtain ⟨_, _, _, _, _, _, _, hino⟩ := hc
  obtain ⟨g, hg, hlen⟩ := hino i
  rw [h] at hg hlen
  cases List.eq_nil_of_length_eq_zero (Nat.le_zero.mp hlen)
  exact hg.trans (congrArg (Inode.mk · []) (List.append_nil c))

theorem PathInv.crash {s s' p A} (h : PathInv s p A) (hc : Crash s s') : PathInv s' p A := by
  have stab := @Crash.stable s s' hc
  obtain ⟨sub, hsub, hd, hv, hp, -⟩ := hc
  have hdp : ValOK s' A (s'.ddir p) := by
    rw [hd p]
    exact (pathInv_iff.1 h _ (shows_applyAll p hsub.subset)).imp (fun _ hx => hx) fun _ _ _ => stab
  exact ⟨hdp, by rw [hv p]; exact hdp, by rw [hp]; exact fun _ h => absurd h List.not_mem_nil⟩

theorem WF.crash {s s'} (hw : WF s) (hc : Crash s s') : WF s' := by
  obtain ⟨sub, hsub, hd, hv, hp, _, hn, -⟩ := hc
  have refd : ∀ n i, s'.ddir n = some i → i < s'.next := by
    intro n i hni
    rw [hn]
    exact hw.shows (hni ▸ hd n ▸ shows_applyAll n hsub.subset)
  exact ⟨fun n i h => refd n i (hv n ▸ h), refd, by rw [hp]; exact fun _ h => absurd h List.not_mem_nil⟩

/-- a post-crash state again satisfies the invariants (so the program can be re-run on it) -/
theorem crash_preserves {s s' p A} (hw : WF s) (h : PathInv s p A) (hc : Crash s s') : WF s' ∧ PathInv s' p A :=
  ⟨hw.crash hc, h.crash hc⟩

/-- both ways a run can be cut short — process death or power loss — lead to a state satisfying the invariants -/
theorem reach_preserves {s s' p A} (hw : WF s) (h : PathInv s p A) (hr : s' = kill s ∨ Crash s s') :
    WF s' ∧ PathInv s' p A := by
  rcases hr with rfl | hc
  · exact kill_preserves hw h
  · exact crash_preserves hw h hc

/-- C05 core: after ANY crash the name shows an acceptable content -/
theorem PathInv.crash_load {s s' p A} (h : PathInv s p A) (hc : Crash s s') : A (load s' p) :=
  (h.crash hc).load_ok

end Lungo.FS
