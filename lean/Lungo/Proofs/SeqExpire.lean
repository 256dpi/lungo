/-
  Lungo.Proofs.SeqExpire — C01: expire (TTL). The implementation walks the namespaces of the catalog
  and runs one `Transaction.delete` per namespace with a TTL index; the Spec maps over its
  collections. The two agree because handles are pairwise distinct (Proofs/SeqHandles.lean).
-/
import Lungo.Proofs.SeqBulk
import Lungo.Proofs.SeqHandles
import Lungo.Proofs.ExpireLaws
namespace Lungo.SeqRef
open Lungo Lungo.Spec

variable {sch : SchemaEval}

theorem map_ok {α β} {f : α → β} {a : Res α} {y : β} (h : a.map f = .ok y) : ∃ x, a = .ok x ∧ f x = y := by
  cases a with
  | error e => cases h
  | ok x => cases h; exact ⟨x, rfl, rfl⟩

theorem map_error {α β} {f : α → β} {a : Res α} {e : Err} (h : a.map f = .error e) : a = .error e := by
  cases a with
  | error e' => cases h; rfl
  | ok x => cases h

section mid
variable {P R : List (Handle × SColl)} {h : Handle} {c : SColl}

theorem mid_others (hnd : ((P ++ (h, c) :: R).map (·.1)).Nodup) : ∀ x ∈ P ++ R, (x.1 == h) = false := by
  rw [List.map_append, List.map_cons, List.nodup_append] at hnd
  obtain ⟨_, hR, hdisj⟩ := hnd
  intro x hx
  simp only [beq_eq_false_iff_ne, ne_eq]
  rcases List.mem_append.mp hx with hx | hx
  · exact hdisj x.1 (List.mem_map_of_mem hx) h (by simp)
  · exact fun e => (List.nodup_cons.mp hR).1 (List.mem_map.mpr ⟨x, hx, e⟩)

theorem get?_mid (lg : Bool) (hnd : ((P ++ (h, c) :: R).map (·.1)).Nodup) :
    ({ colls := P ++ (h, c) :: R, logged := lg } : SeqDB).get? h = some c := by
  have hP : P.find? (·.1 == h) = none :=
    List.find?_eq_none.mpr fun x hx => by simp [mid_others hnd x (List.mem_append_left _ hx)]
  simp [SeqDB.get?, List.find?_append, hP]

theorem put_mid (c' : SColl) (lg : Bool) (hnd : ((P ++ (h, c) :: R).map (·.1)).Nodup) :
    ({ colls := P ++ (h, c) :: R, logged := lg } : SeqDB).put h c' =
      { colls := P ++ (h, c') :: R, logged := lg } := by
  have hid : ∀ l : List (Handle × SColl), (∀ x ∈ l, (x.1 == h) = false) →
      l.map (fun x => if x.1 == h then (x.1, c') else (x.1, x.2)) = l := fun l hl => by
    rw [List.map_congr_left (g := id) fun x hx => by simp [hl x hx], List.map_id]
  have hany : (P ++ (h, c) :: R).any (·.1 == h) = true := by simp
  have ho := mid_others hnd
  simp only [SeqDB.put, hany, ↓reduceIte, List.map_append, List.map_cons, beq_self_eq_true,
    hid P fun x hx => ho x (List.mem_append_left _ hx), hid R fun x hx => ho x (List.mem_append_right _ hx)]

end mid

/-- no TTL definition (Spec side) -/
def ttlEmptyS (c : SColl) : Bool := (c.defs.filter fun (_, cfg) => cfg.expiry > 0).isEmpty

theorem ttl_filter_abs (idx : List (String × Index)) :
    ((shape idx).filter fun (_, cfg) => cfg.expiry > 0) = shape (idx.filter fun (_, i) => i.config.expiry > 0) := by
  simp only [shape, List.filter_map]
  rfl

theorem ttlEmpty_abs (c : Coll) : ttlEmptyS (absC c) = (ttlIndexes c).isEmpty := by
  unfold ttlEmptyS absC
  rw [ttl_filter_abs]
  simp [shape, ttlIndexes]

theorem ttlQuery_abs (c : Coll) (nowMs : Int) : ttlQuery (absC c).defs nowMs = expireQuery c nowMs := by
  unfold ttlQuery absC
  rw [ttl_filter_abs]
  simp only [shape, List.map_map]
  rfl

theorem expireAll_cons (nowMs : Int) (h : Handle) (c : SColl) (r : List (Handle × SColl)) :
    expireAll sch nowMs ((h, c) :: r) =
      if ttlEmptyS c then
        match expireAll sch nowMs r with
        | .error e => .error e
        | .ok (r', n) => .ok ((h, c) :: r', n)
      else
        match c.delete sch (ttlQuery c.defs nowMs) none 0 0 with
        | .error e => .error e
        | .ok (c', gone) =>
          match expireAll sch nowMs r with
          | .error e => .error e
          | .ok (r', n) => .ok ((h, c') :: r', gone.length + n) := by
  rw [expireAll]
  rfl

/-- the TTL queries evaluate on the documents of their collections -/
def TtlOk (sch : SchemaEval) (nowMs : Int) (colls : List (Handle × SColl)) : Prop :=
  ∀ h c, (h, c) ∈ colls → ∀ d ∈ c.docs, ∀ e, Match sch d (ttlQuery c.defs nowMs) ≠ .error e

theorem okDB_opDelete {db db' : SeqDB} {h : Handle} {q : Doc} {sort : Option Doc} {skip limit : Int}
    {r : TResult} (ok : OkDB db) (e : opDelete sch db h q sort skip limit = .ok (db', r)) : OkDB db' := by
  unfold opDelete SColl.delete at e
  cases hsel : select sch (db.coll h).docs q sort skip limit with
  | error e' => simp [hsel] at e
  | ok targets =>
    simp only [hsel, Except.ok.injEq, Prod.mk.injEq] at e
    obtain ⟨rfl, _⟩ := e
    have : OkDB (db.put h ((db.coll h).remove targets)) :=
      okDB_put ok fun d hd => okDB_coll ok h d (List.mem_filter.mp hd).1
    split
    · exact this
    · exact okDB_log this

theorem expire_go_abs {nowMs : Int} :
    ∀ (L : List (Handle × Coll)) (P : List (Handle × SColl)) (cat : Catalog) (nu : Nu) (deleted : Nat),
    Good sch true cat nu.nextId → OkDB (abs cat) →
    (abs cat).colls = P ++ L.map absNs →
    ((P ++ L.map absNs).map (·.1)).Nodup →
    (∀ c, (oplogHandle, c) ∈ L → c.indexes = []) →
    TtlOk sch nowMs (L.map absNs) →
    (Txn.expire.go sch nowMs cat nu deleted L).map (fun r => (abs r.1, r.2.2)) =
      (expireAll sch nowMs (L.map absNs)).map fun r =>
        ({ colls := P ++ r.1, logged := (abs cat).logged || decide (r.2 > 0) }, deleted + r.2)
  | [], P, cat, nu, deleted, _, _, hcolls, _, _, _ => by
    rw [List.map_nil, List.append_nil] at hcolls
    simp [Txn.expire.go, expireAll, Except.map, ← hcolls]
  | (h, c) :: r, P, cat, nu, deleted, g, ok, hcolls, hnd, hbare, httl => by
    have hbare' : ∀ c', (oplogHandle, c') ∈ r → c'.indexes = [] :=
      fun c' hm => hbare c' (List.mem_cons_of_mem _ hm)
    have httl' : TtlOk sch nowMs (r.map absNs) :=
      fun h' c' hm => httl h' c' (List.mem_cons_of_mem _ hm)
    rw [expire_go_cons, List.map_cons]
    by_cases ho : h = oplogHandle
    · -- the oplog carries no index on either side
      subst ho
      have hE : (ttlIndexes c).isEmpty = true := by simp [ttlIndexes, hbare c (by simp)]
      have hS : absNs (oplogHandle, c) = (oplogHandle, { docs := [], defs := [] }) := by simp [absNs]
      rw [List.map_cons, hS, List.append_cons] at hcolls hnd
      rw [hS, expireAll_cons, hE]
      simp only [↓reduceIte]
      rw [expire_go_abs r _ cat nu deleted g ok hcolls hnd hbare' httl']
      cases expireAll sch nowMs (r.map absNs) <;> simp [ttlEmptyS, Except.map]
    · rw [List.map_cons, absNs_user ho] at hcolls hnd
      rw [absNs_user ho, expireAll_cons, ttlEmpty_abs, ttlQuery_abs]
      cases hEv : (ttlIndexes c).isEmpty with
      | true =>
        rw [List.append_cons] at hcolls hnd
        simp only [↓reduceIte]
        rw [expire_go_abs r _ cat nu deleted g ok hcolls hnd hbare' httl']
        cases expireAll sch nowMs (r.map absNs) <;> simp [Except.map]
      | false =>
        simp only [Bool.false_eq_true, ↓reduceIte]
        have hdb : abs cat = { colls := P ++ (h, absC c) :: r.map absNs, logged := (abs cat).logged } := by
          rw [← hcolls]
        have hcoll : (abs cat).coll h = absC c := by rw [SeqDB.coll, hdb, get?_mid _ hnd]; rfl
        have hdel := deleteOp_abs g ok ho (expireQuery c nowMs) none 0 0 nu (by
          intro d hd e
          rw [hcoll] at hd
          rw [← ttlQuery_abs]
          exact httl h (absC c) (by rw [List.map_cons, absNs_user ho]; simp) d hd e)
        have hop := hdel
        rw [opDelete, hcoll] at hdel
        cases hsd : (absC c).delete sch (expireQuery c nowMs) none 0 0 with
        | error e =>
          rw [hsd] at hdel
          rw [map_error hdel]
          rfl
        | ok res =>
          obtain ⟨c', gone⟩ := res
          rw [hsd] at hdel
          obtain ⟨⟨cat1, res1, nu1⟩, hd1, hd2⟩ := map_ok hdel
          simp only [Prod.mk.injEq] at hd2
          obtain ⟨habs1, rfl⟩ := hd2
          rw [hd1]
          simp only
          -- the database after this delete
          have habs1' : abs cat1 =
              { colls := (P ++ [(h, c')]) ++ r.map absNs, logged := (abs cat).logged || !gone.isEmpty } := by
            rw [habs1, hdb, put_mid c' _ hnd, List.append_assoc]
            cases gone <;> simp [SeqDB.log]
          have hnd1 : (((P ++ [(h, c')]) ++ r.map absNs).map (·.1)).Nodup := by
            rw [List.append_assoc]; simpa using hnd
          have ok1 : OkDB (abs cat1) := by
            rw [hd1] at hop
            exact okDB_opDelete ok hop.symm
          rw [expire_go_abs r _ cat1 nu1 _ ((deleteOp_steps (ac := acOf sch) (strict := False) (fun f => f.elim) hd1).good g).1 ok1
            (by rw [habs1']) hnd1 hbare' httl']
          cases expireAll sch nowMs (r.map absNs) with
          | error e => rfl
          | ok res2 =>
            simp only [Except.map, habs1', List.append_assoc, List.cons_append, List.nil_append,
              Except.ok.injEq, Prod.mk.injEq, SeqDB.mk.injEq, true_and]
            refine ⟨?_, by omega⟩
            cases gone <;> simp <;> omega

theorem refines_expire (s : Sys) (nowMs : Int) (oids : List V) (g : Good sch true s.catalog s.nextId)
    (hh : HD s.catalog) (ok : OkDB (abs s.catalog)) (hw : TtlOk sch nowMs (abs s.catalog).colls) :
    Refines sch s (.expire nowMs) oids := by
  unfold Refines Sys.step
  simp only [Spec.step, runCall, Txn.expire]
  have hgo := expire_go_abs (sch := sch) (nowMs := nowMs) s.catalog.namespaces [] s.catalog (s.nu oids) 0 g ok
    rfl (by simp only [List.nil_append, List.map_map]; exact hh) (fun c hm => g.1.oplogBare c hm) hw
  have hcolls : (abs s.catalog).colls = s.catalog.namespaces.map absNs := rfl
  rw [hcolls]
  cases hex : expireAll sch nowMs (s.catalog.namespaces.map absNs) with
  | error e =>
    rw [hex] at hgo
    rw [map_error hgo]
    rfl
  | ok res =>
    rw [hex] at hgo
    obtain ⟨⟨cat', nu', d'⟩, hg1, hg2⟩ := map_ok hgo
    simp only [List.nil_append, Nat.zero_add, Prod.mk.injEq] at hg2
    obtain ⟨hc, rfl⟩ := hg2
    rw [hg1]
    by_cases hn : res.2 > 0
    · simp [Except.map, hn, Sys.commit, hc]
    · have h0 : res.2 = 0 := by omega
      simp [Except.map, h0, Sys.commit]

end Lungo.SeqRef
