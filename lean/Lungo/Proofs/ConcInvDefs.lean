/-
  Lungo.Proofs.ConcInvDefs — the lock / token invariant `Inv1` of the concurrency model (`Lungo.Model.Conc`) and what
  its proof and the proofs of the other lock invariants (`Sinv`, `Uinv`) rest on: the region predicates and their
  tables, the relation `LockStep` that says what one step does to the locks, and the dispatch of `step` into its
  branches.
-/
import Lungo.Model.Conc
namespace Lungo.Conc

/-- program counters at which an actor holds `e.mutex` -/
def EHold (pc : Pc) : Prop :=
  pc = .bCheck ∨ pc = .bPost ∨ pc = .cCheck ∨ pc = .cStore ∨
  pc = .aBody ∨ pc = .clKill ∨ pc = .kBody

/-- local states in which an actor holds the writer token itself (between a successful
    `Acquire` and `e.txn = …`/`Release`, or inside Commit after `e.txn = nil`) -/
def THold (l : Local) : Prop :=
  ((l.pc = .bRelock ∨ l.pc = .bPost) ∧ l.okF = true) ∨ l.pc = .cStore

/-- local states in which an actor holds `s.mutex` of session `sid` -/
def SHold (l : Local) (sid : SessId) : Prop :=
  ((l.pc = .bSessRead ∨ l.pc = .uSessRead) ∧ l.ctxSess = some sid) ∨
  (l.sid = sid ∧ (l.pc = .ssReserve ∨ l.pc = .ssFinal ∨ l.pc = .scBody ∨ l.pc = .saBody ∨
    ((l.k = .startAbort ∨ l.k = .sessCommit ∨ l.k = .sessAbort) ∧
      (l.pc = .aLock ∨ l.pc = .aBody ∨ l.pc = .cLock ∨ l.pc = .cCheck ∨ l.pc = .cStore ∨ l.pc = .after))))

/-- inside Engine.Begin the continuation is one of the Begin call sites -/
def BeginWf (l : Local) : Prop :=
  ((l.pc = .bLock ∨ l.pc = .bCheck ∨ l.pc = .bSessLock ∨ l.pc = .bSessRead ∨ l.pc = .bAcquire ∨
    l.pc = .bRelock ∨ l.pc = .bPost) →
  (l.k = .use ∨ l.k = .start ∨ l.k = .expBegin ∨ l.k = .dBegin)) ∧
  ((l.pc = .cLock ∨ l.pc = .cCheck ∨ l.pc = .cStore) →
    (l.k = .useCommit ∨ l.k = .sessCommit ∨ l.k = .expCommit ∨ l.k = .dCommit)) ∧
  ((l.pc = .aLock ∨ l.pc = .aBody) →
    (l.k = .useAbort ∨ l.k = .startAbort ∨ l.k = .sessAbort ∨ l.k = .expAbort ∨ l.k = .dAbort))

/-- Every lock names its holder: `e.mutex`, the token and each session mutex are held by exactly the actor whose
    registers are in the corresponding region; the token is conserved (semaphore slot + holder + installed
    transaction = 1), so `Release` never finds the slot full; inside Begin / Commit / Abort the continuation is one of
    that subroutine's call sites. -/
structure Inv1 (s : State) : Prop where
  mutex_iff : ∀ a, s.eng.mutex = some a ↔ EHold (s.loc a).pc
  holder_iff : ∀ a, s.eng.holder = some a ↔ THold (s.loc a)
  conserv : s.eng.token + (if s.eng.holder.isSome then 1 else 0) + (if s.eng.txn.isSome then 1 else 0) = 1
  noPanic : s.eng.relPanic = false
  smutex_iff : ∀ a sid, (s.sess sid).mutex = some a ↔ SHold (s.loc a) sid
  beginWf : ∀ a, BeginWf (s.loc a)

/-- inside `Commit`, after `e.txn = nil`, the actor holds the token and nothing is installed -/
theorem Inv1.txn_none_of_cStore {s : State} (i : Inv1 s) {b : ActorId} (h : (s.loc b).pc = .cStore) :
    s.eng.txn = none := by
  have hh := (i.holder_iff b).2 (.inr h)
  have c := i.conserv
  rw [hh] at c
  cases ht : s.eng.txn with
  | none => rfl
  | some t => rw [ht] at c; simp at c

theorem Inv1.write {s : State} (h : Inv1 s) (t : Tid) : Inv1 (s.write t) :=
  ⟨h.mutex_iff, h.holder_iff, h.conserv, h.noPanic, h.smutex_iff, h.beginWf⟩

/-- two actors cannot both be inside an `e.mutex` critical section -/
theorem Inv1.ehold_unique {s : State} (h : Inv1 s) {a b : ActorId} (ha : EHold (s.loc a).pc)
    (hb : EHold (s.loc b).pc) : b = a :=
  Option.some.inj (((h.mutex_iff b).2 hb).symm.trans ((h.mutex_iff a).2 ha))

/-- split a sub-step hypothesis into its cases -/
macro "conc_split" h:ident : tactic => `(tactic| (
  dsimp only at $h:ident
  split at $h:ident
  all_goals (try split at $h:ident)
  all_goals (try split at $h:ident)
  all_goals (try split at $h:ident)
  all_goals (try split at $h:ident)
  all_goals (try split at $h:ident)
  all_goals (try cases $h:ident)))

/-- unfold the state constructors and the region predicates in the goal -/
macro "conc_gsimp" : tactic => `(tactic|
  simp only [State.put, State.putS, State.finish, State.write, upd_apply, Eng.unlock, Eng.release,
    Local.back, Local.invoke, EHold, THold, SHold, BeginWf, if_true, if_false, ite_true, ite_false])

/-- close a goal `P ((upd loc a l') b) …` by cases on `b = a` -/
macro "by_actor" b:ident a:ident : tactic => `(tactic| (
  by_cases hba : $b = $a
  · subst hba
    (try conc_gsimp)
    grind
  · have hab : ¬ $a = $b := fun h => hba h.symm
    (try simp only [State.put, State.putS, State.finish, State.write, upd_apply, if_neg hba, if_neg hab])
    (try conc_gsimp)
    grind))

/-- like `by_actor`, trying the frame case `exact h` first when `b ≠ a` -/
macro "by_actor_or" h:ident b:ident a:ident : tactic => `(tactic| (
  by_cases hba : $b = $a
  · subst hba
    (try conc_gsimp)
    grind
  · have hab : ¬ $a = $b := fun h => hba h.symm
    (try simp only [State.put, State.putS, State.finish, State.write, upd_apply, if_neg hba, if_neg hab])
    first
    | exact $h
    | ((try conc_gsimp)
       grind)))

macro "inv1_close" h1:ident h2:ident h3:ident h4:ident h5:ident h6:ident a:ident : tactic => `(tactic| (
  refine ⟨fun b => ?_, fun b => ?_, ?_, ?_, fun b sid => ?_, fun b => ?_⟩
  · have hb1 := $h1 b
    clear $h1 $h2 $h5 $h6
    by_actor_or hb1 b $a
  · have hb1 := $h2 b
    clear $h1 $h2 $h5 $h6
    by_actor_or hb1 b $a
  · first
    | exact $h3
    | (clear $h1 $h2 $h5 $h6
       (try conc_gsimp)
       grind)
  · first
    | exact $h4
    | (clear $h1 $h2 $h5 $h6
       (try conc_gsimp)
       grind)
  · have hb1 := $h5 b sid
    have hb2 := $h6 b
    have hb3 := $h5 $a sid
    clear $h1 $h2 $h5 $h6
    by_actor_or hb1 b $a
  · have hb1 := $h6 b
    clear $h1 $h2 $h5 $h6
    by_actor_or hb1 b $a))

/-! ## The region predicates as tables

The same predicates as functions of the registers they read, so that at a given program counter they reduce by
evaluation. Inside `Engine.Begin`/`Commit`/`Abort` and at their return point the tables for the session mutex and the
`starting` flag look at the continuation only, so a return from a subroutine does not move them; they agree with the
predicates where the continuation fits the subroutine (`BeginWf`). -/

def Pc.eHold : Pc → Bool
  | .bCheck | .bPost | .cCheck | .cStore | .aBody | .clKill | .kBody => true
  | _ => false

def tHoldAt (pc : Pc) (okF : Bool) : Bool :=
  match pc with
  | .bRelock | .bPost => okF
  | .cStore => true
  | _ => false

/-- continuations of the Engine calls a session method makes while holding `s.mutex` -/
def K.underSess : K → Bool
  | .startAbort | .sessCommit | .sessAbort => true
  | _ => false

/-- the session whose mutex the registers claim -/
def sHeldAt (pc : Pc) (k : K) (ctx : Option SessId) (own : SessId) : Option SessId :=
  match pc with
  | .bSessRead | .uSessRead => ctx
  | .ssReserve | .ssFinal | .scBody | .saBody => some own
  | .bLock | .bCheck | .bAcquire | .bRelock | .bPost | .cLock | .cCheck | .cStore | .aLock | .aBody | .after =>
    bif k.underSess then some own else none
  | _ => none

/-- the continuation of `startTransaction`'s Begin, the only call that runs `Engine.Begin` with `starting` set -/
def K.isStart : K → Bool
  | .start => true
  | _ => false

/-- the session whose `starting` flag the registers claim (see `StartFlow`) -/
def startsAt (pc : Pc) (k : K) (own : SessId) : Option SessId :=
  match pc with
  | .ssRelock | .ssFinal => some own
  | .bLock | .bCheck | .bSessLock | .bSessRead | .bAcquire | .bRelock | .bPost | .cLock | .cCheck | .cStore | .aLock
  | .aBody | .after => bif k.isStart then some own else none
  | _ => none

/-- the continuations of the call sites of `Engine.Begin`, `Commit`, `Abort` -/
def K.ofBegin : K → Bool
  | .use | .start | .expBegin | .dBegin => true
  | _ => false

def K.ofCommit : K → Bool
  | .useCommit | .sessCommit | .expCommit | .dCommit => true
  | _ => false

def K.ofAbort : K → Bool
  | .useAbort | .startAbort | .sessAbort | .expAbort | .dAbort => true
  | _ => false

def kOkAt (pc : Pc) (k : K) : Bool :=
  match pc with
  | .bLock | .bCheck | .bSessLock | .bSessRead | .bAcquire | .bRelock | .bPost => k.ofBegin
  | .cLock | .cCheck | .cStore => k.ofCommit
  | .aLock | .aBody => k.ofAbort
  | _ => true

/-- `Engine.Close` after its kill step -/
def Pc.closing : Pc → Bool
  | .clStreams | .clWait => true
  | _ => false

theorem EHold_iff (pc : Pc) : EHold pc ↔ pc.eHold = true := by cases pc <;> simp [EHold, Pc.eHold]

theorem THold_iff (l : Local) : THold l ↔ tHoldAt l.pc l.okF = true := by
  unfold THold; cases l.pc <;> simp [tHoldAt]

theorem BeginWf_iff (l : Local) : BeginWf l ↔ kOkAt l.pc l.k = true := by
  have b : l.k = .use ∨ l.k = .start ∨ l.k = .expBegin ∨ l.k = .dBegin ↔ l.k.ofBegin = true := by
    cases l.k <;> simp [K.ofBegin]
  have c : l.k = .useCommit ∨ l.k = .sessCommit ∨ l.k = .expCommit ∨ l.k = .dCommit ↔ l.k.ofCommit = true := by
    cases l.k <;> simp [K.ofCommit]
  have a : l.k = .useAbort ∨ l.k = .startAbort ∨ l.k = .sessAbort ∨ l.k = .expAbort ∨ l.k = .dAbort ↔
      l.k.ofAbort = true := by
    cases l.k <;> simp [K.ofAbort]
  unfold BeginWf
  rw [b, c, a]
  cases l.pc <;> simp [kOkAt]

theorem cond_some_iff {b : Bool} {x y : SessId} : (bif b then some x else none) = some y ↔ x = y ∧ b = true := by
  cases b <;> simp

theorem K.underSess_iff (k : K) : k = .startAbort ∨ k = .sessCommit ∨ k = .sessAbort ↔ k.underSess = true := by
  cases k <;> simp [K.underSess]

/-- Begin is never called with `s.mutex` held -/
theorem K.underSess_of_begin {k : K} (w : kOkAt .bLock k = true) : k.underSess = false := by
  cases k <;> first | rfl | cases w

theorem SHold_iff {l : Local} (w : kOkAt l.pc l.k = true) (sid : SessId) :
    SHold l sid ↔ sHeldAt l.pc l.k l.ctxSess l.sid = some sid := by
  unfold SHold
  rw [K.underSess_iff]
  generalize l.pc = pc at w ⊢
  cases pc <;> first | (simp [sHeldAt, cond_some_iff]; done) | simp [sHeldAt, K.underSess_of_begin w]

/-! `Semaphore.Release` writes `token`, `holder` and `relPanic` only. -/

@[simp] theorem Eng.release_alive (e : Eng) : e.release.alive = e.alive := by unfold Eng.release; split <;> rfl
@[simp] theorem Eng.release_txn (e : Eng) : e.release.txn = e.txn := by unfold Eng.release; split <;> rfl
@[simp] theorem Eng.release_own (e : Eng) : e.release.own = e.own := by unfold Eng.release; split <;> rfl
@[simp] theorem Eng.release_nextTid (e : Eng) : e.release.nextTid = e.nextTid := by
  unfold Eng.release; split <;> rfl
@[simp] theorem Eng.release_catalog (e : Eng) : e.release.catalog = e.catalog := by
  unfold Eng.release; split <;> rfl

/-! ## What a step does to the locks

Every lock of the model (`e.mutex`, the token, a session's mutex, a session's `starting` flag) is a cell naming its
owner, and the invariants say that the cell names an actor exactly when that actor's registers claim the lock. A step
of actor `a` keeps such a cell and `a`'s claim, or takes a free cell, or drops a cell `a` claimed. `LockStep` says
which, for each lock, in terms of the stepping actor's registers and the engine and session records before and
after; nothing else about a step matters to the lock invariants. -/

/-- one lock over a step of actor `a`: `c`, `c'` are its owner before and after, `h`, `h'` whether `a`'s registers
    claim it before and after -/
inductive Held (a : ActorId) (h h' : Prop) (c c' : Option ActorId) : Prop
  | keep : c' = c → (h' ↔ h) → Held a h h' c c'
  | take : c = none → c' = some a → h' → Held a h h' c c'
  | drop : h → c' = none → ¬h' → Held a h h' c c'

theorem Held.lift {P : Local → Prop} {loc : ActorId → Local} {a : ActorId} {l' : Local} {c c' : Option ActorId}
    (inv : ∀ b, c = some b ↔ P (loc b)) (d : Held a (P (loc a)) (P l') c c') (b : ActorId) :
    c' = some b ↔ P (upd loc a l' b) := by
  have ia := inv a
  have ib := inv b
  rw [upd_apply]
  rcases d with ⟨hc, hh⟩ | ⟨hc0, hc, hh⟩ | ⟨hh, hc, hn⟩ <;> grind

/-- one of a family of locks, of which an actor claims at most one (`v`, `v'`: the one `a`'s registers claim before
    and after); the step is about lock `i` -/
inductive HeldAt (a : ActorId) (i : SessId) (v v' : Option SessId) (c c' : Option ActorId) : Prop
  | keep : c' = c → v' = v → HeldAt a i v v' c c'
  | take : c = none → c' = some a → v = none → v' = some i → HeldAt a i v v' c c'
  | drop : v = some i → c' = none → v' = none → HeldAt a i v v' c c'

theorem HeldAt.lift {V : Local → Option SessId} {loc : ActorId → Local} {a : ActorId} {l' : Local}
    {f : Sess → Option ActorId} {ss : SessId → Sess} {i : SessId} {x' : Sess}
    (inv : ∀ b j, f (ss j) = some b ↔ V (loc b) = some j) (d : HeldAt a i (V (loc a)) (V l') (f (ss i)) (f x'))
    (b : ActorId) (j : SessId) : f (upd ss i x' j) = some b ↔ V (upd loc a l' b) = some j := by
  have ia := inv a
  have ib := inv b
  rw [upd_apply, upd_apply]
  rcases d with ⟨hc, hv⟩ | ⟨hc0, hc, hv, hv'⟩ | ⟨hv, hc, hv'⟩ <;> grind

/-- the fields that say where the writer token is -/
def Eng.SameToken (e e' : Eng) : Prop :=
  e'.token = e.token ∧ e'.holder = e.holder ∧ e'.txn.isSome = e.txn.isSome ∧ e'.relPanic = e.relPanic

/-- The token over a step of actor `a` (`h`, `h'`: `THold` of `a`'s registers before and after). It is in the
    semaphore, in `a`'s hands (`holder`), or stands behind the installed transaction (`txn`). -/
inductive TokStep (a : ActorId) (h h' : Prop) (e e' : Eng) : Prop
  | keep : e.SameToken e' → (h' ↔ h) → TokStep a h h' e e'
  /-- `Acquire` succeeds -/
  | acquire : e.token = 1 → Eng.SameToken { e with token := 0, holder := some a } e' → h' → TokStep a h h' e e'
  /-- Begin installs its transaction -/
  | install (t : Tid) : h → Eng.SameToken { e with holder := none, txn := some t } e' → ¬h' → TokStep a h h' e e'
  /-- Commit uninstalls the transaction and goes on to store -/
  | uninstall : e.txn.isSome = true → Eng.SameToken { e with txn := none, holder := some a } e' → h' →
      TokStep a h h' e e'
  /-- the deferred `Release` and `Unlock`, by the holder or after uninstalling the transaction, from an engine `e₁`
      that differs from `e` in that at most -/
  | release (e₁ : Eng) : e' = e₁.release.unlock → e₁.token = e.token → e₁.relPanic = e.relPanic →
      (h ∧ e₁.txn.isSome = e.txn.isSome ∨ ¬h ∧ e.txn.isSome = true ∧ e₁.txn = none) → ¬h' → TokStep a h h' e e'

/-- the `starting` flag of session `i` with its ghost `starter`, and the session's transaction (`v`, `v'`: the session
    `a`'s registers claim to be starting before and after) -/
inductive FlagStep (a : ActorId) (i : SessId) (v v' : Option SessId) (x x' : Sess) : Prop
  | keep : x'.starting = x.starting → x'.starter = x.starter → (x'.txn = x.txn ∨ x'.txn = none) → v' = v →
      FlagStep a i v v' x x'
  | set : x.starting = false → x'.starting = true → x'.starter = some a → x'.txn = none → v = none → v' = some i →
      FlagStep a i v v' x x'
  | clear : v = some i → x'.starting = false → x'.starter = none → v' = none → FlagStep a i v v' x x'

/-- the sessions over a step: untouched, or the record of one session written -/
inductive SessStep (a : ActorId) (sv sv' fv fv' : Option SessId) (ss ss' : SessId → Sess) : Prop
  | same : ss' = ss → sv' = sv → fv' = fv → SessStep a sv sv' fv fv' ss ss'
  | at (i : SessId) (x' : Sess) : ss' = upd ss i x' → HeldAt a i sv sv' (ss i).mutex x'.mutex →
      FlagStep a i fv fv' (ss i) x' → SessStep a sv sv' fv fv' ss ss'

/-- A step of actor `a` that takes its registers from `l` to `l'`, the engine from `e` to `e'` and the sessions from
    `ss` to `ss'`, as far as the lock invariants can see it. The program counter `p` and the continuation `k` it starts
    from are those of `l`; they stand apart so that a branch of `step` can put in what its guards say they are
    (`LockStep.of_pc`). What the step does to the sessions may depend on the continuation fitting the subroutine
    (`BeginWf`), since the tables do. The locks do not interact, so this is a record with one relation per lock
    (`Held`, `TokStep`, `SessStep` with `HeldAt` and `FlagStep` inside), each with its own few cases, and not one
    inductive with a constructor per combination. -/
structure LockStep (a : ActorId) (p : Pc) (k : K) (l : Local) (e : Eng) (ss : SessId → Sess) (l' : Local) (e' : Eng)
    (ss' : SessId → Sess) : Prop where
  mutex : Held a (p.eHold = true) (l'.pc.eHold = true) e.mutex e'.mutex
  token : TokStep a (tHoldAt p l.okF = true) (tHoldAt l'.pc l'.okF = true) e e'
  sess : kOkAt p k = true → SessStep a (sHeldAt p k l.ctxSess l.sid) (sHeldAt l'.pc l'.k l'.ctxSess l'.sid)
    (startsAt p k l.sid) (startsAt l'.pc l'.k l'.sid) ss ss'
  alive : e.alive = false → e'.alive = false
  /-- the tail of `Close` is entered by killing the engine -/
  kill : l'.pc.closing = true → p.closing = true ∨ e'.alive = false

theorem LockStep.of_pc {a : ActorId} {l l' : Local} {e e' : Eng} {ss ss' : SessId → Sess} {p : Pc} {k : K}
    (hp : l.pc = p) (hk : l.k = k) (d : LockStep a p k l e ss l' e' ss') : LockStep a l.pc l.k l e ss l' e' ss' :=
  hp ▸ hk ▸ d

/-- dispatch lemma: a step of `step` is a step of exactly one sub-machine, with the pc known -/
theorem step_cases {s s' : State} {a : ActorId} {c : Choice} (hs : step s a c = some s') :
    ((s.loc a).pc = .idle ∧ stepIdle s a (s.loc a) c = some s') ∨
    stepBegin s a (s.loc a) c = some s' ∨ stepCommit s a (s.loc a) c = some s' ∨
    stepAbort s a (s.loc a) c = some s' ∨
    ((s.loc a).pc = .after ∧ stepAfter s a (s.loc a) c = some s') ∨
    stepUse s a (s.loc a) c = some s' ∨ stepSess s a (s.loc a) c = some s' ∨
    stepClose s a (s.loc a) c = some s' ∨ stepExp s a (s.loc a) c = some s' := by
  unfold step at hs
  split at hs
  · cases hs
  · dsimp only at hs
    split at hs <;> simp_all

/-- The branches of one sub-machine: `branches_of stepBegin hs s a c` takes `stepBegin s a (s.loc a) c` in `hs` apart by
    the case principle Lean derives from the definition (one case per branch, with the guards as hypotheses), puts
    the values of the `let`s of the definition in, splits the two conditionals that are not guards of a branch (the
    session lock, `useTransaction`'s choice of Begin's entry) and substitutes the resulting state. -/
macro "branches_of" f:ident hs:ident s:ident a:ident c:ident : tactic => `(tactic| (
  revert $hs:ident
  fun_cases $f:ident $s $a (State.loc $s $a) $c
  all_goals intro $hs:ident
  all_goals (try dsimp +zetaDelta only at *)
  all_goals (try split at $hs:ident)
  all_goals cases $hs:ident))

theorem step_le_n {s s' : State} {a : ActorId} {c : Choice} (hs : step s a c = some s') : a ≤ s.n := by
  unfold step at hs
  split at hs
  · cases hs
  · rename_i h; exact Nat.le_of_not_gt h

end Lungo.Conc
