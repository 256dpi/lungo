/-
  Lungo.Proofs.MatchLaws — what the pieces of the matcher compute, for every document:
  `matchUnwind` over a boolean test is `List.any` over the values it offers (`unwound`), the
  comparison operators are such tests (`matchComp_bool`), and the loops of `$not`, `$and`, `$or`
  and `Process` are negation, conjunction, disjunction and sequencing.
-/
import Lungo.Model.Match
import Lungo.Proofs.CompareLaws
namespace Lungo

@[simp] theorem negate_negate_ok : negate (negate (.ok ())) = .ok () := rfl

theorem negate_involutive (r : Res Unit) : negate (negate r) = r := by
  cases r with
  | ok u => cases u; rfl
  | error e => cases e <;> rfl

/-- short-circuit conjunction of results: the first error (including NotMatched) wins. -/
def conj : List (Res Unit) → Res Unit
  | [] => .ok ()
  | r :: rs => match r with
    | .error e => .error e
    | .ok _ => conj rs

/-- short-circuit disjunction: the first success or the first error other than NotMatched wins. -/
def disj : List (Res Unit) → Res Unit
  | [] => .error .notMatched
  | r :: rs => match r with
    | .error .notMatched => disj rs
    | .error e => .error e
    | .ok _ => .ok ()

/-- disjunction of two boolean-valued results -/
def orRes (a b : Res Unit) : Res Unit :=
  match a with
  | .ok _ => .ok ()
  | .error .notMatched => b
  | .error e => .error e

/-- a truth value as a matcher result -/
def toRes (b : Bool) : Res Unit := if b then .ok () else .error .notMatched

theorem negate_toRes (b : Bool) : negate (toRes b) = toRes (!b) := by
  cases b <;> rfl

theorem orRes_toRes (a b : Bool) : orRes (toRes a) (toRes b) = toRes (a || b) := by
  cases a <;> rfl

/-- the tail of the operators that compute a `Res Bool` first -/
theorem okBool_toRes (b : Bool) :
    (match (Except.ok b : Res Bool) with
      | .ok true => (.ok () : Res Unit)
      | .ok false => notMatched
      | .error e => .error e) = toRes b := by
  cases b <;> rfl

/-- a pure boolean test as an operator callback -/
def boolOp (p : V → Bool) : V → Res Unit := fun f => if p f then .ok () else .error .notMatched

theorem unwindLoop_bool (p : V → Bool) (xs : List V) :
    unwindLoop (boolOp p) xs = if xs.any p then some (.ok ()) else none := by
  induction xs with
  | nil => rfl
  | cons x r ih =>
    rw [unwindLoop, List.any_cons, boolOp]
    cases p x
    · exact ih
    · rfl

/-- the values offered to a boolean operator by matchUnwind: does some of them satisfy p? -/
def unwindAny (d : Doc) (path : String) (merge yieldMerge : Bool) (p : V → Bool) : Bool :=
  let (value, multi) := All d (splitPath path) true merge
  (match value with
   | .arr arr => arr.any p
   | _ => false) || ((!multi || yieldMerge) && p value)

theorem matchUnwind_toRes (d : Doc) (path : String) (merge yieldMerge : Bool) (p : V → Bool) :
    matchUnwind d path merge yieldMerge (boolOp p) = toRes (unwindAny d path merge yieldMerge p) := by
  unfold matchUnwind unwindAny toRes
  generalize All d (splitPath path) true merge = r
  obtain ⟨value, multi⟩ := r
  -- the loop over an array value decides if some element passes; otherwise the value itself is tried
  have tail : (if (!multi || yieldMerge) = true then boolOp p value else notMatched)
      = if ((!multi || yieldMerge) && p value) = true then .ok () else .error .notMatched := by
    cases (!multi || yieldMerge) <;> rfl
  cases value with
  | arr xs =>
    simp only [unwindLoop_bool]
    by_cases h : xs.any p = true
    · simp only [h, if_true, Bool.true_or]
    · simp only [h, Bool.false_or]; exact tail
  | _ => exact tail

/-- the values `matchUnwind` offers to the callback: the elements of an array value, then the
    value itself unless the path fanned out -/
def unwound (d : Doc) (path : String) (merge yieldMerge : Bool) : List V :=
  let (value, multi) := All d (splitPath path) true merge
  (match value with
   | .arr arr => arr
   | _ => []) ++ (if !multi || yieldMerge then [value] else [])

theorem unwindAny_eq (d : Doc) (path : String) (m y : Bool) (p : V → Bool) :
    unwindAny d path m y p = (unwound d path m y).any p := by
  unfold unwindAny unwound
  generalize All d (splitPath path) true m = r
  obtain ⟨value, multi⟩ := r
  dsimp only
  rw [List.any_append]
  congr 1
  · cases value <;> rfl
  · cases (!multi || y) <;> simp

theorem any_or {α} (l : List α) (p q : α → Bool) :
    (l.any fun x => p x || q x) = (l.any p || l.any q) := by
  induction l with
  | nil => rfl
  | cons a r ih => simp only [List.any_cons, ih]; cases p a <;> cases q a <;> simp

theorem unwindAny_or (d : Doc) (path : String) (merge yieldMerge : Bool) (p q : V → Bool) :
    unwindAny d path merge yieldMerge (fun f => p f || q f)
      = (unwindAny d path merge yieldMerge p || unwindAny d path merge yieldMerge q) := by
  simp only [unwindAny_eq, any_or]

theorem unwindAny_congr (d : Doc) (path : String) (merge yieldMerge : Bool) (p q : V → Bool)
    (h : ∀ f, p f = q f) : unwindAny d path merge yieldMerge p = unwindAny d path merge yieldMerge q := by
  rw [funext h]

theorem unwindAny_any {α} (d : Doc) (path : String) (merge yieldMerge : Bool) (l : List α)
    (g : α → V → Bool) :
    unwindAny d path merge yieldMerge (fun f => l.any fun a => g a f)
      = l.any fun a => unwindAny d path merge yieldMerge (g a) := by
  induction l with
  | nil => simp [unwindAny_eq]
  | cons a r ih =>
    simp only [List.any_cons]
    rw [unwindAny_or, ih]

theorem disj_toRes {α} (f : α → Bool) (l : List α) :
    disj (l.map fun a => toRes (f a)) = toRes (l.any f) := by
  induction l with
  | nil => rfl
  | cons a r ih =>
    rw [List.map_cons, List.any_cons]
    cases f a
    · exact ih
    · rfl

theorem conj_toRes {α} (f : α → Bool) (l : List α) :
    conj (l.map fun a => toRes (f a)) = toRes (l.all f) := by
  induction l with
  | nil => rfl
  | cons a r ih =>
    rw [List.map_cons, List.all_cons]
    cases f a
    · rfl
    · exact ih

/-- comparison operator as a boolean test -/
def compTest (op : String) (v : V) : Option (V → Bool) :=
  match op with
  | "" => some fun field => field.cls == v.cls && V.cmp field v == .eq
  | "$eq" => some fun field => field.cls == v.cls && V.cmp field v == .eq
  | "$gt" => some fun field => field.cls == v.cls && V.cmp field v == .gt
  | "$gte" => some fun field => field.cls == v.cls && V.cmp field v != .lt
  | "$lt" => some fun field => field.cls == v.cls && V.cmp field v == .lt
  | "$lte" => some fun field => field.cls == v.cls && V.cmp field v != .gt
  | _ => none

/-- a comparison operator (`""`: the literal form) offers every unwound value to its test -/
theorem matchComp_bool (d : Doc) {op : String} (path : String) (v : V) {p : V → Bool}
    (h : compTest op v = some p) :
    matchComp d op path v = matchUnwind d path true false (boolOp p) := by
  unfold compTest at h
  split at h <;> cases h <;> exact congrArg _ (funext fun _ => okBool_toRes _)

theorem matchComp_toRes (d : Doc) {op : String} (path : String) (v : V) {p : V → Bool}
    (h : compTest op v = some p) :
    matchComp d op path v = toRes (unwindAny d path true false p) := by
  rw [matchComp_bool d path v h, matchUnwind_toRes]

theorem matchComp_lt_bool (d : Doc) (path : String) (v : V) :
    matchComp d "$lt" path v = matchUnwind d path true false (boolOp fun field => field.cls == v.cls && V.cmp field v == .lt) :=
  matchComp_bool d path v rfl

/-- if the test of one comparison operator is the disjunction of the tests of two others, so is
    the operator (`$gte`, `$lte`) -/
theorem matchComp_or (d : Doc) {op op1 op2 : String} (path : String) (v : V) {p p1 p2 : V → Bool}
    (h : compTest op v = some p) (h1 : compTest op1 v = some p1) (h2 : compTest op2 v = some p2)
    (hp : ∀ f, p f = (p1 f || p2 f)) :
    matchComp d op path v = orRes (matchComp d op1 path v) (matchComp d op2 path v) := by
  rw [matchComp_toRes d path v h, matchComp_toRes d path v h1, matchComp_toRes d path v h2,
    orRes_toRes, ← unwindAny_or, funext hp]

theorem matchIn_bool (d : Doc) (path : String) (vs : List V) :
    matchIn d path (.arr vs) = matchUnwind d path true false (boolOp fun field => vs.any fun item => V.cmp field item == .eq) :=
  rfl

theorem allLoop_conj (d : Doc) (path : String) (vs : List V) :
    allLoop d path vs = conj (vs.map fun v => matchComp d "$eq" path v) := by
  induction vs with
  | nil => rfl
  | cons v r ih => rw [allLoop, ih]; rfl

/-- values that compare equal have the same class: a bracketed equality test (MongoDB's type
    bracketing: a comparison operator only sees values of the operand's type class) and a plain one agree -/
theorem bracket_eq (field v : V) :
    (field.cls == v.cls && V.cmp field v == .eq) = (V.cmp field v == .eq) := by
  cases h : V.cmp field v == .eq
  · exact Bool.and_false _
  · rw [V.cls_eq_of_cmp_eq (eq_of_beq h)]; exact Bool.and_true _ ▸ beq_self_eq_true _

theorem mOp_leaf (sch : SchemaEval) (d : Doc) (op path : String) (v : V) (r : Res Unit)
    (h : leafOp d op path v = some r) : mOp sch d op path v = r := by
  unfold mOp
  simp [h]

theorem mNotLoop_negate (sch : SchemaEval) (d : Doc) (q : List (String × V)) (path : String) :
    mNotLoop sch d path q = negate (mProcess sch d q path false) := by
  induction q with
  | nil => rw [mNotLoop, mProcess]; rfl
  | cons kv r ih =>
    obtain ⟨key, value⟩ := kv
    rw [mNotLoop, mProcess]
    cases mExpr sch d path key value false with
    | ok _ => exact ih
    | error e => cases e <;> rfl

theorem mOp_not (sch : SchemaEval) (d : Doc) (path : String) (q : List (String × V)) (hq : q ≠ []) :
    mOp sch d "$not" path (.doc q) = negate (mProcess sch d q path false) := by
  cases q with
  | nil => exact absurd rfl hq
  | cons e es => unfold mOp; exact mNotLoop_negate sch d (e :: es) path

theorem mProcess_append (sch : SchemaEval) (d : Doc) (q1 q2 : List (String × V)) (pfx : String) (root : Bool) :
    mProcess sch d (q1 ++ q2) pfx root =
      (match mProcess sch d q1 pfx root with
       | .error e => .error e
       | .ok _ => mProcess sch d q2 pfx root) := by
  induction q1 with
  | nil => simp [mProcess]
  | cons kv r ih =>
    obtain ⟨key, value⟩ := kv
    rw [List.cons_append, mProcess, mProcess]
    split
    · rfl
    · exact ih

theorem mAndLoop_conj (sch : SchemaEval) (d : Doc) (qs : List Doc) :
    mAndLoop sch d (qs.map V.doc) = conj (qs.map fun q => mProcess sch d q "" true) := by
  induction qs with
  | nil => rw [List.map_nil, mAndLoop]; rfl
  | cons q r ih =>
    rw [List.map_cons, mAndLoop, ih]; rfl

theorem mOrLoop_disj (sch : SchemaEval) (d : Doc) (qs : List Doc) :
    mOrLoop sch d (qs.map V.doc) = disj (qs.map fun q => mProcess sch d q "" true) := by
  induction qs with
  | nil => rw [List.map_nil, mOrLoop]; rfl
  | cons q r ih =>
    rw [List.map_cons, mOrLoop, ih]; rfl

theorem mExpr_or_disj (sch : SchemaEval) (d : Doc) (pfx : String) (qs : List Doc) (hq : qs ≠ []) :
    mExpr sch d pfx "$or" (.arr (qs.map V.doc)) true = disj (qs.map fun q => mProcess sch d q "" true) := by
  unfold mExpr
  have : (qs.map V.doc).isEmpty = false := by cases qs <;> simp_all
  simp [isOpKey, this, mOrLoop_disj]

end Lungo
