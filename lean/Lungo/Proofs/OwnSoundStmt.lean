/-
  Lungo.Proofs.OwnSoundStmt — soundness of the static ownership check `check` (Model/Own.lean): a checked
  statement, run from a state satisfying the abstract state, only `Step`s the heap (writes go to objects
  allocated in this call — or, in the lenient mode, to the caller's documents), leaves a state satisfying
  the abstract state of the edge it leaves by, and a return with `err` set has not assigned `t`.

  One mutual induction over the nested statement structure; loops by induction over the iteration count.
-/
import Lungo.Proofs.OwnSound
namespace Lungo.Own

variable {cx : Ctx} {t0 : TxnState} {h0 : Heap}

theorem Gam.commit {a : Abs} {st : St} (g : Gam cx t0 a st) : Gam cx t0 a.commitSuspects st :=
  g.sub (.of_eq rfl rfl rfl rfl)

/-- `t.catalog = v` keeps the invariant and satisfies its edge whether or not the check accepts it: what the check
    asks of `v` here (neither tainted nor suspect) is not used -/
theorem snd_setCatalog (v : Var) (a : Abs) (st : St) (i : Inv cx h0 st) (g : Gam cx t0 a st) :
    Inv cx h0 (exec (.setCatalog v) st).1 ∧
    Post cx t0 (check cx.strict (.setCatalog v) a) (exec (.setCatalog v) st).1 (exec (.setCatalog v) st).2 := by
  have ok := Ok.mk i g
  simp only [exec, check]
  split
  · rename_i o ho
    split
    · exact (ok.assign fun h => ok.var_own h ho).next _
    · exact ⟨i, trivial⟩
  · exact ⟨i, trivial⟩

mutual
theorem sound_exec : ∀ (s : Stmt) (a : Abs) (st : St), Inv cx h0 st → Gam cx t0 a st →
    (check cx.strict s a).ok = true →
    Inv cx h0 (exec s st).1 ∧ Post cx t0 (check cx.strict s a) (exec s st).1 (exec s st).2
  | .validate => fun a st i g _ => by
    simp only [exec, check]
    exact ((Ok.mk i g.commit).frame (st' := st.popFlag.2.setErr st.popFlag.1) rfl rfl rfl rfl).next _
  | .cloneDocs d s => fun a st i g _ => by
    have ok := Ok.mk i g
    simp only [exec, check]
    have ids := Heap.allocs_ids st.heap ((st.docsOf s).map fun o => Obj.doc (docVal st.heap o))
    exact ((ok.heap (Step.allocs cx _ _)).bindDocs fun o ho => Nat.le_trans ok.base_le (ids o ho).1).next _
  | .cloneCatalog d s => fun a st i g _ => by
    have ok := Ok.mk i g
    simp only [exec, check]
    split
    · exact ((ok.heap (Step.alloc cx _ _)).bindOwned (Own.alloc _ _ ok.base_le FreshObj.cat)).next _
    · exact ⟨i, trivial⟩
  | .alias d e => fun a st i g _ => by
    simp only [exec, check]
    exact (Ok.mk i g).bindAlias.next _
  | .newColl d => fun a st i g _ => by
    have ok := Ok.mk i g
    simp only [exec, check]
    obtain ⟨s, w⟩ := newCollH_spec (cx := cx) st.heap ok.base_le
    exact ((ok.heap s).bindOwned w).next _
  | .cloneColl d e => fun a st i g _ => by
    have ok := Ok.mk i g
    simp only [exec, check]
    split
    · rename_i s idxs _
      obtain ⟨s, w⟩ := cloneCollH_spec (cx := cx) st.heap s idxs ok.base_le
      exact ((ok.heap s).bindOwned w).next _
    · exact ⟨i, trivial⟩
  | .shallowColl d e => fun a st i g _ => by
    simp only [exec, check]
    split
    · exact ((Ok.mk i g).heap (Step.alloc cx _ _)).bindAlias.next _
    · exact ⟨i, trivial⟩
  | .setNs c hx v => fun a st i g hok => by
    have ok := Ok.mk i g
    simp only [check, Res.step] at hok
    simp only [exec, check]
    split
    · rename_i o ns x ho _
      split
      · refine Ok.next ?_ _
        exact (ok.heap (Step.write _ (ok.cat_own hok (St.obj_some ho).1).writable FreshObj.cat)).sub
          (.of_eq rfl rfl rfl rfl)
      · exact ⟨i, trivial⟩
    · refine Ok.next ?_ _
      exact ok.sub (.of_eq rfl rfl rfl rfl)
    · exact ⟨i, trivial⟩
  | .setNsNew c hx => fun a st i g hok => by
    have ok := Ok.mk i g
    simp only [check, Res.step] at hok
    simp only [exec, check]
    split
    · rename_i o ns ho
      have w := (ok.cat_own hok (St.obj_some ho).1).writable
      exact (ok.heap ((newCollH_spec st.heap ok.base_le).1.trans (Step.write _ w FreshObj.cat))).next _
    · exact ⟨i, trivial⟩
  | .deleteNs c hx => fun a st i g hok => by
    have ok := Ok.mk i g
    simp only [check, Res.step] at hok
    simp only [exec, check]
    split
    · rename_i o ns ho
      exact (ok.heap (Step.write _ (ok.cat_own hok (St.obj_some ho).1).writable FreshObj.cat)).next _
    · exact ⟨i, trivial⟩
  | .callColl r m x => fun a st i g hok => by
    have ok := Ok.mk i g
    simp only [check, Res.step, Bool.and_eq_true, Bool.or_eq_true, Bool.not_eq_true'] at hok
    obtain ⟨⟨hown, _⟩, hargs⟩ := hok
    simp only [exec, check]
    split
    · rename_i o s idxs ho
      have ok' := ok.callColl m x (ok.var_own hown (St.obj_some ho).1) (St.obj_some ho).2 hargs
      split
      · refine Ok.next ?_ _
        exact ok'.sub (.of_eq rfl rfl rfl rfl)
      · exact ok'.next _
    · exact ⟨i, trivial⟩
  | .setCatalog v => fun a st i g _ => snd_setCatalog v a st i g
  | .setDirty => fun a st i g _ => by
    simp only [exec, check]
    exact ((Ok.mk i g).assign (t' := { st.txn with dirty := true }) g.tcat).next _
  | .retErr => fun a st i g hok => by
    simp only [exec, check]
    exact (Ok.mk i g).ret _ fun _ => by simpa [check] using hok
  | .retOk => fun a st i g _ => by
    simp only [exec, check]
    exact ((Ok.mk i g.commit).frame (st' := st.setErr false) rfl rfl rfl rfl).ret _ (absurd · Bool.false_ne_true)
  | .fail => fun a st i g hok => by
    simp only [exec, check]
    exact ((Ok.mk i g).frame (st' := st.setErr true) rfl rfl rfl rfl).ret _ fun _ => by simpa [check] using hok
  | .brk => fun a st i g _ => by simp only [exec, check]; exact ⟨i, a, rfl, g⟩
  | .cont => fun a st i g _ => by simp only [exec, check]; exact ⟨i, a, rfl, g⟩
  | .unknown _ => fun _ _ _ _ hok => by simp [check, Res.step] at hok
  | .ite c t e => fun a st i g hok => by
    simp only [check, Bool.and_eq_true] at hok
    simp only [exec, check]
    have ok := (Ok.mk i g).evalCond c
    split
    · have := sound_execL t _ _ ok.inv (ok.sub (Cond.refine_sub c a).1).gam hok.1
      exact ⟨this.1, this.2.mono (fun _ => Sat.joinL) Sat.joinL Sat.joinL Sat.joinL⟩
    · have := sound_execL e _ _ ok.inv (ok.sub (Cond.refine_sub c a).2).gam hok.2
      exact ⟨this.1, this.2.mono (fun _ => Sat.joinR) Sat.joinR Sat.joinR Sat.joinR⟩
  | .loop o body => fun a st i g hok => by
    simp only [check, Bool.and_eq_true] at hok
    simp only [exec, check]
    obtain ⟨⟨ok2, l1⟩, l2⟩ := hok
    -- the loop is checked at a head state that is weaker than the entry state
    have ghd : Gam cx t0
        ((joinO (joinO (some a) (checkL cx.strict body a).next) (checkL cx.strict body a).cont).getD a) st := by
      obtain ⟨x, hx, gx⟩ : Sat cx t0 (joinO (joinO (some a) (checkL cx.strict body a).next)
        (checkL cx.strict body a).cont) st := Sat.joinL (Sat.joinL ⟨a, rfl, g⟩)
      rw [hx]; exact gx
    generalize (joinO (joinO (some a) (checkL cx.strict body a).next) (checkL cx.strict body a).cont).getD a = hd
      at ok2 l1 l2 ghd ⊢
    let R : Res := { next := joinO (some hd) (checkL cx.strict body hd).brk, ret := (checkL cx.strict body hd).ret }
    suffices h : _ ∧ Post cx t0 R _ _ from ⟨h.1, h.2.mono (fun _ => id) id id id⟩
    refine iterate_induct _ (Ok cx t0 h0 hd) (fun r => Inv cx h0 r.1 ∧ Post cx t0 R r.1 r.2)
      (fun st1 ok1 => ⟨ok1.inv, Sat.joinL ⟨hd, rfl, ok1.gam⟩⟩) (fun st1 ok1 => ?_) _ _
      ((Ok.mk i ghd).frame (st' := st.popIter.2) rfl rfl rfl rfl)
    have ok1' : Ok cx t0 h0 hd (if o = true then st1.popHandle else st1) := by
      cases o <;> exact ok1.frame rfl rfl rfl rfl
    have := sound_execL body hd _ ok1'.inv ok1'.gam ok2
    simp only
    generalize execL body _ = r at this ⊢
    obtain ⟨st', sg⟩ := r
    cases sg with
    | next => exact ⟨this.1, Sat.le l1 this.2⟩
    | cont => exact ⟨this.1, Sat.le l2 this.2⟩
    | brk => exact ⟨this.1, Sat.joinR this.2⟩
    | ret | panic => exact this
  | .helper n body => fun a st i g hok => by
    simp only [check] at hok
    simp only [exec, check]
    have := sound_execL body a st i g hok
    generalize execL body st = r at this ⊢
    obtain ⟨st', sg⟩ := r
    cases sg with
    | next => exact ⟨this.1, Sat.joinL this.2⟩
    | ret => exact ⟨this.1, Sat.joinR this.2.1⟩
    | brk | cont | panic => exact this
theorem sound_execL : ∀ (ss : List Stmt) (a : Abs) (st : St), Inv cx h0 st → Gam cx t0 a st →
    (checkL cx.strict ss a).ok = true →
    Inv cx h0 (execL ss st).1 ∧ Post cx t0 (checkL cx.strict ss a) (execL ss st).1 (execL ss st).2
  | [] => fun a st i g _ => by simp only [execL, checkL]; exact (Ok.mk i g).next _
  | s :: ss => fun a st i g hok => by
    simp only [checkL] at hok
    simp only [execL, checkL]
    have h1 : (check cx.strict s a).ok = true := by
      split at hok
      · exact hok
      · exact (Bool.and_eq_true_iff.mp hok).1
    have := sound_exec s a st i g h1
    generalize exec s st = r at this ⊢
    obtain ⟨st1, sg1⟩ := r
    cases sg1 with
    | next =>
      obtain ⟨a1, ha1, g1⟩ := this.2
      simp only [ha1, Bool.and_eq_true] at hok ⊢
      have := sound_execL ss a1 st1 this.1 g1 hok.2
      exact ⟨this.1, this.2.mono (fun _ => id) Sat.joinR Sat.joinR Sat.joinR⟩
    | brk | cont | ret | panic =>
      simp only
      split
      · exact this
      · exact ⟨this.1, this.2.mono nofun Sat.joinL Sat.joinL Sat.joinL⟩
end

end Lungo.Own
