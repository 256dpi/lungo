/-
  Lungo.Proofs.FindLaws — the collection-level half of C13: `filterDocs` (mongokit.Filter /
  bsonkit.Select), `sortSDocs`, `selectDocs` (the common prefix of Find/Update/Replace/Delete in
  mongokit/collection.go) and the driver calls built on them (Model/Api.lean).

  What `selectDocs` returns is fixed by one pass of the filter over the sorted list (`scan`: the
  matches before the first error, and that error), cut by the scan limit — `selectDocs_scan`.  Without
  errors it is the window of the matching documents of the sorted list, and, filtering commuting with
  a stable sort, of the sorted list of the matching documents.
-/
import Lungo.Model.Api
import Lungo.Proofs.SortLaws
import Lungo.Proofs.CollEq
namespace Lungo
open Lungo.Ord

/-! ## §1 sorting stored documents -/

/-- `order` on stored documents (identity is ignored by the comparison) -/
def sorder (cols : List Column) (a b : SDoc) : Ordering := order a.doc b.doc cols

theorem sorder_preorder (cols : List Column) : PreorderOn (sorder cols) (fun sd : SDoc => sd.doc.ok) :=
  (order_preorder cols).comap SDoc.doc

theorem sortSDocs_eq (list : List SDoc) (cols : List Column) :
    sortSDocs list cols = stableSort (sorder cols) list := rfl

/-- projecting away the identities: the sorted stored documents carry the sorted documents -/
theorem sortSDocs_map_doc (list : List SDoc) (cols : List Column) :
    (sortSDocs list cols).map (·.doc) = sortDocs (list.map (·.doc)) cols := by
  simp only [sortSDocs, sortDocs]
  exact List.map_mergeSort (fun a _ b _ => rfl)

/-! ## §2 the filter scan -/

/-- the verdict of the filter on one stored document, as a Boolean (errors count as "no") -/
def matchesB (sch : SchemaEval) (q : Doc) (sd : SDoc) : Bool :=
  match Match sch sd.doc q with
  | .ok true => true
  | _ => false

def noMatchError (sch : SchemaEval) (q : Doc) (l : List SDoc) : Prop :=
  ∀ sd ∈ l, ∀ e, Match sch sd.doc q ≠ .error e

/-- one pass over the list: the matching documents before the first error, and that error -/
def scan (sch : SchemaEval) (q : Doc) : List SDoc → List SDoc × Option Err
  | [] => ([], none)
  | sd :: r =>
    match Match sch sd.doc q with
    | .error e => ([], some e)
    | .ok b => (if b then sd :: (scan sch q r).1 else (scan sch q r).1, (scan sch q r).2)

/-- `take'`: a limit of 0 means "no limit" -/
def takeLim {α} (lim : Nat) (l : List α) : List α := if lim = 0 then l else l.take lim

/-- `filterDocs` with a limit: the scan stops after the `lim`-th match; an error is reported only
    if the scan reaches it. -/
theorem filterDocs_scan (sch : SchemaEval) (q : Doc) : ∀ (list : List SDoc) (lim : Nat),
    filterDocs sch q lim list =
      if lim ≠ 0 ∧ lim ≤ (scan sch q list).1.length then .ok ((scan sch q list).1.take lim)
      else match (scan sch q list).2 with
        | none => .ok (scan sch q list).1
        | some e => .error e := by
  intro list
  induction list with
  | nil => intro lim; simp [filterDocs, scan]
  | cons sd r ih =>
    intro lim
    cases hm : Match sch sd.doc q with
    | error e => simp [filterDocs, scan, hm]
    | ok b =>
      cases b with
      | false => simpa [filterDocs, scan, hm] using ih lim
      | true =>
        simp only [filterDocs, scan, hm, ↓reduceIte, List.length_cons]
        by_cases h1 : lim = 1
        · subst h1; simp
        · have : (lim == 1) = false := by simpa using h1
          simp only [this, Bool.false_eq_true, ↓reduceIte, ih (lim - 1)]
          by_cases h0 : lim = 0
          · subst h0; cases hs : (scan sch q r).2 <;> simp
          · obtain ⟨n, rfl⟩ : ∃ n, lim = n + 1 := ⟨lim - 1, by omega⟩
            have hn : n ≠ 0 := by omega
            simp only [Nat.add_sub_cancel]
            by_cases hle : n ≤ (scan sch q r).1.length
            · simp [hn, hle]
            · have hle' : ¬ (n + 1 ≤ (scan sch q r).1.length + 1) := by omega
              simp only [hn, hle, hle', ne_eq, not_false_eq_true, and_false, ↓reduceIte]
              cases hs : (scan sch q r).2 <;> simp

def matchErr (sch : SchemaEval) (q : Doc) (sd : SDoc) : Option Err :=
  match Match sch sd.doc q with
  | .error e => some e
  | .ok _ => none

/-- the scan in closed form: the matches among the documents before the first erroring one, and the
    error of that one -/
theorem scan_eq (sch : SchemaEval) (q : Doc) (l : List SDoc) :
    scan sch q l = ((l.takeWhile fun sd => (matchErr sch q sd).isNone).filter (matchesB sch q),
                    l.findSome? (matchErr sch q)) := by
  induction l with
  | nil => rfl
  | cons sd r ih =>
    simp only [scan, List.takeWhile_cons, List.findSome?_cons, matchErr]
    cases hm : Match sch sd.doc q with
    | error e => simp
    | ok b =>
      simp only [Option.isNone_none, ↓reduceIte, List.filter_cons, matchesB, hm, ih]
      cases b <;> simp [matchErr]

theorem scan_noerr (sch : SchemaEval) (q : Doc) (l : List SDoc) (h : noMatchError sch q l) :
    scan sch q l = (l.filter (matchesB sch q), none) := by
  induction l with
  | nil => rfl
  | cons sd r ih =>
    have ih' := ih (fun x hx => h x (by simp [hx]))
    cases hm : Match sch sd.doc q with
    | error e => exact absurd hm (h sd (by simp) e)
    | ok b => cases b <;> simp [scan, ih', matchesB, hm]

theorem filterDocs_noerr (sch : SchemaEval) (q : Doc) (l : List SDoc) (lim : Nat) (h : noMatchError sch q l) :
    filterDocs sch q lim l = .ok (takeLim lim (l.filter (matchesB sch q))) := by
  rw [filterDocs_scan, scan_noerr sch q l h]
  simp only [takeLim]
  by_cases h0 : lim = 0
  · simp [h0]
  · by_cases hle : lim ≤ (l.filter (matchesB sch q)).length
    · simp [h0, hle]
    · simp only [h0, hle, ne_eq, not_false_eq_true, and_false, ↓reduceIte]
      rw [List.take_of_length_le (by omega)]

/-! ## §3 selectDocs -/

/-- the documents as the filter scans them: in the given order for no / an empty sort document, else
    stably sorted by its columns (an invalid sort document is an error) -/
def sortBy (sort : Option Doc) (docs : List SDoc) : Res (List SDoc) :=
  match sort with
  | some s => if s.isEmpty then .ok docs else
    match columns s with
    | .error e => .error e
    | .ok cols => .ok (sortSDocs docs cols)
  | none => .ok docs

/-- the list the filter scans -/
def sortedList (c : Coll) (sort : Option Doc) : Res (List SDoc) := sortBy sort c.docs

theorem sortedList_eq (c : Coll) (sort : Option Doc) : sortedList c sort = sortBy sort c.docs := rfl

/-- the limit handed to the filter: `limit + skip` matches are needed; a limit ≤ 0 means no limit -/
def scanLimit (skip limit : Int) : Nat := if limit > 0 then (limit + skip).toNat else 0

theorem selectDocs_eq (sch : SchemaEval) (c : Coll) (q : Doc) (sort : Option Doc) (skip limit : Int) :
    selectDocs sch c q sort skip limit =
      if skip < 0 then .error .err else
      match sortedList c sort with
      | .error e => .error e
      | .ok list =>
        match filterDocs sch q (scanLimit skip limit) list with
        | .error e => .error e
        | .ok l => .ok (l.drop skip.toNat) := by
  simp only [selectDocs, sortedList, sortBy, scanLimit]
  split
  · rfl
  · cases sort with
    | none => rfl
    | some s =>
      simp only
      cases s.isEmpty with
      | true => rfl
      | false => cases columns s <;> rfl

/-- a window of a list: skip, then at most `limit` (all if `limit ≤ 0`) -/
def windowOf {α} (skip limit : Int) (l : List α) : List α :=
  if limit > 0 then (l.drop skip.toNat).take limit.toNat else l.drop skip.toNat

theorem drop_takeLim {α} (skip limit : Int) (hs : 0 ≤ skip) (l : List α) :
    (takeLim (scanLimit skip limit) l).drop skip.toNat = windowOf skip limit l := by
  simp only [takeLim, scanLimit, windowOf]
  by_cases hl : limit > 0
  · have : (limit + skip).toNat ≠ 0 := by omega
    simp only [hl, ↓reduceIte, this, List.drop_take]
    congr 1; omega
  · simp [hl]

/-- the result of `selectDocs` in general -/
theorem selectDocs_scan (sch : SchemaEval) (c : Coll) (q : Doc) (sort : Option Doc) (skip limit : Int)
    (hs : 0 ≤ skip) (L : List SDoc) (hL : sortedList c sort = .ok L) :
    selectDocs sch c q sort skip limit =
      if scanLimit skip limit ≠ 0 ∧ scanLimit skip limit ≤ (scan sch q L).1.length then
        .ok (windowOf skip limit (scan sch q L).1)
      else match (scan sch q L).2 with
        | none => .ok (windowOf skip limit (scan sch q L).1)
        | some e => .error e := by
  have hs' : ¬ skip < 0 := by omega
  rw [selectDocs_eq]
  simp only [hs', ↓reduceIte, hL, filterDocs_scan]
  by_cases hc : scanLimit skip limit ≠ 0 ∧ scanLimit skip limit ≤ (scan sch q L).1.length
  · have : (scan sch q L).1.take (scanLimit skip limit) = takeLim (scanLimit skip limit) (scan sch q L).1 := by
      simp [takeLim, hc.1]
    rw [if_pos hc, if_pos hc]
    simp only [this, drop_takeLim skip limit hs]
  · rw [if_neg hc, if_neg hc]
    cases he : (scan sch q L).2 with
    | some e => rfl
    | none =>
      simp only
      have : (scan sch q L).1 = takeLim (scanLimit skip limit) (scan sch q L).1 := by
        simp only [takeLim]
        split
        · rfl
        · next h0 =>
          have : ¬ scanLimit skip limit ≤ (scan sch q L).1.length := fun h => hc ⟨h0, h⟩
          rw [List.take_of_length_le (by omega)]
      rw [this, drop_takeLim skip limit hs, ← this]

theorem selectDocs_noerr (sch : SchemaEval) (c : Coll) (q : Doc) (sort : Option Doc) (skip limit : Int)
    (hs : 0 ≤ skip) (L : List SDoc) (hL : sortedList c sort = .ok L) (hne : noMatchError sch q L) :
    selectDocs sch c q sort skip limit = .ok (windowOf skip limit (L.filter (matchesB sch q))) := by
  rw [selectDocs_scan sch c q sort skip limit hs L hL, scan_noerr sch q L hne]
  simp

/-- what is selected is a sub-list of the (possibly sorted) documents -/
theorem filterDocs_sublist {sch : SchemaEval} {q : Doc} {l r : List SDoc} {lim : Nat}
    (h : filterDocs sch q lim l = .ok r) : r.Sublist l := by
  have hs : (scan sch q l).1.Sublist l := by
    rw [scan_eq]; exact List.filter_sublist.trans (List.takeWhile_sublist _)
  rw [filterDocs_scan] at h
  split at h
  · cases h; exact (List.take_sublist _ _).trans hs
  · split at h <;> cases h
    exact hs

/-! ## §4 filtering commutes with sorting -/

theorem filter_sortSDocs (docs : List SDoc) (cols : List Column) (ok : ∀ sd ∈ docs, sd.doc.ok)
    (p : SDoc → Bool) : (sortSDocs docs cols).filter p = sortSDocs (docs.filter p) cols := by
  rw [sortSDocs_eq, sortSDocs_eq]
  exact filter_stableSort (sorder_preorder cols) docs ok p

theorem sortBy_perm (sort : Option Doc) (docs L : List SDoc) (h : sortBy sort docs = .ok L) : L.Perm docs := by
  simp only [sortBy] at h
  cases sort with
  | none => simp only [Except.ok.injEq] at h; rw [h]
  | some s =>
    simp only at h
    split at h
    · simp only [Except.ok.injEq] at h; rw [h]
    · split at h
      · cases h
      · simp only [Except.ok.injEq] at h; rw [← h, sortSDocs_eq]; exact stableSort_perm _

theorem selectDocs_spec {sch : SchemaEval} {c : Coll} {q : Doc} {sort : Option Doc} {skip limit : Int} {l : List SDoc}
    (h : selectDocs sch c q sort skip limit = .ok l) : ∃ l0 : List SDoc, l0.Perm c.docs ∧ l.Sublist l0 := by
  rw [selectDocs_eq] at h
  split at h
  · cases h
  · split at h
    · cases h
    · rename_i L hL
      split at h
      · cases h
      · rename_i l1 h1
        cases h
        exact ⟨L, sortBy_perm sort c.docs L hL, (List.drop_sublist _ _).trans (filterDocs_sublist h1)⟩

theorem selectDocs_mem {sch : SchemaEval} {c : Coll} {q : Doc} {sort : Option Doc} {skip limit : Int} {l : List SDoc}
    (h : selectDocs sch c q sort skip limit = .ok l) : ∀ x ∈ l, x ∈ c.docs := by
  obtain ⟨l0, hp, hs⟩ := selectDocs_spec h
  exact fun x hx => hp.mem_iff.mp (hs.subset hx)

theorem sortBy_filter (sort : Option Doc) (docs L : List SDoc) (ok : ∀ sd ∈ docs, sd.doc.ok)
    (p : SDoc → Bool) (h : sortBy sort docs = .ok L) : sortBy sort (docs.filter p) = .ok (L.filter p) := by
  simp only [sortBy] at h ⊢
  cases sort with
  | none => simp only [Except.ok.injEq] at h; rw [h]
  | some s =>
    simp only at h ⊢
    split at h
    · next he => simp only [Except.ok.injEq] at h; simp [he, h]
    · next he =>
      simp only [he, Bool.false_eq_true, ↓reduceIte]
      split at h
      · cases h
      · next cols hc =>
        simp only [Except.ok.injEq] at h
        rw [← h, filter_sortSDocs docs cols ok p]

theorem noMatchError_perm (sch : SchemaEval) (q : Doc) {l l' : List SDoc} (hp : l'.Perm l)
    (h : noMatchError sch q l) : noMatchError sch q l' :=
  fun sd hsd => h sd (hp.subset hsd)

/-- find = window of the sorted list of the matching documents -/
theorem selectDocs_window (sch : SchemaEval) (c : Coll) (q : Doc) (sort : Option Doc) (skip limit : Int)
    (ok : ∀ sd ∈ c.docs, sd.doc.ok) (hne : noMatchError sch q c.docs) (l : List SDoc)
    (h : selectDocs sch c q sort skip limit = .ok l) :
    0 ≤ skip ∧ ∃ S, sortBy sort (c.docs.filter (matchesB sch q)) = .ok S ∧ l = windowOf skip limit S := by
  have hs : 0 ≤ skip := by
    by_cases hlt : skip < 0
    · simp [selectDocs, hlt] at h
    · omega
  refine ⟨hs, ?_⟩
  cases hL : sortedList c sort with
  | error e =>
    rw [selectDocs_eq, hL] at h
    have : ¬ skip < 0 := by omega
    simp [this] at h
  | ok L =>
    have hne' := noMatchError_perm sch q (sortBy_perm sort c.docs L hL) hne
    rw [selectDocs_noerr sch c q sort skip limit hs L hL hne'] at h
    simp only [Except.ok.injEq] at h
    exact ⟨L.filter (matchesB sch q), sortBy_filter sort c.docs L ok _ hL, h.symm⟩

/-! ## §5 the driver calls built on find -/

theorem Txn_find_eq (sch : SchemaEval) (t : Txn) (h : Handle) (c : Coll) (q : Doc) (sort : Option Doc)
    (skip limit : Int) (hv : h.validate true = .ok ()) (hg : t.catalog.get? h = some c) :
    t.find sch h q sort skip limit =
      match selectDocs sch c q sort skip limit with
      | .error e => .error e
      | .ok l => .ok (l.map (·.doc)) := by
  simp only [Txn.find, hv, hg, Coll.find]
  cases selectDocs sch c q sort skip limit <;> rfl

theorem runCall_find (sch : SchemaEval) (t0 : Txn) (nu : Nu) (h : Handle) (c : Coll) (q : Doc)
    (o : FindOpts) (hp : o.proj = none) (hv : h.validate true = .ok ()) (hg : t0.catalog.get? h = some c) :
    runCall sch t0 nu (.find h q o) =
      match selectDocs sch c q o.sort o.skip o.limit with
      | .error e => .error e
      | .ok l => .ok (t0, nu, .docs (l.map (·.doc))) := by
  simp only [runCall, Txn_find_eq sch t0 h c q o.sort o.skip o.limit hv hg, hp, projList]
  cases selectDocs sch c q o.sort o.skip o.limit <;> simp

theorem runCall_count (sch : SchemaEval) (t0 : Txn) (nu : Nu) (h : Handle) (c : Coll) (q : Doc)
    (skip limit : Int) (hv : h.validate true = .ok ()) (hg : t0.catalog.get? h = some c) :
    runCall sch t0 nu (.count h q skip limit) =
      match selectDocs sch c q none skip limit with
      | .error e => .error e
      | .ok l => .ok (t0, nu, .num l.length) := by
  simp only [runCall, Txn_find_eq sch t0 h c q none skip limit hv hg]
  cases selectDocs sch c q none skip limit <;> simp

theorem runCall_distinct (sch : SchemaEval) (t0 : Txn) (nu : Nu) (h : Handle) (c : Coll) (q : Doc)
    (field : String) (hv : h.validate true = .ok ()) (hg : t0.catalog.get? h = some c) :
    runCall sch t0 nu (.distinct h field q) =
      match selectDocs sch c q none 0 0 with
      | .error e => .error e
      | .ok l => .ok (t0, nu, .vals (Distinct (l.map (·.doc)) field)) := by
  simp only [runCall, Txn_find_eq sch t0 h c q none 0 0 hv hg]
  cases selectDocs sch c q none 0 0 <;> simp

theorem windowOf_zero_zero {α} (l : List α) : windowOf 0 0 l = l := by simp [windowOf]
theorem windowOf_zero_one {α} (l : List α) : windowOf 0 1 l = l.take 1 := by simp [windowOf]

/-! ## §6 one-document writes act on the head of the sorted matches -/

theorem delete_matched (sch : SchemaEval) (c c' : Coll) (q : Doc) (sort : Option Doc) (skip limit : Int)
    (list : List SDoc) (h : Coll.delete sch c q sort skip limit = .ok (c', list)) :
    selectDocs sch c q sort skip limit = .ok list := (Coll.delete_ok h).1

theorem replace_matched (sch : SchemaEval) (c : Coll) (q repl : Doc) (sort : Option Doc) (nu nu' : Nu)
    (r : CResult) (h : Coll.replace sch c q repl sort nu = .ok (r, nu')) :
    ∃ l, selectDocs sch c q sort 0 1 = .ok l ∧ r.matched = l.take 1 := by
  rcases Coll.replace_ok h with ⟨hs, rfl, _⟩ | ⟨old, rest, _, _, hs, _, _, rfl, _⟩
  · exact ⟨[], hs, rfl⟩
  · exact ⟨old :: rest, hs, rfl⟩

theorem update_matched (ac : ACtx) (c : Coll) (q u : Doc) (sort : Option Doc) (skip limit : Int)
    (fs : List Doc) (nu nu' : Nu) (r : CResult)
    (h : Coll.update ac c q u sort skip limit fs nu = .ok (r, nu')) :
    selectDocs ac.sch c q sort skip limit = .ok r.matched := by
  obtain ⟨_, _, _, _, hs, _, _, _, _, rfl⟩ := Coll.update_ok h
  exact hs

end Lungo
