/-
  Lungo.Proofs.OwnRun — soundness of `ownedOK` / `argsOK` for a checked block started in any state and,
  as the instance `initSt`, for one call (`run`); a block followed by a tail (`execL_append`) and the tail
  of a batch item (`itemTail`), which C02's per-item statements use; the identity-erasing observation
  `observe` and what it depends on.
-/
import Lungo.Proofs.OwnSoundStmt
namespace Lungo.Own

/-- all DocNodes the caller passed in -/
def Args.allDocs (a : Args) : List Nat := a.docs.flatMap (·.2)

/-- all DocNodes bound to document variables -/
def St.allDocs (st : St) : List Nat := st.env.docs.flatMap (·.2)

theorem St.docsOf_sub (st : St) (v : Var) : ∀ o ∈ st.docsOf v, o ∈ st.allDocs := by
  intro o ho
  simp only [St.docsOf] at ho
  cases hl : st.env.docs.lookup v with
  | none => simp [hl] at ho
  | some os => exact List.mem_flatMap.mpr ⟨_, lookup_mem hl, by simpa [hl] using ho⟩

theorem initSt_allDocs (a : Args) (ch : Choices) (h : Heap) (t : TxnState) :
    ∀ o ∈ (initSt a ch h t).allDocs, o ∈ a.allDocs := by
  simp only [St.allDocs, initSt, Args.allDocs, List.mem_flatMap, List.mem_map]
  rintro o ⟨_, ⟨p, hp, rfl⟩, ho⟩
  exact ⟨p, hp, (List.mem_filter.mp ho).1⟩

/-- **a checked block started anywhere.**  A statement list that passes the check from the EMPTY abstract
    state (it mutates only what it clones itself), run from ANY state, only `Step`s the heap relative to the
    objects that existed when it started — `ex` being any list that holds the documents bound to document
    variables — and if it returns with `err` set it has left `t` alone. -/
theorem block_sound (strict : Bool) (P : List Stmt) (hp : (checkL strict P {}).ok = true) (st : St)
    (ex : List Nat) (hex : ∀ o ∈ st.allDocs, o ∈ ex) :
    Step ⟨st.heap.size, strict, ex⟩ st.heap (execL P st).1.heap ∧
    ((execL P st).2 = .ret → (execL P st).1.env.err = true → (execL P st).1.txn = st.txn) := by
  have := sound_execL (cx := ⟨st.heap.size, strict, ex⟩) (t0 := st.txn) (h0 := st.heap) P {} st
    ⟨Nat.le_refl _, Step.refl _ _, fun v o ho => .inr (hex o (st.docsOf_sub v o ho))⟩
    ⟨fun v hv => by simp [Abs.owns] at hv, fun v hv => by simp [Abs.ownsDocs] at hv, nofun, fun _ => rfl⟩ hp
  refine ⟨this.1.step, fun hr => ?_⟩
  have p := this.2
  rw [hr] at p
  exact p.2

/-- the call-level soundness statement shared by both modes: `ownedOK p` is the hypothesis at
    `strict = false`, `argsOK p` at `strict = true` (by definition) -/
theorem run_sound (strict : Bool) (p : Prog) (hp : (checkL strict p {}).ok = true)
    (a : Args) (ch : Choices) (h : Heap) (t : TxnState) :
    Step ⟨h.size, strict, a.allDocs⟩ h (run p a ch (h, t)).1 ∧
    ((run p a ch (h, t)).2.2 = .error → (run p a ch (h, t)).2.1 = t) := by
  obtain ⟨s, e⟩ := block_sound strict p hp (initSt a ch h t) a.allDocs (initSt_allDocs a ch h t)
  refine ⟨s, fun he => ?_⟩
  simp only [run, outcomeOf] at he
  split at he
  · split at he
    · exact e ‹_› ‹_›
    · cases he
  all_goals cases he

/-- a checked block leaves every object that existed when it started untouched — except documents bound
    to document variables -/
theorem block_isolated (P : List Stmt) (hp : (checkL false P {}).ok = true) (st : St) :
    st.heap.size ≤ (execL P st).1.heap.size ∧
    (∀ o, o < st.heap.size → o ∉ st.allDocs → (execL P st).1.heap.get o = st.heap.get o) :=
  have s := (block_sound false P hp st st.allDocs fun _ h => h).1
  ⟨s.size, fun _ ho hx => s.frozen ho ho (.inr hx)⟩

theorem execL_append (P T : List Stmt) (st : St) :
    execL (P ++ T) st = match execL P st with
      | (st1, .next) => execL T st1
      | r => r := by
  induction P generalizing st with
  | nil => simp [execL]
  | cons s ss ih =>
    simp only [List.cons_append, execL]
    generalize exec s st = r
    obtain ⟨st1, sg⟩ := r
    cases sg <;> simp [ih]

theorem execL_append_next {P T : List Stmt} {st : St} (hn : (execL P st).2 = .next) :
    execL (P ++ T) st = execL T (execL P st).1 := by
  rw [execL_append]
  generalize execL P st = r at hn ⊢
  obtain ⟨st1, sg⟩ := r
  cases hn; rfl

/-- the tail of a batch item: `if err != nil { if ordered { break } else { continue } }`, then the two installs -/
def itemTail (h : HExpr) : List Stmt :=
  [.ite .err [.ite (.test "ordered") [.brk] [.cont]] [], .setNs "clone" h "namespace", .setNs "clone" .oplog "oplog"]

theorem exec_errCheck (st : St) :
    exec (.ite .err [.ite (.test "ordered") [.brk] [.cont]] []) st =
      if st.env.err then (st.popFlag.2, if st.popFlag.1 then .brk else .cont) else (st, .next) := by
  cases he : st.env.err
  · simp only [exec, Cond.eval, execL, he, Bool.false_eq_true, ↓reduceIte]
  · cases hf : st.popFlag.1 <;> simp only [exec, Cond.eval, execL, he, hf, Bool.false_eq_true, ↓reduceIte]

theorem itemTail_err (h : HExpr) (st : St) (he : st.env.err = true) :
    (execL (itemTail h) st).1.heap = st.heap ∧ (execL (itemTail h) st).1.txn = st.txn ∧
    ((execL (itemTail h) st).2 = .brk ∨ (execL (itemTail h) st).2 = .cont) := by
  rw [itemTail, execL, exec_errCheck, he]
  cases st.popFlag.1 <;> exact ⟨rfl, rfl, by simp⟩

theorem itemTail_ok (h : HExpr) (st : St) (he : st.env.err = false) :
    execL (itemTail h) st = execL [.setNs "clone" h "namespace", .setNs "clone" .oplog "oplog"] st := by
  rw [itemTail, execL, exec_errCheck, he]; rfl

/-- contents of a document node -/
def obsDoc (h : Heap) (o : Nat) : Option Nat :=
  match h.get o with
  | some (.doc v) => some v
  | _ => none

/-- contents of a Set / index: the documents it lists, identities erased -/
def obsList (h : Heap) (o : Nat) : Option (List (Option Nat)) :=
  match h.get o with
  | some (.set l) => some (l.map (obsDoc h))
  | some (.idx l) => some (l.map (obsDoc h))
  | _ => none

/-- what a collection shows: its documents and, per index name, the documents the index lists -/
structure CollV where
  docs : Option (List (Option Nat))
  idx : List (String × Option (List (Option Nat)))
  deriving DecidableEq, Repr

abbrev CollView := Option CollV

def obsColl (h : Heap) (o : Nat) : CollView :=
  match h.get o with
  | some (.coll s idxs) => some ⟨obsList h s, idxs.map fun p => (p.1, obsList h p.2)⟩
  | _ => none

abbrev CatView := Option (List (Nat × CollView))

/-- everything reachable from a catalog root — namespaces, their documents and indexes, the oplog —
    with object identities erased -/
def observe (h : Heap) (root : Nat) : CatView :=
  match h.get root with
  | some (.cat ns) => some (ns.map fun p => (p.1, obsColl h p.2))
  | _ => none

def Obj.ptrs : Obj → List Nat
  | .cat ns => ns.map (·.2)
  | .coll s idxs => s :: idxs.map (·.2)
  | .set l => l
  | .idx l => l
  | .doc _ => []

/-- no dangling pointers -/
def Closed (h : Heap) : Prop := ∀ o x, h.get o = some x → ∀ p ∈ x.ptrs, p < h.size

/-- `h'` agrees with `h` on every object of `h` -/
def Agree (h h' : Heap) : Prop := ∀ o, o < h.size → h'.get o = h.get o

theorem Agree.refl (h : Heap) : Agree h h := fun _ _ => rfl
theorem Agree.trans {h1 h2 h3 : Heap} (hs : h1.size ≤ h2.size) (a : Agree h1 h2) (b : Agree h2 h3) : Agree h1 h3 :=
  fun o ho => (b o (Nat.lt_of_lt_of_le ho hs)).trans (a o ho)

/-- the objects `obsList` looks at -/
def reachList (h : Heap) (o : Nat) : List Nat := o :: (setList h o ++ idxEntries h o)

/-- the objects `obsColl` looks at -/
def reachColl (h : Heap) (c : Nat) : List Nat :=
  match h.get c with
  | some (.coll s idxs) => c :: (reachList h s ++ idxs.flatMap fun p => reachList h p.2)
  | _ => [c]

/-- the objects `observe` looks at: everything reachable from the catalog root -/
def reach (h : Heap) (root : Nat) : List Nat :=
  match h.get root with
  | some (.cat ns) => root :: ns.flatMap fun p => reachColl h p.2
  | _ => [root]

theorem obsList_congr {h h' : Heap} {o : Nat} (e : ∀ p ∈ reachList h o, h'.get p = h.get p) :
    obsList h' o = obsList h o := by
  simp only [obsList, e o (List.mem_cons_self ..)]
  cases hg : h.get o with
  | none => rfl
  | some x =>
    cases x with
    | set l | idx l =>
      refine congrArg some (List.map_congr_left fun p hp => ?_)
      simp only [obsDoc, e p (by simp [reachList, setList, idxEntries, hg, hp])]
    | cat _ | coll _ _ | doc _ => rfl

theorem obsColl_congr {h h' : Heap} {o : Nat} (e : ∀ p ∈ reachColl h o, h'.get p = h.get p) :
    obsColl h' o = obsColl h o := by
  have e0 : h'.get o = h.get o := e o (by simp only [reachColl]; split <;> simp)
  simp only [obsColl, e0]
  cases hg : h.get o with
  | none => rfl
  | some x =>
    cases x with
    | coll s idxs =>
      simp only [reachColl, hg] at e
      simp only [Option.some.injEq, CollV.mk.injEq]
      refine ⟨obsList_congr fun p hp => e p (by simp [hp]), List.map_congr_left fun q hq => ?_⟩
      rw [obsList_congr fun p hp => e p (List.mem_cons_of_mem _ (List.mem_append_right _
        (List.mem_flatMap.mpr ⟨q, hq, hp⟩)))]
    | cat _ | set _ | idx _ | doc _ => rfl

/-- `observe` depends only on the objects in `reach` -/
theorem observe_congr {h h' : Heap} {root : Nat} (e : ∀ p ∈ reach h root, h'.get p = h.get p) :
    observe h' root = observe h root := by
  have e0 : h'.get root = h.get root := e root (by simp only [reach]; split <;> simp)
  simp only [observe, e0]
  cases hg : h.get root with
  | none => rfl
  | some x =>
    cases x with
    | cat ns =>
      simp only [reach, hg] at e
      refine congrArg some (List.map_congr_left fun q hq => ?_)
      rw [obsColl_congr fun p hp => e p (List.mem_cons_of_mem _ (List.mem_flatMap.mpr ⟨q, hq, hp⟩))]
    | coll _ _ | set _ | idx _ | doc _ => rfl

/-! In a closed heap everything reachable from an allocated object is allocated. -/

theorem setList_lt {h : Heap} (c : Closed h) (s : Nat) : ∀ p ∈ setList h s, p < h.size := by
  intro p hp
  simp only [setList] at hp
  split at hp
  · rename_i l hg; exact c s _ hg p hp
  · cases hp

theorem idxEntries_lt {h : Heap} (c : Closed h) (s : Nat) : ∀ p ∈ idxEntries h s, p < h.size := by
  intro p hp
  simp only [idxEntries] at hp
  split at hp
  · rename_i l hg; exact c s _ hg p hp
  · cases hp

theorem reachList_lt {h : Heap} (c : Closed h) {o : Nat} (ho : o < h.size) : ∀ p ∈ reachList h o, p < h.size := by
  intro p hp
  simp only [reachList, List.mem_cons, List.mem_append] at hp
  rcases hp with rfl | hp | hp
  · exact ho
  · exact setList_lt c o p hp
  · exact idxEntries_lt c o p hp

theorem reachColl_lt {h : Heap} (c : Closed h) {o : Nat} (ho : o < h.size) : ∀ p ∈ reachColl h o, p < h.size := by
  intro p hp
  simp only [reachColl] at hp
  split at hp
  · rename_i s idxs hg
    simp only [List.mem_cons, List.mem_append, List.mem_flatMap] at hp
    rcases hp with rfl | hp | ⟨q, hq, hp⟩
    · exact ho
    · exact reachList_lt c (c o _ hg s (List.mem_cons_self ..)) p hp
    · exact reachList_lt c (c o _ hg q.2 (List.mem_cons_of_mem _ (List.mem_map_of_mem hq))) p hp
  · cases List.mem_singleton.mp hp; exact ho

theorem reach_lt {h : Heap} (c : Closed h) {root : Nat} (hr : root < h.size) : ∀ p ∈ reach h root, p < h.size := by
  intro p hp
  simp only [reach] at hp
  split at hp
  · rename_i ns hg
    simp only [List.mem_cons, List.mem_flatMap] at hp
    rcases hp with rfl | ⟨q, hq, hp⟩
    · exact hr
    · exact reachColl_lt c (c root _ hg q.2 (List.mem_map_of_mem hq)) p hp
  · cases List.mem_singleton.mp hp; exact hr

/-- a root of the old heap observes the same in any heap that agrees with the old one -/
theorem observe_agree {h h' : Heap} (c : Closed h) (ag : Agree h h') {root : Nat} (hr : root < h.size) :
    observe h' root = observe h root :=
  observe_congr fun p hp => ag p (reach_lt c hr p hp)

/-- **what a call leaves of an existing root.**  A program that passes `ownedOK`, called on a closed heap,
    shows every existing root unchanged, whatever its outcome — provided it clones the documents it writes
    (`argsOK`) or the caller's documents are not among what the root reaches. -/
theorem run_observe (p : Prog) (hp : ownedOK p = true) (a : Args) (ch : Choices) (h : Heap) (t : TxnState)
    (hc : Closed h) {root : Nat} (hr : root < h.size)
    (hx : argsOK p = true ∨ ∀ o ∈ a.allDocs, o ∉ reach h root) :
    observe (run p a ch (h, t)).1 root = observe h root := by
  rcases hx with hx | hx
  · exact observe_agree hc (fun o ho => (run_sound true p hx a ch h t).1.frozen ho ho (.inl rfl)) hr
  · exact observe_congr fun q hq => (run_sound false p hp a ch h t).1.frozen (reach_lt hc hr q hq)
      (reach_lt hc hr q hq) (.inr fun hm => hx q hm hq)

end Lungo.Own
