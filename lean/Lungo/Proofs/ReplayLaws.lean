/-
  Lungo.Proofs.ReplayLaws — C08 `oplog_faithful`: reading back the events written by
  `Transaction.append`, the pointwise form of replay, and per-method faithfulness.
-/
import Lungo.Spec.Replay
import Lungo.Proofs.OplogSteps
import Lungo.Proofs.BeqLaws
import Lungo.Proofs.ExpireLaws
namespace Lungo
open Lungo.Spec

/-- what a consumer reads out of the event written for `e` -/
def specChange (e : EvSpec) : Option Change :=
  let key : V := match e.doc with
    | some d => Get d "_id"
    | none => .missing
  let full : Option Doc := match e.doc with
    | some d => if e.op == "insert" || e.op == "replace" || e.op == "update" then some d else none
    | none => none
  if e.op == "insert" then full.map (Change.insert e.h key)
  else if e.op == "replace" || e.op == "update" then full.map (Change.set e.h key)
  else if e.op == "delete" then some (.delete e.h key)
  else if e.op == "drop" then some (.drop e.h)
  else if e.op == "dropDatabase" then some (.dropDatabase e.h.db)
  else none

theorem decode_oplogEvent (k : Nat) (e : EvSpec) :
    decodeEvent (oplogEvent k e.h e.op e.doc e.changes) = specChange e := by
  obtain ⟨⟨db, coll⟩, op, doc, ch⟩ := e
  cases doc <;> cases ch <;> by_cases hc : coll = "" <;>
    by_cases ho : (op == "insert" || op == "replace" || op == "update") = true <;>
    simp [decodeEvent, specChange, oplogEvent, getP, Lungo.get, getField, strOr, hc, ho]

theorem specChange_insert (h : Handle) (d : Doc) :
    specChange ⟨h, "insert", some d, none⟩ = some (.insert h (keyOf d) d) := by
  simp [specChange, keyOf]

theorem specChange_delete (h : Handle) (d : Doc) :
    specChange ⟨h, "delete", some d, none⟩ = some (.delete h (keyOf d)) := by
  simp [specChange, keyOf]

theorem specChange_drop (h : Handle) : specChange ⟨h, "drop", none, none⟩ = some (.drop h) := by
  simp [specChange]

theorem specChange_dropDatabase (h : Handle) :
    specChange ⟨h, "dropDatabase", none, none⟩ = some (.dropDatabase h.db) := by
  simp [specChange]

/-- the effect of a change on the document list of namespace `h'` -/
def changeDocs (ch : Change) (h' : Handle) (l : List Doc) : List Doc :=
  match ch with
  | .insert h key doc =>
    if h' = h then (if l.any (fun d => keyOf d == key) then setAt key doc l else l ++ [doc]) else l
  | .set h key doc => if h' = h then setAt key doc l else l
  | .delete h key => if h' = h then l.filter (fun d => !(keyOf d == key)) else l
  | .drop h => if h' = h then [] else l
  | .dropDatabase db => if h'.db = db then [] else l

theorem upd_docs (c : Contents) (h : Handle) (f : List Doc → List Doc) (h' : Handle) :
    (upd c h f).docs h' = if h' = h then f (c.docs h) else c.docs h' := by
  unfold upd Contents.docs
  split
  · rename_i hany
    rw [find?_map_fst _ _ (fun a => by split <;> rfl)]
    cases hf : c.find? (fun a => a.1 == h') with
    | none =>
      have : h' ≠ h := by
        rintro rfl
        obtain ⟨a, ha, hah⟩ := List.any_eq_true.mp hany
        exact List.find?_eq_none.mp hf a ha hah
      simp [this]
    | some a =>
      have : a.1 = h' := by simpa using List.find?_some hf
      by_cases e : h' = h
      · subst e; simp [hf, this]
      · simp [this, e]
  · rename_i hany
    rw [List.find?_append]
    by_cases e : h' = h
    · subst e; simp [find?_eq_none_of_any hany]
    · have : (h == h') = false := by simpa using Ne.symm e
      cases c.find? (fun a => a.1 == h') <;> simp [e, this]

theorem filter_docs (c : Contents) (p : Handle → Bool) (h' : Handle) :
    Contents.docs (c.filter fun hl => p hl.1) h' = if p h' then c.docs h' else [] := by
  unfold Contents.docs
  rw [find?_filter_fst]
  split <;> rfl

theorem applyChange_docs (c : Contents) (ch : Change) (h' : Handle) :
    (applyChange c ch).docs h' = changeDocs ch h' (c.docs h') := by
  cases ch with
  | insert h key doc => simp only [applyChange, changeDocs, upd_docs]; split <;> simp_all
  | set h key doc => simp only [applyChange, changeDocs, upd_docs]; split <;> simp_all
  | delete h key => simp only [applyChange, changeDocs, upd_docs]; split <;> simp_all
  | drop h =>
    simp only [applyChange, changeDocs]
    rw [filter_docs c (fun x => x != h)]
    by_cases e : h' = h <;> simp [e]
  | dropDatabase db =>
    simp only [applyChange, changeDocs]
    rw [filter_docs c (fun x => x.db != db)]
    by_cases e : h'.db = db <;> simp [e]

/-- the effect of the events written for `es` on the document list of namespace `h'` -/
def replayDocs (es : List EvSpec) (h' : Handle) (l : List Doc) : List Doc :=
  (es.filterMap specChange).foldl (fun l ch => changeDocs ch h' l) l

theorem replayDocs_append (es fs : List EvSpec) (h' : Handle) (l : List Doc) :
    replayDocs (es ++ fs) h' l = replayDocs fs h' (replayDocs es h' l) := by
  simp only [replayDocs, List.filterMap_append, List.foldl_append]

theorem replayDocs_cons {e : EvSpec} {ch : Change} (hs : specChange e = some ch) (es : List EvSpec) (h' : Handle)
    (l : List Doc) : replayDocs (e :: es) h' l = replayDocs es h' (changeDocs ch h' l) := by
  simp only [replayDocs, List.filterMap_cons, hs, List.foldl_cons]

/-- replaying the events written for `es` (at any clock) acts per namespace as the fold of their changes -/
theorem replay_evDocs_docs (k : Nat) (es : List EvSpec) (c : Contents) (h' : Handle) :
    (replay (evDocs k es) c).docs h' = replayDocs es h' (c.docs h') := by
  induction es generalizing k c with
  | nil => rfl
  | cons e r ih =>
    simp only [evDocs, replay, List.foldl_cons, replayDocs] at ih ⊢
    rw [ih]
    simp only [applyEvent, decode_oplogEvent, List.filterMap_cons]
    cases specChange e with
    | none => rfl
    | some ch => simp only [List.foldl_cons, applyChange_docs]

/-- the documents of namespace `h` of a catalog -/
def docsOf (cat : Catalog) (h : Handle) : List Doc := ((cat.get? h).map fun c => c.docs.map (·.doc)).getD []

theorem contents_docs (cat : Catalog) (h : Handle) :
    (contents cat).docs h = if h = oplogHandle then [] else docsOf cat h := by
  unfold contents Contents.docs docsOf Catalog.get?
  rw [find?_map_fst _ (fun hc : Handle × Coll => (hc.1, hc.2.docs.map (·.doc))) (fun _ => rfl),
    find?_filter_fst _ (fun x => x != oplogHandle)]
  by_cases e : h = oplogHandle
  · simp [e]
  · simp only [bne_iff_ne, ne_eq, e, not_false_eq_true, ↓reduceIte, Option.map_map]
    rfl

/-- the change set `es` replayed on the contents of `cat` gives the contents of `cat'` -/
def Faith (cat cat' : Catalog) (es : List EvSpec) : Prop :=
  ∀ h', h' ≠ oplogHandle →
    docsOf cat' h' = (es.filterMap specChange).foldl (fun l ch => changeDocs ch h' l) (docsOf cat h')

theorem Faith.refl (cat : Catalog) : Faith cat cat [] := fun _ _ => rfl

theorem Faith.trans {a b c : Catalog} {es fs : List EvSpec} (h1 : Faith a b es) (h2 : Faith b c fs) :
    Faith a c (es ++ fs) := by
  intro h' hne
  rw [h2 h' hne, h1 h' hne, List.filterMap_append, List.foldl_append]

theorem docsOf_set (cat : Catalog) (h : Handle) (x : Coll) (h' : Handle) :
    docsOf (cat.set h x) h' = if h' = h then x.docs.map (·.doc) else docsOf cat h' := by
  unfold docsOf
  rw [Catalog.get?_set]
  split <;> rfl

theorem docsOf_appendEvs (cn : Catalog × Nu) (es : List EvSpec) (h' : Handle) (hne : h' ≠ oplogHandle) :
    docsOf (appendEvs cn es).1 h' = docsOf cn.1 h' := by
  unfold docsOf
  rw [appendEvs_get_other _ _ _ hne]

theorem docsOf_ensureNs (cat : Catalog) (h : Handle) : docsOf cat h = (ensureNs cat h).docs.map (·.doc) := by
  unfold docsOf ensureNs
  cases cat.get? h <;> simp [newColl]

/-- an event on namespace `h` (not a dropDatabase) does not touch other namespaces -/
theorem specChange_local (e : EvSpec) (hop : (e.op == "dropDatabase") = false) (h' : Handle) (hne : h' ≠ e.h)
    (ch : Change) (hc : specChange e = some ch) (l : List Doc) : changeDocs ch h' l = l := by
  unfold specChange at hc
  simp only at hc
  split at hc
  · obtain ⟨a, _, rfl⟩ := Option.map_eq_some_iff.mp hc; simp [changeDocs, hne]
  · split at hc
    · obtain ⟨a, _, rfl⟩ := Option.map_eq_some_iff.mp hc; simp [changeDocs, hne]
    · split at hc
      · simp only [Option.some.injEq] at hc; subst hc; simp [changeDocs, hne]
      · split at hc
        · simp only [Option.some.injEq] at hc; subst hc; simp [changeDocs, hne]
        · simp [hop] at hc

theorem replayDocs_local (es : List EvSpec) (h h' : Handle) (hne : h' ≠ h)
    (hloc : ∀ e ∈ es, e.h = h ∧ (e.op == "dropDatabase") = false) (l : List Doc) : replayDocs es h' l = l := by
  induction es generalizing l with
  | nil => rfl
  | cons e r ih =>
    have ⟨he, hop⟩ := hloc e (List.mem_cons_self ..)
    have ih := ih (fun x hx => hloc x (List.mem_cons_of_mem _ hx))
    cases hc : specChange e with
    | none => simpa only [replayDocs, List.filterMap_cons, hc] using ih l
    | some ch => rw [replayDocs_cons hc, specChange_local e hop h' (he ▸ hne) ch hc, ih]

/-- a collection-level write on namespace `h`: the namespace is replaced by `coll` and the events `es`
    (all on `h`) are appended; faithful iff replaying `es` on the old documents of `h` gives `coll`'s. -/
theorem Faith.write (cat : Catalog) (h : Handle) (coll : Coll) (nu : Nu) (es : List EvSpec)
    (hloc : ∀ e ∈ es, e.h = h ∧ (e.op == "dropDatabase") = false)
    (hdocs : coll.docs.map (·.doc) = replayDocs es h ((ensureNs cat h).docs.map (·.doc))) :
    Faith cat (appendEvs (cat.set h coll, nu) es).1 es := by
  intro h' hne
  rw [docsOf_appendEvs _ _ _ hne, docsOf_set]
  split
  · rename_i e; subst e; rw [docsOf_ensureNs]; exact hdocs
  · rename_i e; exact (replayDocs_local es h h' e hloc _).symm

/-- oplog extension and faithful replay with the same event list -/
structure Adv (cat cat' : Catalog) (es : List EvSpec) : Prop where
  ext : Ext cat cat' es
  faith : Faith cat cat' es

theorem Adv.refl (cat : Catalog) : Adv cat cat [] := ⟨Ext.refl cat, Faith.refl cat⟩

theorem Adv.trans {a b c : Catalog} {es fs : List EvSpec} (h1 : Adv a b es) (h2 : Adv b c fs) : Adv a c (es ++ fs) :=
  ⟨h1.ext.trans h2.ext, h1.faith.trans h2.faith⟩

theorem Adv.write (cat : Catalog) (h : Handle) (coll : Coll) (nu : Nu) (es : List EvSpec) (hno : h ≠ oplogHandle)
    (hloc : ∀ e ∈ es, e.h = h ∧ (e.op == "dropDatabase") = false)
    (hdocs : coll.docs.map (·.doc) = replayDocs es h ((ensureNs cat h).docs.map (·.doc))) :
    Adv cat (appendEvs (cat.set h coll, nu) es).1 es :=
  ⟨Ext.write cat h coll nu es hno, Faith.write cat h coll nu es hloc hdocs⟩

/-- replacing a namespace by a collection with the same documents changes no contents: a write without
    events (no event is appended, so the `Nu` is immaterial) -/
theorem Adv.same_docs (cat : Catalog) (h : Handle) (coll : Coll) (hno : h ≠ oplogHandle)
    (hd : coll.docs = (ensureNs cat h).docs) : Adv cat (cat.set h coll) [] :=
  Adv.write cat h coll default [] hno nofun (congrArg (List.map (·.doc)) hd)

/-- a transaction method either returns the transaction itself or a dirty one that extends the log
    by events whose replay reproduces the new contents -/
def TAdv (t t' : Txn) : Prop := t' = t ∨ (t'.dirty = true ∧ ∃ es, Adv t.catalog t'.catalog es)

theorem TAdv.step {t t' : Txn} (h : TAdv t t') : TStep t t' :=
  h.imp_right fun ⟨hd, es, he⟩ => ⟨hd, es, he.ext⟩

/-- documents of a namespace have pairwise distinct `_id` (structurally) -/
def KeysDistinct (c : Coll) : Prop := c.docs.Pairwise fun a b => keyOf a.doc ≠ keyOf b.doc

theorem Coll.insert_docs {sch : SchemaEval} {c c' : Coll} {d : Doc} {nu nu' : Nu} {sd : SDoc}
    (h : c.insert sch d nu = .ok (c', sd, nu')) : c'.docs = c.docs ++ [sd] := by
  obtain ⟨_, _, _, _, _, rfl, rfl, _⟩ := Coll.insert_ok h
  rfl

theorem Coll.upsert_docs {ac : ACtx} {c c' : Coll} {q : Doc} {repl u : Option Doc} {fs : List Doc} {nu nu' : Nu} {sd : SDoc}
    (h : c.upsert ac q repl u fs nu = .ok (c', sd, nu')) : c'.docs = c.docs ++ [sd] := by
  obtain ⟨_, h⟩ := upsert_spec h
  exact Coll.insert_docs h

/-- appending a document whose key is new = replaying its insert event -/
theorem insert_event_docs (h : Handle) (old : List SDoc) (sd : SDoc)
    (hk : ∀ x ∈ old, keyOf x.doc ≠ keyOf sd.doc) :
    (old ++ [sd]).map (·.doc) = replayDocs [⟨h, "insert", some sd.doc, none⟩] h (old.map (·.doc)) := by
  have : (old.map (·.doc)).any (fun d => keyOf d == keyOf sd.doc) = false := by
    rw [List.any_map, List.any_eq_false]
    exact fun x hx => by simpa using (V.beq_false_iff _ _).mpr (hk x hx)
  rw [replayDocs_cons (specChange_insert h sd.doc)]
  simp [replayDocs, changeDocs, this]

/-- one insert: the namespace gains one document at the end, and — if its key is new — the insert event
    replays to exactly that -/
theorem insertOne_adv {sch : SchemaEval} {cat cat' : Catalog} {h : Handle} {d d' : Doc} {nu nu' : Nu}
    (hno : h ≠ oplogHandle) (hr : insertOne sch cat h d nu = .ok (cat', d', nu')) :
    ∃ sd, (ensureNs cat' h).docs = (ensureNs cat h).docs ++ [sd] ∧
      (KeysDistinct (ensureNs cat' h) → Adv cat cat' [⟨h, "insert", some d', none⟩]) := by
  obtain ⟨coll, sd, nu1, hins, rfl, rfl, _⟩ := insertOne_ok hr
  have hdocs := Coll.insert_docs hins
  have hens : ensureNs (appendEvs (cat.set h coll, nu1) [⟨h, "insert", some sd.doc, none⟩]).1 h = coll :=
    ensureNs_of_get (by rw [write_get? _ _ _ _ _ _ hno, if_pos rfl])
  rw [hens]
  refine ⟨sd, hdocs, fun hk => Adv.write cat h coll nu1 _ hno ?_ ?_⟩
  · intro e he
    cases List.mem_singleton.mp he
    exact ⟨rfl, rfl⟩
  · rw [KeysDistinct, hdocs, List.pairwise_append] at hk
    rw [hdocs]
    exact insert_event_docs h _ sd fun x hx => hk.2.2 x hx sd (List.mem_singleton_self _)

/-- the loop of `Txn.insert`: documents are only added at the end of the namespace, so distinct keys at the
    end mean distinct keys all along, and every insert replays -/
theorem insert_go_adv (sch : SchemaEval) (h : Handle) (ordered : Bool) (hno : h ≠ oplogHandle) (list : List Doc) :
    ∀ (cat : Catalog) (nu : Nu) (acc : List Doc) (err : Option Err),
      (∃ added, (ensureNs (Txn.insert.go sch h ordered cat nu acc err list).1 h).docs = (ensureNs cat h).docs ++ added) ∧
      (KeysDistinct (ensureNs (Txn.insert.go sch h ordered cat nu acc err list).1 h) →
        ∃ es, Adv cat (Txn.insert.go sch h ordered cat nu acc err list).1 es) := by
  induction list with
  | nil => intro cat nu acc err; exact ⟨⟨[], by simp [Txn.insert.go]⟩, fun _ => ⟨[], Adv.refl cat⟩⟩
  | cons d r ih =>
    intro cat nu acc err
    rw [Txn.insert.go]
    split
    · cases ordered
      · simp only [Bool.false_eq_true, ↓reduceIte]; exact ih ..
      · simp only [↓reduceIte]; exact ⟨⟨[], by simp⟩, fun _ => ⟨[], Adv.refl cat⟩⟩
    · rename_i cat1 d1 nu1 hins
      obtain ⟨⟨added, ha⟩, hadv⟩ := ih cat1 nu1 (acc ++ [d1]) err
      obtain ⟨sd, hsd, h1⟩ := insertOne_adv hno hins
      refine ⟨⟨sd :: added, by rw [ha, hsd, List.append_assoc]; rfl⟩, fun hk => ?_⟩
      obtain ⟨es, he⟩ := hadv hk
      rw [KeysDistinct, ha] at hk
      exact ⟨_, (h1 (List.pairwise_append.mp hk).1).trans he⟩

theorem Adv.ensure_base (cat : Catalog) (h : Handle) (hno : h ≠ oplogHandle) :
    Adv cat (if (cat.get? h).isSome then cat else cat.set h (newColl true)) [] := by
  split
  · exact Adv.refl _
  · rename_i hn
    exact Adv.same_docs cat h _ hno (by rw [ensureNs_of_none (by simpa using hn)])

theorem ensureNs_base (cat : Catalog) (h : Handle) :
    ensureNs (if (cat.get? h).isSome then cat else cat.set h (newColl true)) h = ensureNs cat h := by
  split
  · rfl
  · rename_i hn
    have : cat.get? h = none := by simpa using hn
    simp [ensureNs, Catalog.get?_set_self, this]

theorem Txn.insert_adv {sch : SchemaEval} {t t' : Txn} {h : Handle} {list : List Doc} {ordered : Bool}
    {nu nu' : Nu} {r : TResult} (hr : t.insert sch h list ordered nu = .ok (t', r, nu'))
    (hk : h ≠ oplogHandle → KeysDistinct (ensureNs t'.catalog h)) : TAdv t t' := by
  obtain ⟨hno, g, hg, _, _, rfl⟩ := Txn.insert_ok hr
  by_cases hm : g.2.2.1.isEmpty = true
  · exact .inl (if_pos hm)
  · rw [if_neg hm] at hk ⊢
    subst hg
    obtain ⟨es, he⟩ := (insert_go_adv sch h ordered hno list _ nu [] none).2 (hk hno)
    exact .inr ⟨rfl, _, (Adv.ensure_base t.catalog h hno).trans he⟩

theorem Coll.delete_shape {sch : SchemaEval} {c c' : Coll} {q : Doc} {sort : Option Doc} {skip limit : Int}
    {list : List SDoc} (h : c.delete sch q sort skip limit = .ok (c', list)) :
    (∀ x ∈ list, x ∈ c.docs) ∧ c'.docs = c.docs.filter (fun sd => !(list.any (·.id == sd.id))) := by
  obtain ⟨hsel, _, _, rfl⟩ := Coll.delete_ok h
  exact ⟨selectDocs_mem hsel, rfl⟩

theorem replayDocs_deletes (h : Handle) (list : List SDoc) (L : List Doc) :
    replayDocs (list.map fun sd => ⟨h, "delete", some sd.doc, none⟩) h L
      = L.filter fun d => !(list.any fun x => keyOf d == keyOf x.doc) := by
  induction list generalizing L with
  | nil => exact (List.filter_eq_self.mpr fun _ _ => rfl).symm
  | cons sd r ih =>
    rw [List.map_cons, replayDocs_cons (specChange_delete h sd.doc), ih]
    simp only [changeDocs, ↓reduceIte, List.filter_filter, List.any_cons, Bool.not_or, Bool.and_comm]

/-- removing by identity = removing by key, for a coherent collection -/
theorem delete_docs_by_key {c : Coll} (hid : DocIdsDistinct c) (hk : KeysDistinct c) (list : List SDoc)
    (hsub : ∀ x ∈ list, x ∈ c.docs) :
    (c.docs.filter fun sd => !(list.any (·.id == sd.id))).map (·.doc)
      = (c.docs.map (·.doc)).filter fun d => !(list.any fun x => keyOf d == keyOf x.doc) := by
  rw [List.filter_map]
  congr 1
  apply List.filter_congr
  intro sd hsd
  simp only [Function.comp]
  congr 1
  rw [Bool.eq_iff_iff, List.any_eq_true, List.any_eq_true]
  constructor
  · rintro ⟨x, hx, hxid⟩
    have : x = sd := eq_of_pairwise_ne hid (hsub x hx) hsd (by simpa using hxid)
    exact ⟨x, hx, this ▸ (V.beq_iff _ _).mpr rfl⟩
  · rintro ⟨x, hx, hkx⟩
    have : sd = x := eq_of_pairwise_ne hk hsd (hsub x hx) ((V.beq_iff _ _).mp hkx)
    exact ⟨x, hx, by simp [this]⟩

theorem deleteOp_adv {sch : SchemaEval} {cat cat' : Catalog} {h : Handle} {q : Doc} {sort : Option Doc}
    {skip limit : Int} {nu nu' : Nu} {res : TResult}
    (hno : h ≠ oplogHandle) (hid : DocIdsDistinct (ensureNs cat h)) (hk : KeysDistinct (ensureNs cat h))
    (hr : deleteOp sch cat h q sort skip limit nu = .ok (cat', res, nu')) : ∃ es, Adv cat cat' es := by
  obtain ⟨coll, list, hdel, _, rfl, _⟩ := deleteOp_ok hr
  obtain ⟨hsub, hdocs⟩ := Coll.delete_shape hdel
  refine ⟨_, Adv.write cat h coll nu _ hno ?_ ?_⟩
  · intro e he
    obtain ⟨sd, _, rfl⟩ := List.mem_map.mp he
    exact ⟨rfl, rfl⟩
  · rw [replayDocs_deletes, hdocs]
    exact delete_docs_by_key hid hk list hsub

theorem Txn.delete_adv {sch : SchemaEval} {t t' : Txn} {h : Handle} {q : Doc} {sort : Option Doc}
    {skip limit : Int} {nu nu' : Nu} {r : TResult}
    (hok : h ≠ oplogHandle → DocIdsDistinct (ensureNs t.catalog h) ∧ KeysDistinct (ensureNs t.catalog h))
    (hr : t.delete sch h q sort skip limit nu = .ok (t', r, nu')) : TAdv t t' := by
  obtain ⟨hno, ⟨rfl, _⟩ | ⟨cat, hop, rfl⟩⟩ := Txn.delete_ok hr
  · exact .inl rfl
  · split
    · exact .inr ⟨rfl, deleteOp_adv hno (hok hno).1 (hok hno).2 hop⟩
    · exact .inl rfl

theorem Managed.adv {ac : ACtx} {t t' : Txn} (m : Managed ac t t') : TAdv t t' := by
  rcases m with rfl | ⟨h, coll, hno, hd, rfl⟩
  · exact .inl rfl
  · exact .inr ⟨rfl, [], Adv.same_docs _ h coll hno hd.docs⟩

theorem docsOf_dropKeep (cat : Catalog) (h h' : Handle) :
    docsOf (dropKeep cat h) h' = if dropHit h h' then [] else docsOf cat h' := by
  unfold docsOf dropKeep Catalog.get?
  simp only
  rw [find?_filter_fst _ (fun ns => !dropHit h ns)]
  cases dropHit h h' <;> rfl

/-- replaying one `drop` event per namespace of the catalog that satisfies `p` empties exactly the namespaces
    that satisfy `p` -/
theorem replayDocs_drops (cat : Catalog) (p : Handle → Bool) (h' : Handle) :
    replayDocs ((cat.namespaces.filter fun a => p a.1).map fun a => ⟨a.1, "drop", none, none⟩) h' (docsOf cat h')
      = if p h' then [] else docsOf cat h' := by
  have key : ∀ (l : List (Handle × Coll)) (L : List Doc),
      replayDocs (l.map fun a => ⟨a.1, "drop", none, none⟩) h' L = if l.any (·.1 == h') then [] else L := by
    intro l
    induction l with
    | nil => intro L; rfl
    | cons a r ih =>
      intro L
      rw [List.map_cons, replayDocs_cons (specChange_drop a.1), ih]
      by_cases e : h' = a.1
      · simp [changeDocs, e]
      · have : (a.1 == h') = false := beq_eq_false_iff_ne.mpr (Ne.symm e)
        simp only [changeDocs, if_neg e, List.any_cons, this, Bool.false_or]
  rw [key, List.any_filter]
  by_cases hp : p h' = true
  · rw [if_pos hp]
    split
    · rfl
    · -- `h'` is not a namespace of the catalog at all
      rename_i hn
      unfold docsOf
      rw [Catalog.get?_none_of_not_mem]
      · rfl
      · exact fun a ha e => hn (List.any_eq_true.mpr ⟨a, ha, by simp [e, hp]⟩)
  · rw [if_neg hp, if_neg]
    rintro hany
    obtain ⟨a, _, ha⟩ := List.any_eq_true.mp hany
    simp only [Bool.and_eq_true, beq_iff_eq] at ha
    exact hp (ha.2 ▸ ha.1)

theorem Txn.drop_adv {t t' : Txn} {h : Handle} {nu nu' : Nu} (hr : t.drop h nu = .ok (t', nu')) : TAdv t t' := by
  rcases Txn.drop_ok hr with ⟨rfl, _⟩ | ⟨hno, hdb, _, rfl⟩
  · exact .inl rfl
  refine .inr ⟨rfl, _, (Ext.filter t.catalog _ ?_).trans (Ext.appendEvs (dropKeep t.catalog h, nu) _), fun h' hne => ?_⟩
  · rintro ⟨ns, c⟩ rfl
    simp only [dropHit_oplog hno hdb, Bool.not_false]
  · rw [docsOf_appendEvs _ _ _ hne, docsOf_dropKeep, List.nil_append]
    change _ = replayDocs (dropSpecs t.catalog h) h' _
    rw [dropSpecs, replayDocs_append, replayDocs_drops t.catalog (dropHit h)]
    -- the `dropDatabase` event changes nothing any more
    by_cases hcoll : (h.coll == "") = true
    · rw [if_pos hcoll, replayDocs_cons (specChange_dropDatabase h)]
      simp only [replayDocs, List.filterMap_nil, List.foldl_nil, changeDocs]
      by_cases hhit : dropHit h h' = true
      · simp [hhit]
      · have : h'.db ≠ h.db := fun e => hhit (by simp [dropHit, hcoll, e])
        simp [hhit, this]
    · rw [if_neg hcoll]
      rfl

/-- the coherence facts used: in every namespace but the oplog, document identities are pairwise
    distinct and `_id`s are pairwise (structurally) distinct -/
def CatOK (cat : Catalog) : Prop :=
  ∀ h, h ≠ oplogHandle → DocIdsDistinct (ensureNs cat h) ∧ KeysDistinct (ensureNs cat h)

theorem deleteOp_catOK {sch : SchemaEval} {cat cat' : Catalog} {h : Handle} {q : Doc} {sort : Option Doc}
    {skip limit : Int} {nu nu' : Nu} {res : TResult} (hok : CatOK cat)
    (hr : deleteOp sch cat h q sort skip limit nu = .ok (cat', res, nu')) : CatOK cat' := by
  obtain ⟨coll, list, hdel, _, rfl, _⟩ := deleteOp_ok hr
  obtain ⟨_, hdocs⟩ := Coll.delete_shape hdel
  intro h' hne
  unfold ensureNs
  rw [write_get? _ _ _ _ _ _ hne]
  split
  · rename_i e
    subst e
    obtain ⟨h1, h2⟩ := hok h' hne
    unfold DocIdsDistinct KeysDistinct at *
    rw [Option.getD_some, hdocs]
    exact ⟨h1.sublist List.filter_sublist, h2.sublist List.filter_sublist⟩
  · exact hok h' hne

theorem expire_go_adv (sch : SchemaEval) (nowMs : Int) (l : List (Handle × Coll))
    (hl : ∀ hc ∈ l, hc.1 = oplogHandle → ttlIndexes hc.2 = []) :
    ∀ (cat : Catalog) (nu : Nu) (deleted : Nat) (cat' : Catalog) (nu' : Nu) (deleted' : Nat), CatOK cat →
      Txn.expire.go sch nowMs cat nu deleted l = .ok (cat', nu', deleted') → ∃ es, Adv cat cat' es := by
  induction l with
  | nil =>
    intro cat nu deleted cat' nu' deleted' _ hr
    simp only [Txn.expire.go, Except.ok.injEq, Prod.mk.injEq] at hr
    exact ⟨[], hr.1 ▸ Adv.refl cat⟩
  | cons hc r ih =>
    intro cat nu deleted cat' nu' deleted' hok hr
    obtain ⟨h, c⟩ := hc
    have ih' := ih (fun x hx => hl x (List.mem_cons_of_mem _ hx))
    rw [expire_go_cons] at hr
    split at hr
    · exact ih' _ _ _ _ _ _ hok hr
    · rename_i hempty
      have hno : h ≠ oplogHandle := fun e => hempty (by rw [hl (h, c) (List.mem_cons_self ..) e]; rfl)
      split at hr
      · cases hr
      · rename_i cat1 res nu1 hdel
        obtain ⟨es1, he1⟩ := deleteOp_adv hno (hok h hno).1 (hok h hno).2 hdel
        obtain ⟨es, he⟩ := ih' _ _ _ _ _ _ (deleteOp_catOK hok hdel) hr
        exact ⟨_, he1.trans he⟩

theorem Txn.expire_adv {sch : SchemaEval} {t t' : Txn} {nowMs : Int} {nu nu' : Nu} {n : Nat}
    (hp : OplogPlain t.catalog) (hok : CatOK t.catalog) (hr : t.expire sch nowMs nu = .ok (t', n, nu')) : TAdv t t' := by
  obtain ⟨cat, hgo, rfl⟩ := Txn.expire_ok hr
  split
  · exact .inr ⟨rfl, expire_go_adv sch nowMs _ hp _ _ _ _ _ _ hok hgo⟩
  · exact .inl rfl

/-- the calls for which `oplog_faithful` is proved (all reads, inserts, deletes, drops, index and
    collection management, expiry); NOT covered: update*, replaceOne, findOneAndReplace/Update, bulkWrite -/
def Call.covered : Call → Bool
  | .updateOne .. | .updateMany .. | .replaceOne .. | .findOneAndReplace .. | .findOneAndUpdate .. | .bulkWrite .. => false
  | _ => true

/-- the transaction methods behind the covered calls -/
def TxnCall.covered : TxnCall → Bool
  | .update .. | .replace .. | .bulk .. => false
  | _ => true

theorem Call.covered_txnCall (c : Call) : c.txnCall.covered = c.covered := by
  cases c <;> rfl

/-- a covered method, run on a transaction over a coherent catalog and ending in a coherent one,
    returns the transaction itself or a dirty one whose new events replay faithfully -/
theorem TxnCall.Runs.adv {sch : SchemaEval} {t0 t : Txn} {nu nu' : Nu} {m : TxnCall} (h : m.Runs sch t0 nu t nu')
    (hcov : m.covered = true) (hp : OplogPlain t0.catalog) (hok : CatOK t0.catalog) (hok' : CatOK t.catalog) :
    TAdv t0 t := by
  cases h with
  | none => exact .inl rfl
  | create e => exact (Txn.create_ok (ac := acOf sch) e).adv
  | insert e => exact Txn.insert_adv e fun hno => (hok' _ hno).2
  | delete e => exact Txn.delete_adv (hok _) e
  | createIndex e => exact (Txn.createIndex_ok (ac := acOf sch) e).adv
  | dropIndex e => exact (Txn.dropIndex_ok (ac := acOf sch) e).adv
  | dropIndexByKey e => exact (Txn.dropIndexByKey_ok (ac := acOf sch) e).adv
  | drop e => exact Txn.drop_adv e
  | expire e => exact Txn.expire_adv hp hok e
  | bulk | replace | update => cases hcov

theorem runCall_adv (sch : SchemaEval) (t0 t : Txn) (nu nu' : Nu) (c : Call) (r : Reply)
    (hcov : c.covered = true) (hp : OplogPlain t0.catalog) (hok : CatOK t0.catalog) (hok' : CatOK t.catalog)
    (hr : runCall sch t0 nu c = .ok (t, nu', r)) : TAdv t0 t :=
  (runCall_runs hr).adv (c.covered_txnCall ▸ hcov) hp hok hok'

theorem Sys.step_adv (sch : SchemaEval) (s s' : Sys) (c : Call) (oids : List V) (r : Reply)
    (hcov : c.covered = true) (hp : OplogPlain s.catalog) (hok : CatOK s.catalog) (hok' : CatOK s'.catalog)
    (hr : Sys.step sch s c oids = .ok (s', r)) : ∃ es, Adv s.catalog s'.catalog es := by
  obtain ⟨t, nu, hrun, rfl⟩ := Sys.step_ok hr
  cases hd : t.dirty
  · exact ⟨[], Sys.commit_clean s t nu hd ▸ Adv.refl _⟩
  · rw [Sys.commit_dirty s t nu hd] at hok' ⊢
    rcases runCall_adv sch _ t _ nu c r hcov hp hok hok' hrun with rfl | ⟨_, he⟩
    · exact ⟨[], Adv.refl _⟩
    · exact he

end Lungo
