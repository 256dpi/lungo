/-
  Lungo.Proofs.AtomicSearch — soundness of the counterexample search `AtomicSearch.search`:
  what it returns is a reachable post-crash state of the interpreter on the GIVEN step list that
  violates the stated clause.
-/
import Lungo.Model.AtomicSearch
namespace Lungo.AtomicSearch
open Lungo.FS Lungo.AtomicWrite

/-- `imgDescs` describes exactly the enumeration `crashImages` -/
theorem images_eq (m : M) : (imgDescs m).map (imageOf m) = crashImages m := by
  unfold imgDescs crashImages
  cases h : m.tmpH with
  | none =>
    simp only [List.map_flatMap, List.map_cons, List.map_nil]
    congr 1
    funext mk
    simp only [imageOf, garbage, h]
  | some i =>
    simp only [List.map_flatMap, List.map_cons, List.map_nil]
    congr 1
    funext mk
    congr 1
    funext a
    simp only [imageOf, garbage, h, if_true, Bool.false_eq_true, if_false]

theorem imageOf_mem (m : M) (d : ImgDesc) (h : d ∈ imgDescs m) : imageOf m d ∈ crashImages m := by
  rw [← images_eq]
  exact List.mem_map_of_mem h

/-- the run a counterexample refers to -/
def CE.run (P : Params) (ce : CE) : M × Bool :=
  interpUpTo P.steps P.path P.tmp P.chunks (faultsOf ce.fault) ce.k P.s0

/-- the post-crash state of a counterexample is reachable: the process-kill image, or a member of `crashImages`
    (the one described by `ce.img`) of the machine after the first `ce.k` calls under the fault plan `ce.fault` -/
def CE.Reachable (P : Params) (ce : CE) : Prop :=
  match ce.img with
  | none => ce.st = kill (ce.run P).1.fs
  | some d => ce.st = crashImage (ce.run P).1.fs d.mask (garbage (ce.run P).1 d) ∧ ce.st ∈ crashImages (ce.run P).1

theorem CE.Reachable.of_none {P : Params} {ce : CE} (h : ce.Reachable P) (hi : ce.img = none) :
    ce.st = kill (ce.run P).1.fs := by
  unfold CE.Reachable at h
  rw [hi] at h
  exact h

theorem CE.Reachable.of_some {P : Params} {ce : CE} (h : ce.Reachable P) {d : ImgDesc} (hi : ce.img = some d) :
    ce.st = crashImage (ce.run P).1.fs d.mask (garbage (ce.run P).1 d) ∧ ce.st ∈ crashImages (ce.run P).1 := by
  unfold CE.Reachable at h
  rw [hi] at h
  exact h

/-- what a counterexample of each kind claims about its post-crash state -/
def CE.Violates (P : Params) (ce : CE) : Prop :=
  match ce.kind with
  | .notOldOrNew => load ce.st P.path ≠ P.old ∧ load ce.st P.path ≠ some P.new
  | .ackedLost => (ce.run P).2 = true ∧ (ce.run P).1.err = false ∧ load ce.st P.path ≠ some P.new
  | .failedChanged =>
      (ce.run P).2 = true ∧ (ce.run P).1.err = true ∧ ce.img = none ∧ load ce.st P.path ≠ P.old ∧
      ¬ (renamed (traceUpTo P.steps P.path P.tmp P.chunks (faultsOf ce.fault) ce.k P.s0) = true ∧
         load ce.st P.path = some P.new)
  | .rerunFails =>
      (interp P.steps P.path P.tmp P.chunks noFaults ce.st).err = true ∨
      load (interp P.steps P.path P.tmp P.chunks noFaults ce.st).fs P.path ≠ some P.new

theorem acked_iff (r : M × Bool) : (r.2 && !r.1.err) = true ↔ r.2 = true ∧ r.1.err = false := by
  cases r.2 <;> cases r.1.err <;> simp

/-- what `checkImage` reports holds of the state it was given -/
theorem checkImage_sound (P : Params) (rerun acked : Bool) (x : State) (kd : Kind)
    (h : checkImage P rerun acked x = some kd) :
    (kd = .notOldOrNew ∧ load x P.path ≠ P.old ∧ load x P.path ≠ some P.new) ∨
    (kd = .ackedLost ∧ acked = true ∧ load x P.path ≠ some P.new) ∨
    (kd = .rerunFails ∧ ((interp P.steps P.path P.tmp P.chunks noFaults x).err = true ∨
      load (interp P.steps P.path P.tmp P.chunks noFaults x).fs P.path ≠ some P.new)) := by
  unfold checkImage at h
  split at h
  · split at h
    · next h1 => cases h; exact .inl ⟨rfl, h1⟩
    · split at h
      · next h2 => cases h; exact .inr (.inl ⟨rfl, h2⟩)
      · cases h
  · simp only at h
    split at h
    · next h3 => cases h; exact .inr (.inr ⟨rfl, h3⟩)
    · cases h

theorem checkFailed_sound (P : Params) (r : M × Bool) (ren : Bool) (kd : Kind) (h : checkFailed P r ren = some kd) :
    kd = .failedChanged ∧ r.2 = true ∧ r.1.err = true ∧ load r.1.fs P.path ≠ P.old ∧
      ¬ (ren = true ∧ load r.1.fs P.path = some P.new) := by
  unfold checkFailed at h
  split at h
  · next h1 => cases h; exact ⟨rfl, h1⟩
  · cases h

/-- a kind reported by `checkImage` for the state `x` of a counterexample is violated there -/
theorem checkImage_violates (P : Params) (rerun : Bool) (ft : FaultAt) (k : Nat) (img : Option ImgDesc) (x : State)
    (kd : Kind)
    (h : checkImage P rerun
      ((interpUpTo P.steps P.path P.tmp P.chunks (faultsOf ft) k P.s0).2 &&
        !(interpUpTo P.steps P.path P.tmp P.chunks (faultsOf ft) k P.s0).1.err) x = some kd) :
    CE.Violates P ⟨kd, ft, k, img, x⟩ := by
  rcases checkImage_sound P rerun _ x kd h with ⟨rfl, h1⟩ | ⟨rfl, h1, h2⟩ | ⟨rfl, h1⟩
  · exact h1
  · exact ⟨((acked_iff _).1 h1).1, ((acked_iff _).1 h1).2, h2⟩
  · exact h1

theorem checkState_sound (P : Params) (rerun : Bool) (ft : FaultAt) (k : Nat) (ce : CE)
    (h : checkState P rerun ft k = some ce) : ce.fault = ft ∧ ce.k = k ∧ ce.Reachable P ∧ ce.Violates P := by
  unfold checkState at h
  extract_lets r acked at h
  split at h
  · -- the kill image
    next kd hk => cases h; exact ⟨rfl, rfl, rfl, checkImage_violates P rerun ft k none _ kd hk⟩
  · split at h
    · -- the failed run
      next kd hk =>
      cases h
      split at hk
      · obtain ⟨rfl, h1, h2, h3⟩ := checkFailed_sound P r _ kd hk
        exact ⟨rfl, rfl, rfl, h1, h2, rfl, h3⟩
      · cases hk
    · -- a power-loss image
      obtain ⟨d, hd, hm⟩ := List.exists_of_findSome?_eq_some h
      obtain ⟨kd, hc, rfl⟩ := Option.map_eq_some_iff.mp hm
      exact ⟨rfl, rfl, ⟨rfl, imageOf_mem r.1 d hd⟩, checkImage_violates P rerun ft k (some d) _ kd hc⟩

theorem searchPass_sound (P : Params) (rerun : Bool) (ce : CE) (h : searchPass P rerun = some ce) :
    ce.Reachable P ∧ ce.Violates P := by
  unfold searchPass at h
  obtain ⟨ft, _, h⟩ := List.exists_of_findSome?_eq_some h
  obtain ⟨k, _, h⟩ := List.exists_of_findSome?_eq_some h
  exact (checkState_sound P rerun ft k ce h).2.2

theorem search_sound (P : Params) (ce : CE) (h : search P = some ce) : ce.Reachable P ∧ ce.Violates P := by
  unfold search at h
  split at h
  · rename_i ce' h1; cases h; exact searchPass_sound P false _ h1
  · exact searchPass_sound P true ce h

/-- a reachable power-loss image is a `Crash` outcome -/
theorem CE.Reachable.crash {P : Params} {ce : CE} (h : ce.Reachable P) :
    ce.st = kill (ce.run P).1.fs ∨ Crash (ce.run P).1.fs ce.st := by
  unfold CE.Reachable at h
  split at h
  · exact Or.inl h
  · exact Or.inr (crashImages_sound _ _ h.2)

end Lungo.AtomicSearch
