/-
  Lungo.Proofs.IndexMgmt — C15's explicit clauses: an index equals its rebuild, creating an
  existing index is a no-op, `Index.list` lists every document once and in key order.
-/
import Lungo.Proofs.IndexCat
namespace Lungo

variable {sch : SchemaEval}

/-- a coherent index has the same entries as the index rebuilt from scratch over the same
    documents (whenever that rebuild goes through), and the rebuilt one is coherent too -/
theorem coherent_rebuild {c : Coll} {n : String} {i j : Index} (hc : Coherent sch c)
    (hm : (n, i) ∈ c.indexes) (h : rebuild sch i c.docs = .ok (j, true)) :
    sameEntries i j ∧ IndexCoherent sch (· ∈ c.docs) j ∧ j.config = i.config ∧ j.columns = i.columns := by
  unfold rebuild at h
  split at h
  · cases h
  · rename_i i0 h0
    have hi := hc.2 n i hm
    have hf : foldIdx (fun idx sd => addToIndexes sch sd idx) [(n, i0)] c.docs = .ok [(n, j)] := by
      rw [build_eq_fold, h]
    have hj : IndexCoherent sch (· ∈ c.docs) j :=
      (foldIdx_add_coherent (newIndex_coherent h0 n) hf n j (List.mem_singleton_self _)).congr (fun x => by simp)
    have hcfg : j.config = i.config := (by obtain ⟨_, hi, hcfg⟩ := fold_add_singleton hf; cases hi; exact hcfg : j.config = i0.config).trans (newIndex_config h0)
    have hcol : j.columns = i.columns := columns_of_config hi hj hcfg
    refine ⟨⟨?_, ?_⟩, hj, hcfg, hcol⟩
    · intro k id hk
      obtain ⟨x, hx, hid, hb, hkx⟩ := hi.sound k id hk
      subst hid
      rw [← hcol] at hkx
      exact hj.complete x hx ((belongs_config hcfg x.doc).mpr hb) k hkx
    · intro k id hk
      obtain ⟨x, hx, hid, hb, hkx⟩ := hj.sound k id hk
      subst hid
      rw [hcol] at hkx
      exact hi.complete x hx ((belongs_config hcfg x.doc).mp hb) k hkx

theorem lookup_mem {α} : ∀ {l : List (String × α)} {k : String} {v : α}, l.lookup k = some v → (k, v) ∈ l
  | [], _, _, h => by cases h
  | (k', v') :: r, k, v, h => by
    rw [List.lookup_cons] at h
    split at h
    · rename_i he
      simp only [beq_iff_eq] at he
      simp only [Option.some.injEq] at h
      subst he h; simp
    · exact List.mem_cons_of_mem _ (lookup_mem h)

/-- CreateIndex with a name that exists with an `Equal` configuration returns the collection
    unchanged (`nm` is the given name, or the generated one when the name is empty) -/
theorem create_same_is_noop {c : Coll} {name nm : String} {config : IndexConfig} {i : Index}
    (hn : (if name == "" then config.name else .ok name) = .ok nm)
    (hl : c.indexes.lookup nm = some i) (he : config.equal i.config = true) :
    c.createIndex sch name config = .ok (c, nm) := by
  simp only [createIndex_eq, hn, Res.ok_bind, lookup_shape, hl, Option.map_some, Option.any_some, he, ↓reduceIte]

theorem mem_dedupIds {y : Nat} : ∀ {l : List Nat}, y ∈ dedupIds l ↔ y ∈ l
  | [] => by simp [dedupIds]
  | x :: r => by
    rw [dedupIds, List.mem_cons, List.mem_cons, List.mem_filter, mem_dedupIds (l := r)]
    by_cases h : y = x
    · simp [h]
    · simp [h]

theorem nodup_dedupIds : ∀ l : List Nat, (dedupIds l).Nodup
  | [] => by simp [dedupIds]
  | x :: r => by
    rw [dedupIds, List.nodup_cons]
    refine ⟨?_, (List.filter_sublist).nodup (nodup_dedupIds r)⟩
    intro h
    have := (List.mem_filter.mp h).2
    simp at this

theorem mem_index_list {i : Index} {id : Nat} : id ∈ i.list ↔ ∃ k, (k, id) ∈ i.entries := by
  unfold Index.list
  rw [mem_dedupIds, List.mem_map]
  constructor
  · rintro ⟨⟨k, d⟩, hm, rfl⟩
    exact ⟨k, (List.mergeSort_perm _ _).mem_iff.mp hm⟩
  · rintro ⟨k, hm⟩
    exact ⟨(k, id), (List.mergeSort_perm _ _).mem_iff.mpr hm, rfl⟩

theorem keyLe_cons (col : Column) (cs : List Column) (x y : V) (r s : List V) :
    keyLe (col :: cs) (x :: r) (y :: s) =
      match dirOrd col.reverse (V.cmp x y) with
      | .lt => true
      | .gt => false
      | .eq => keyLe cs r s := by
  rw [keyLe]; rfl

theorem keyLe_refl : ∀ (cols : List Column) (k : List V), keyLe cols k k = true
  | [], _ => by simp [keyLe]
  | _ :: _, [] => by simp [keyLe]
  | col :: cs, x :: r => by
    rw [keyLe_cons, V.cmp_refl]
    have : dirOrd col.reverse .eq = .eq := by unfold dirOrd; split <;> rfl
    rw [this]; exact keyLe_refl cs r

theorem keyLe_trans : ∀ (cols : List Column) (a b c : List V), TupOk a → TupOk b → TupOk c →
    a.length = cols.length → b.length = cols.length → c.length = cols.length →
    keyLe cols a b = true → keyLe cols b c = true → keyLe cols a c = true
  | [], _, _, _, _, _, _, _, _, _, _, _ => by simp [keyLe]
  | _ :: _, [], _, _, _, _, _, h, _, _, _, _ => by simp at h
  | _ :: _, _ :: _, [], _, _, _, _, _, h, _, _, _ => by simp at h
  | _ :: _, _ :: _, _ :: _, [], _, _, _, _, _, h, _, _ => by simp at h
  | col :: cs, x :: r, y :: s, z :: u, oa, ob, oc, la, lb, lc, h1, h2 => by
    obtain ⟨ox, oa⟩ := TupOk.cons.mp oa
    obtain ⟨oy, ob⟩ := TupOk.cons.mp ob
    obtain ⟨oz, oc⟩ := TupOk.cons.mp oc
    have L := Laws.dir col.reverse (V.cmp_at x y z ox oy oz) (V.cmp_at z y x oz oy ox) (V.cmp_swap x z)
    rw [keyLe_cons] at h1 h2 ⊢
    have ih := keyLe_trans cs r s u oa ob oc (Nat.succ.inj la) (Nat.succ.inj lb) (Nat.succ.inj lc)
    cases hab : dirOrd col.reverse (V.cmp x y) with
    | gt => rw [hab] at h1; cases h1
    | lt =>
      cases hbd : dirOrd col.reverse (V.cmp y z) with
      | gt => rw [hbd] at h2; cases h2
      | lt => rw [L.lt_trans hab hbd]
      | eq => rw [← L.congr_r hbd, hab]
    | eq =>
      rw [hab] at h1
      rw [L.congr_l hab]
      cases hbd : dirOrd col.reverse (V.cmp y z) with
      | gt => rw [hbd] at h2; cases h2
      | lt => rfl
      | eq => rw [hbd] at h2; exact ih h1 h2

theorem keyLe_total : ∀ (cols : List Column) (a b : List V),
    (keyLe cols a b || keyLe cols b a) = true
  | [], _, _ => by simp [keyLe]
  | _ :: _, [], _ => by simp [keyLe]
  | _ :: _, _ :: _, [] => by simp [keyLe]
  | col :: cs, x :: r, y :: s => by
    rw [keyLe_cons, keyLe_cons, V.cmp_swap x y]
    have ih := keyLe_total cs r s
    cases V.cmp x y <;> cases col.reverse <;> simp [dirOrd, Ordering.swap, ih]

/-- the entries in the order of the btree scan -/
def Index.scan (i : Index) : List (List V × Nat) :=
  i.entries.mergeSort fun a b => keyLe i.columns a.1 b.1

/-- keep the first entry of every document -/
def firstsBy : List (List V × Nat) → List (List V × Nat)
  | [] => []
  | e :: r => e :: (firstsBy r).filter (·.2 != e.2)

theorem firstsBy_ids : ∀ l : List (List V × Nat), (firstsBy l).map (·.2) = dedupIds (l.map (·.2))
  | [] => rfl
  | e :: r => by
    rw [firstsBy, List.map_cons, List.map_cons, dedupIds, ← firstsBy_ids r, List.filter_map]
    rfl

theorem firstsBy_sublist : ∀ l : List (List V × Nat), (firstsBy l).Sublist l
  | [] => .slnil
  | e :: r => by
    rw [firstsBy]
    exact (List.filter_sublist.trans (firstsBy_sublist r)).cons_cons e

theorem firstsBy_min {le : List V → List V → Bool} (hrefl : ∀ k, le k k = true) :
    ∀ l : List (List V × Nat), l.Pairwise (fun a b => le a.1 b.1 = true) →
      ∀ k id, (k, id) ∈ firstsBy l → ∀ k', (k', id) ∈ l → le k k' = true
  | [], _, _, _, hm, _, _ => by simp [firstsBy] at hm
  | e :: r, hp, k, id, hm, k', hm' => by
    rw [List.pairwise_cons] at hp
    rw [firstsBy, List.mem_cons] at hm
    rcases hm with rfl | hm
    · rcases List.mem_cons.mp hm' with h | h
      · cases h; exact hrefl k
      · exact hp.1 _ h
    · obtain ⟨h1, h2⟩ := List.mem_filter.mp hm
      have hne : id ≠ e.2 := by simpa using h2
      rcases List.mem_cons.mp hm' with h | h
      · subst h; exact absurd rfl hne
      · exact firstsBy_min hrefl r hp.2 k id h1 k' h

theorem scan_sorted {c : Coll} {n : String} {i : Index} (hc : Coherent sch c)
    (hm : (n, i) ∈ c.indexes) (hok : DocsOk c.docs) :
    i.scan.Pairwise (fun a b => keyLe i.columns a.1 b.1 = true) := by
  have hi := hc.2 n i hm
  have hP : ∀ e ∈ i.entries, TupOk e.1 ∧ e.1.length = i.columns.length := by
    intro ⟨k, id⟩ he
    obtain ⟨x, hx, _, _, hk⟩ := hi.sound k id he
    exact ⟨tuples_ok _ _ (hok x hx) k hk, tuples_length _ _ k hk⟩
  exact pairwise_mergeSort_on (P := fun e : List V × Nat => TupOk e.1 ∧ e.1.length = i.columns.length)
    (le := fun a b => keyLe i.columns a.1 b.1)
    (fun a b c pa pb pc h1 h2 => keyLe_trans _ _ _ _ pa.1 pb.1 pc.1 pa.2 pb.2 pc.2 h1 h2)
    (fun a b _ _ => keyLe_total _ _ _) i.entries hP

/-- `Index.List()` is in key order: it is the identity projection of a sub-list `ks` of the entries
    that is ascending by key, holds each listed document under its SMALLEST key, and lists every
    document once -/
theorem index_list_sorted {c : Coll} {n : String} {i : Index} (hc : Coherent sch c)
    (hm : (n, i) ∈ c.indexes) (hok : DocsOk c.docs) :
    ∃ ks : List (List V × Nat), ks.map (·.2) = i.list ∧ (∀ e ∈ ks, e ∈ i.entries) ∧
      ks.Pairwise (fun a b => keyLe i.columns a.1 b.1 = true) ∧
      ∀ k id, (k, id) ∈ ks → ∀ k', (k', id) ∈ i.entries → keyLe i.columns k k' = true := by
  have hs := scan_sorted hc hm hok
  refine ⟨firstsBy i.scan, firstsBy_ids _, ?_, List.Pairwise.sublist (firstsBy_sublist _) hs, ?_⟩
  · intro e he
    exact (List.mergeSort_perm _ _).mem_iff.mp ((firstsBy_sublist _).subset he)
  · intro k id hk k' hk'
    exact firstsBy_min (le := keyLe i.columns) (keyLe_refl _) _ hs k id hk k'
      ((List.mergeSort_perm _ _).mem_iff.mpr hk')

end Lungo
