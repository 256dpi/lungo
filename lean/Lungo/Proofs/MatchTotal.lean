/-
  Lungo.Proofs.MatchTotal — on well-formed filters (`Spec.parseFilter q = some f`) the matcher
  returns a truth value for EVERY document (no domain restriction on documents or paths).
  For conditions, operator documents, field values and documents of field conditions this is `cond_eval`,
  `conds_eval`, `fieldValue_eval`, `fieldConds_eval` (every document, path and prefix); here the entries and filters.
-/
import Lungo.Proofs.SpecAgreeRec
namespace Lungo
open Lungo.Spec

/-- a matcher result that is a truth value (matched / not matched), not an error -/
def IsTV (r : Res Unit) : Prop := ∃ b, r = toRes b

theorem isTV_toRes (b : Bool) : IsTV (toRes b) := ⟨b, rfl⟩
theorem isTV_ok : IsTV (.ok ()) := ⟨true, rfl⟩
theorem isTV_nm : IsTV (.error .notMatched) := ⟨false, rfl⟩
theorem isTV_negate {r : Res Unit} (h : IsTV r) : IsTV (negate r) := by
  obtain ⟨b, rfl⟩ := h; exact ⟨!b, negate_toRes b⟩

theorem elemLoop_tv (f : V → Res Unit) (xs : List V) (h : ∀ x ∈ xs, IsTV (f x)) : IsTV (elemLoop f xs) := by
  induction xs with
  | nil => exact isTV_nm
  | cons x r ih =>
    obtain ⟨b, hb⟩ := h x List.mem_cons_self
    rw [elemLoop, hb]
    cases b
    · exact ih fun y hy => h y (List.mem_cons_of_mem _ hy)
    · exact isTV_ok

/-- the `$jsonSchema` evaluator never fails -/
def SchTotal (sch : SchemaEval) : Prop := ∀ s d, IsTV (sch s d)

theorem top_tv (sch : SchemaEval) (hs : SchTotal sch) :
    (∀ (v : V) (k : String) (e : Entry), parseEntry k v = some e →
      ∀ d : Doc, IsTV (mExpr sch d "" k v true)) ∧
    (∀ (q : List (String × V)) (es : List Entry), parseEntries q = some es →
      ∀ d : Doc, IsTV (mProcess sch d q "" true)) ∧
    ∀ (items : List V) (fs : List Filter), parseFilters items = some fs →
      ∀ d : Doc, IsTV (mAndLoop sch d items) ∧ IsTV (mOrLoop sch d items) := by
  refine top_induct (fun v ih k e hp d => ?_) (fun q ih => ?_) (fun items ih => ?_)
  · rcases parseEntry_cases hp with ⟨x, xs, fs, rfl, hfs, h⟩ | ⟨s, rfl, rfl, rfl⟩ | ⟨cs, hop, hcs, rfl⟩
    · have ih := ih _ rfl fs hfs d
      rcases h with ⟨rfl, _⟩ | ⟨rfl, _⟩ | ⟨rfl, _⟩
      · rw [mExpr_and]; exact ih.1
      · rw [mExpr_or]; exact ih.2
      · rw [mExpr_nor]; exact isTV_negate ih.2
    · rw [mExpr_schema]; exact hs s d
    · rw [mExpr_field sch d "" k v true hop, fieldValue_eval sch v cs hcs]
      exact isTV_toRes _
  · induction q with
    | nil => intro _ _ d; rw [mProcess]; exact isTV_ok
    | cons kv r ihr =>
      intro es hp d
      obtain ⟨e, es', hpe, hpr, _⟩ := parseEntries_cons hp
      obtain ⟨b, hb⟩ := ih kv (List.mem_cons_self ..) kv.1 e hpe d
      rw [mProcess, hb]
      cases b
      · exact isTV_nm
      · exact ihr (fun x hx => ih x (List.mem_cons_of_mem _ hx)) es' hpr d
  · induction items with
    | nil => intro _ _ d; rw [mAndLoop, mOrLoop]; exact ⟨isTV_ok, isTV_nm⟩
    | cons x r ihr =>
      intro fs hp d
      obtain ⟨q, es, fs', rfl, hpq, hpr, _⟩ := parseFilters_cons hp
      obtain ⟨b, hb⟩ := ih _ (List.mem_cons_self ..) q rfl es hpq d
      obtain ⟨ha, ho⟩ := ihr (fun y hy => ih y (List.mem_cons_of_mem _ hy)) fs' hpr d
      rw [mAndLoop, mOrLoop, hb]
      cases b
      · exact ⟨isTV_nm, ho⟩
      · exact ⟨ha, isTV_ok⟩

theorem entries_tv (sch : SchemaEval) (hs : SchTotal sch) (q : List (String × V)) (es : List Entry)
    (hp : parseEntries q = some es) (d : Doc) : IsTV (mProcess sch d q "" true) :=
  (top_tv sch hs).2.1 q es hp d

end Lungo
