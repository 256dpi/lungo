/-
  Download-side simulation: DownloadStream over a well-formed chunk list vs. Spec.Reader.
-/
import Lungo.Proofs.GridFSChunks
import Lungo.Spec.Reader
namespace Lungo.GridFS
open Lungo.Spec

def flatData (l : List ChunkDoc) : Bytes := (l.map (·.data)).flatten

/-- the documents left in the cursor are the expected ones: numbered consecutively from `k`,
    non-empty, and full unless last (`total` = number of chunks of the file) -/
def ValidFrom (total c : Nat) : Nat → List ChunkDoc → Prop
  | _, [] => True
  | k, d :: ds => d.n = k ∧ 0 < d.data.length ∧ (k + 1 < total → d.data.length = c) ∧ ValidFrom total c (k + 1) ds

/-- a positioned stream whose buffer and cursor still hold exactly `rem` -/
structure Live (c : Nat) (s : DownloadStream) (rem : Bytes) : Prop where
  cs : s.file.chunkSize = c
  ex : ∃ k rest, s.chunk = some k ∧ s.cursor = some rest ∧ ValidFrom s.chunks c (k + 1) rest ∧
        s.buffer ++ flatData rest = rem

/-- what no operation of the reader changes -/
structure Frame (s s' : DownloadStream) : Prop where
  file : s'.file = s.file
  chunks : s'.chunks = s.chunks
  closed : s'.closed = s.closed

theorem Frame.refl (s : DownloadStream) : Frame s s := ⟨rfl, rfl, rfl⟩

theorem Frame.trans {s s' s'' : DownloadStream} (h : Frame s s') (h' : Frame s' s'') : Frame s s'' :=
  ⟨h'.file.trans h.file, h'.chunks.trans h.chunks, h'.closed.trans h.closed⟩

theorem flatData_mkDocs (id : Nat) : ∀ (D : List Bytes) (k : Nat), flatData (mkDocs id k D) = D.flatten
  | [], _ => rfl
  | a :: D, k => congrArg (a ++ ·) (flatData_mkDocs id D (k + 1))

theorem ValidFrom.drop {total c : Nat} : ∀ (j : Nat) {k : Nat} {l : List ChunkDoc}, ValidFrom total c k l →
    ValidFrom total c (k + j) (l.drop j)
  | 0, _, _, h => h
  | _ + 1, _, [], _ => trivial
  | j + 1, k, _ :: l, h => by
    rw [List.drop_succ_cons, ← Nat.add_assoc, Nat.add_right_comm]
    exact ValidFrom.drop j h.2.2.2

/-- the stored documents of a file are valid from any chunk number on -/
theorem validFrom_chunks {c : Nat} (hc : 0 < c) (id : Nat) (l : Bytes) :
    ∀ k, ValidFrom (k + (chunksOf c l).length) c k (mkDocs id k (chunksOf c l)) := by
  induction l using drop_induction hc with
  | nil => exact fun _ => trivial
  | step l hl ih =>
    intro k
    have hpos := List.length_pos_iff.mpr hl
    rw [chunksOf_of_ne_nil hc hl, mkDocs, List.length_cons, ← Nat.add_assoc, Nat.add_right_comm]
    refine ⟨rfl, by rw [List.length_take]; omega, fun hk => ?_, ih (k + 1)⟩
    -- another chunk follows, so more than `c` bytes were left
    have hne : l.drop c ≠ [] := fun e => by rw [e] at hk; exact Nat.lt_irrefl _ hk
    have := List.length_pos_iff.mpr hne
    rw [List.length_drop] at this
    rw [List.length_take]; omega

theorem validFrom_nonempty {total c : Nat} : ∀ {rest : List ChunkDoc} {k : Nat},
    ValidFrom total c k rest → flatData rest = [] → rest = []
  | [], _, _, _ => rfl
  | d :: ds, _, hv, hf => by
    have := congrArg List.length (show d.data ++ flatData ds = [] from hf)
    rw [List.length_append] at this
    exact absurd hv.2.1 (by simp only [List.length_nil] at this; omega)

section
variable {c : Nat} {s : DownloadStream} {rem : Bytes}

theorem Live.buffer_le (h : Live c s rem) : s.buffer.length ≤ rem.length := by
  obtain ⟨_, _, _, _, _, hb⟩ := h.ex
  rw [← hb, List.length_append]; exact Nat.le_add_right _ _

/-- the copy step of Read hands out the next `k` bytes -/
theorem Live.take (h : Live c s rem) {k : Nat} (hk : k ≤ s.buffer.length) :
    Live c (s.take k) (rem.drop k) ∧ s.buffer.take k = rem.take k := by
  obtain ⟨j, rest, hch, hcur, hv, hb⟩ := h.ex
  refine ⟨⟨h.cs, j, rest, hch, hcur, hv, ?_⟩, ?_⟩
  · show s.buffer.drop k ++ flatData rest = _
    rw [← hb, List.drop_append_of_le_length hk]
  · rw [← hb, List.take_append_of_le_length hk]

theorem next_eof (h : Live c s []) : s.next = (s, some .eof) := by
  obtain ⟨k, rest, _, hcur, hv, hb⟩ := h.ex
  rw [validFrom_nonempty hv (List.append_eq_nil_iff.mp hb).2] at hcur
  rw [DownloadStream.next, hcur]

/-- with bytes left and an empty buffer, `next` loads the following chunk -/
theorem next_ok (h : Live c s rem) (hb : s.buffer = []) (hrem : rem ≠ []) :
    ∃ s', s.next = (s', none) ∧ Live c s' rem ∧ s'.buffer ≠ [] ∧ s'.cursorLen + 1 = s.cursorLen ∧
      s'.position = s.position ∧ Frame s s' := by
  obtain ⟨k, rest, hch, hcur, hv, hbr⟩ := h.ex
  rw [hb, List.nil_append] at hbr
  cases rest with
  | nil => exact absurd hbr.symm hrem
  | cons d ds =>
    obtain ⟨hn, hpos, hsz, hv'⟩ := hv
    simp only [DownloadStream.next, hcur, hch]
    rw [if_neg (not_not_intro hn), if_neg fun ⟨h1, h2⟩ => h2 (h.cs ▸ hsz (hn ▸ h1))]
    refine ⟨_, rfl, ⟨h.cs, d.n, ds, rfl, rfl, hn ▸ hv', hbr⟩, List.ne_nil_of_length_pos hpos, ?_, rfl, ⟨rfl, rfl, rfl⟩⟩
    simp only [DownloadStream.cursorLen, hcur, List.length_cons]

/-- the fetch at the head of a round of Read: afterwards the buffer is not empty -/
theorem fetch_ok (h : Live c s rem) (hrem : rem ≠ []) :
    ∃ s', (if s.buffer.length = 0 then s.next else (s, none)) = (s', none) ∧ Live c s' rem ∧ s'.buffer ≠ [] ∧
      s'.cursorLen ≤ s.cursorLen ∧ s'.position = s.position ∧ Frame s s' := by
  split
  · rename_i hb
    obtain ⟨s', h1, h2, h3, h4, h5, h6⟩ := next_ok h (List.eq_nil_of_length_eq_zero hb) hrem
    exact ⟨s', h1, h2, h3, by omega, h5, h6⟩
  · rename_i hb
    exact ⟨s, rfl, h, fun e => hb (e ▸ rfl), Nat.le_refl _, rfl, Frame.refl s⟩

theorem add_min_sub {k w L : Nat} (hw : k ≤ w) (hL : k ≤ L) : k + min (w - k) (L - k) = min w L := by
  rw [← Nat.add_min_add_left, Nat.add_sub_cancel' hw, Nat.add_sub_cancel' hL]

/-- the loop of Read on a live stream returns the next `want` bytes (fewer only at the end) -/
theorem readLoop_ok : ∀ (fuel : Nat) (s : DownloadStream) (want read : Nat) (rem : Bytes),
    Live c s rem → want + s.cursorLen < fuel → (read = 0 → rem ≠ []) →
    ∃ s', readLoop fuel s want read = (s', rem.take want, none) ∧ Live c s' (rem.drop want) ∧
      s'.position = s.position + min want rem.length ∧ Frame s s'
  | 0, _, _, _, _, _, h, _ => absurd h (Nat.not_lt_zero _)
  | fuel + 1, s, want, read, rem, hl, hf, hr => by
    rw [readLoop]
    split
    · rename_i hw
      subst hw
      exact ⟨s, rfl, hl, by rw [Nat.zero_min]; rfl, Frame.refl s⟩
    · by_cases hrem : rem = []
      · -- nothing is left: the buffer is empty too, `next` reports EOF, which Read swallows after a first round
        subst hrem
        have hb : s.buffer.length = 0 := Nat.le_zero.mp hl.buffer_le
        rw [if_pos hb, next_eof hl]
        simp only [if_neg fun h => hr h rfl, List.take_nil, List.drop_nil, List.length_nil, Nat.min_zero]
        exact ⟨s, rfl, hl, rfl, Frame.refl s⟩
      · obtain ⟨s1, hfetch, hl1, hne, hcl, hp1, fr1⟩ := fetch_ok hl hrem
        simp only [hfetch]
        -- `k > 0` bytes are copied in this round
        generalize hk : min want s1.buffer.length = k
        have hkw : k ≤ want := hk ▸ Nat.min_le_left ..
        have hkb : k ≤ s1.buffer.length := hk ▸ Nat.min_le_right ..
        have hk0 : 0 < k := hk ▸ Nat.lt_min.mpr ⟨Nat.pos_of_ne_zero ‹_›, List.length_pos_iff.mpr hne⟩
        clear hk
        obtain ⟨hl2, htake⟩ := hl1.take hkb
        obtain ⟨s2, h2, hl3, hp2, fr2⟩ := readLoop_ok fuel (s1.take k) (want - k) (read + k) (rem.drop k) hl2
          (by show want - k + s1.cursorLen < fuel; omega) fun h => absurd (Nat.eq_zero_of_add_eq_zero_left h)
            (Nat.ne_of_gt hk0)
        rw [h2, htake, ← List.take_add, Nat.add_sub_cancel' hkw]
        rw [List.drop_drop, Nat.add_sub_cancel' hkw] at hl3
        refine ⟨s2, rfl, hl3, ?_, fr1.trans (Frame.trans (s' := s1.take k) ⟨rfl, rfl, rfl⟩ fr2)⟩
        rw [hp2, List.length_drop, ← hp1]
        show s1.position + k + _ = _
        rw [Nat.add_assoc, add_min_sub hkw (Nat.le_trans hkb hl1.buffer_le)]

end

/-- the store holds a well-formed file: the record and the spec chunking -/
structure WF (st : Store) (id c : Nat) (content : Bytes) : Prop where
  hc : 0 < c
  file : st.findFile id = some ⟨id, content.length, c⟩
  chunks : st.chunksOfFile id = mkDocs id 0 (chunksOf c content)

theorem drop_chunkDocs {c : Nat} (hc : 0 < c) (id : Nat) (content : Bytes) {j : Nat} (hj : j * c < content.length) :
    (mkDocs id 0 (chunksOf c content)).drop j =
      ⟨id, j, (content.drop (j * c)).take c⟩ :: mkDocs id (j + 1) (chunksOf c (content.drop (j * c + c))) := by
  have hne : content.drop (j * c) ≠ [] := fun e => Nat.not_le_of_lt hj (List.drop_eq_nil_iff.mp e)
  rw [drop_mkDocs, drop_chunksOf hc, chunksOf_of_ne_nil hc hne, Nat.zero_add, List.drop_drop]
  rfl

theorem take_drop_glue {α : Type} (X : List α) (c o : Nat) (h : o ≤ (X.take c).length) :
    (X.take c).drop o ++ X.drop c = X.drop o := by
  rw [← List.drop_append_of_le_length h, List.take_append_drop]

/-- seek inside the file: the chunk `pos / c` is found, checked and cut at the offset -/
theorem seekTo_lt {st : Store} {id c : Nat} {content : Bytes} (wf : WF st id c content) (s : DownloadStream)
    (hf : s.file = ⟨id, content.length, c⟩) (ht : s.chunks = (chunksOf c content).length)
    {pos : Nat} (hpos : pos < content.length) :
    ∃ s', s.seekTo st pos = (s', none) ∧ Live c s' (content.drop pos) ∧ Frame s s' := by
  have hc := wf.hc
  -- `j = pos / c` and `pos = j·c + o` with `o < c`; division is not needed any further
  obtain ⟨j, o, hj, ho, rfl⟩ : ∃ j o, pos / c = j ∧ o < c ∧ pos = j * c + o :=
    ⟨_, _, rfl, Nat.mod_lt _ hc, by rw [Nat.mul_comm]; exact (Nat.div_add_mod pos c).symm⟩
  have hjc : j * c < content.length := by omega
  have hv := (validFrom_chunks hc id content 0).drop j
  rw [Nat.zero_add, Nat.zero_add, ← ht, drop_chunkDocs hc id content hjc] at hv
  obtain ⟨_, _, hsz, hv'⟩ := hv
  have hlen : ((content.drop (j * c)).take c).length = min c (content.length - j * c) := by
    rw [List.length_take, List.length_drop]
  unfold DownloadStream.seekTo
  simp only [hf, hj, wf.chunks, drop_chunkDocs hc id content hjc, Nat.add_sub_cancel_left]
  rw [if_neg (by omega), if_neg (by simp), if_neg fun ⟨h1, h2⟩ => h2 (hsz h1), if_neg (by omega)]
  refine ⟨_, rfl, ⟨rfl, j, _, rfl, rfl, hv', ?_⟩, ⟨hf.symm, rfl, rfl⟩⟩
  show ((content.drop (j * c)).take c).drop o ++ flatData _ = _
  rw [flatData_mkDocs, flatten_chunksOf hc, ← List.drop_drop, take_drop_glue _ _ _ (by omega), List.drop_drop]

theorem seekTo_ge (st : Store) (s : DownloadStream) (pos : Nat) (hpos : pos ≥ s.file.length) :
    s.seekTo st pos = ({ s with cursor := none, chunk := none, buffer := [] }, none) := by
  unfold DownloadStream.seekTo
  simp only
  rw [if_pos hpos]

theorem seekTo_position (st : Store) (s : DownloadStream) (pos : Nat) :
    (s.seekTo st pos).1.position = s.position := by
  unfold DownloadStream.seekTo
  simp only
  repeat' split
  all_goals rfl

/-- pointwise relation of two lists of equal length -/
def Forall2 {α β : Type} (R : α → β → Prop) : List α → List β → Prop
  | [], [] => True
  | a :: as, b :: bs => R a b ∧ Forall2 R as bs
  | _, _ => False

/-- which download-stream errors correspond to which reader errors -/
def errOK : Option Err → Option RErr → Bool
  | none, none => true
  | some .eof, some .eof => true
  | some .negPos, some .negPos => true
  | some .invalidWhence, some .invalidWhence => true
  | _, _ => false

/-- same bytes, same returned count/position, same position afterwards, corresponding error -/
def OutMatch (o : ROut) (o' : SOut) : Prop :=
  o.bytes = o'.bytes ∧ o.ret = o'.ret ∧ o.pos = o'.pos ∧ errOK o.err o'.err = true

/-- the simulation relation between a download stream and the in-memory reader -/
structure Sim (id c : Nat) (content : Bytes) (ds : DownloadStream) (r : Reader) : Prop where
  closed : ds.closed = false
  file : ds.file = ⟨id, content.length, c⟩
  total : ds.chunks = (chunksOf c content).length
  rc : r.content = content
  pos : ds.position = r.pos
  live : r.pos < content.length → Live c ds (content.drop r.pos)

section
variable {st : Store} {id c : Nat} {content : Bytes} {ds : DownloadStream} {r : Reader}

/-- the simulation at a new position, after an operation that keeps the frame -/
theorem Sim.move (hcl : ds.closed = false) (hf : ds.file = ⟨id, content.length, c⟩)
    (ht : ds.chunks = (chunksOf c content).length) {ds' : DownloadStream} (fr : Frame ds ds') {p : Nat}
    (hp : ds'.position = p) (hl : p < content.length → Live c ds' (content.drop p)) :
    Sim id c content ds' ⟨content, p⟩ :=
  { closed := fr.closed.trans hcl, file := fr.file.trans hf, total := fr.chunks.trans ht
    rc := rfl, pos := hp, live := hl }

theorem Sim.of_position {p : Nat} (h : Sim id c content { ds with position := p } r) (hp : ds.position = p) :
    Sim id c content ds r := by
  cases ds; subst hp; exact h

theorem sim_read (h : Sim id c content ds r) (n : Nat) :
    Sim id c content (ds.read n).1 (r.read n).1 ∧ (ds.read n).2.1 = (r.read n).2.1 ∧
    errOK (ds.read n).2.2 (r.read n).2.2 = true := by
  obtain ⟨rcont, rpos⟩ := r
  obtain rfl : rcont = content := h.rc
  have hpos : ds.position = rpos := h.pos
  simp only [DownloadStream.read, Reader.read, h.closed, h.file, hpos, Bool.false_eq_true, if_false]
  by_cases hp : rpos ≥ rcont.length
  · rw [if_pos hp, if_pos hp]
    exact ⟨h, rfl, rfl⟩
  · have hne : rcont.drop rpos ≠ [] := fun e => hp (List.drop_eq_nil_iff.mp e)
    obtain ⟨s', hr, hl, hp', fr⟩ := readLoop_ok (n + ds.cursorLen + 1) ds n 0 (rcont.drop rpos)
      (h.live (Nat.lt_of_not_le hp)) (Nat.lt_succ_self _) fun _ => hne
    rw [if_neg hp, if_neg hp, hr]
    refine ⟨Sim.move h.closed h.file h.total fr ?_ fun hq => ?_, rfl, rfl⟩
    · rw [hp', hpos, List.length_take]
    · rw [List.length_take, List.length_drop] at hq
      rw [List.drop_drop] at hl
      rwa [List.length_take, List.length_drop, Nat.min_eq_left (by omega)]

theorem sim_seekNat (wf : WF st id c content) (hcl : ds.closed = false) (hf : ds.file = ⟨id, content.length, c⟩)
    (ht : ds.chunks = (chunksOf c content).length) (p : Nat) :
    ∃ s', ds.seekTo st p = (s', none) ∧ Sim id c content { s' with position := p } ⟨content, p⟩ := by
  by_cases hp : p < content.length
  · obtain ⟨s', hs, hl, fr⟩ := seekTo_lt wf ds hf ht hp
    exact ⟨s', hs, Sim.move hcl hf ht (ds' := { s' with position := p }) ⟨fr.file, fr.chunks, fr.closed⟩ rfl
      fun _ => ⟨hl.cs, hl.ex⟩⟩
  · rw [seekTo_ge st ds p (by rw [hf]; exact Nat.le_of_not_lt hp)]
    exact ⟨_, rfl, Sim.move hcl hf ht (ds' := { ds with cursor := none, chunk := none, buffer := [], position := p })
      ⟨rfl, rfl, rfl⟩ rfl fun hq => absurd hq hp⟩

theorem sim_seekPos (wf : WF st id c content) (h : Sim id c content ds r) (p : Int) :
    Sim id c content (ds.seekPos st p).1 (r.seekPos p).1 ∧ (ds.seekPos st p).2.1 = (r.seekPos p).2.1 ∧
    errOK (ds.seekPos st p).2.2 (r.seekPos p).2.2 = true := by
  obtain ⟨s', hs, hsim⟩ := sim_seekNat wf h.closed h.file h.total p.toNat
  rw [DownloadStream.seekPos, Reader.seekPos, hs, h.rc]
  split
  · exact ⟨h, rfl, rfl⟩
  · exact ⟨hsim, rfl, rfl⟩

theorem sim_seek (wf : WF st id c content) (h : Sim id c content ds r) (o w : Int) :
    Sim id c content (ds.seek st o w).1 (r.seek o w).1 ∧ (ds.seek st o w).2.1 = (r.seek o w).2.1 ∧
    errOK (ds.seek st o w).2.2 (r.seek o w).2.2 = true := by
  rw [DownloadStream.seek, Reader.seek, h.closed, if_neg Bool.false_ne_true, h.file, h.rc, h.pos]
  by_cases hw : w = 0 ∨ w = 1 ∨ w = 2
  · rw [if_pos hw, if_pos hw]
    exact sim_seekPos wf h _
  · rw [if_neg hw, if_neg hw]
    exact ⟨h, rfl, rfl⟩

theorem sim_step (wf : WF st id c content) (h : Sim id c content ds r) (op : ROp) :
    Sim id c content (ds.step st op).1 (r.step op).1 ∧ OutMatch (ds.step st op).2 (r.step op).2 := by
  cases op with
  | read n =>
    obtain ⟨a, b, e⟩ := sim_read h n
    exact ⟨a, b, congrArg List.length b, a.pos, e⟩
  | seek o w =>
    obtain ⟨a, b, e⟩ := sim_seek wf h o w
    exact ⟨a, rfl, b, a.pos, e⟩
  | skip n =>
    obtain ⟨a, b, e⟩ := sim_seek wf h n 1
    exact ⟨a, rfl, b, a.pos, e⟩

theorem sim_run (wf : WF st id c content) : ∀ (script : List ROp) (ds : DownloadStream) (r : Reader),
    Sim id c content ds r → Forall2 OutMatch (ds.run st script) (r.run script)
  | [], _, _, _ => trivial
  | op :: ops, _, _, h => ⟨(sim_step wf h op).2, sim_run wf ops _ _ (sim_step wf h op).1⟩

/-- the chunk count computed by `open` is the number of pieces of the spec chunking -/
theorem chunkCount_eq (c : Nat) (hc : 0 < c) (L : Nat) :
    L / c + (if L % c ≠ 0 then 1 else 0) = (L + c - 1) / c := by
  have hdm : c * (L / c) + L % c = L := Nat.div_add_mod L c
  have hml : L % c < c := Nat.mod_lt _ hc
  symm
  apply Nat.div_eq_of_lt_le
  · rw [Nat.add_mul, Nat.mul_comm (L / c) c]
    split <;> omega
  · rw [Nat.succ_mul, Nat.add_mul, Nat.mul_comm (L / c) c]
    split <;> omega

/-- OpenDownloadStream on a well-formed file succeeds and starts the simulation at position 0 -/
theorem sim_open (wf : WF st id c content) :
    ∃ ds, DownloadStream.open st id = .ok ds ∧ Sim id c content ds ⟨content, 0⟩ := by
  have hc := wf.hc
  obtain ⟨s', hs, hsim⟩ := sim_seekNat wf (ds := { file := ⟨id, content.length, c⟩, chunks := content.length / c +
    (if content.length % c ≠ 0 then 1 else 0) }) rfl rfl (by rw [chunkCount_eq c hc, length_chunksOf hc]) 0
  have hp := seekTo_position st { file := ⟨id, content.length, c⟩, chunks := content.length / c +
    (if content.length % c ≠ 0 then 1 else 0) } 0
  rw [hs] at hp
  rw [DownloadStream.open, wf.file]
  simp only [if_neg (Nat.ne_of_gt hc), hs]
  exact ⟨s', rfl, hsim.of_position hp⟩

end
end Lungo.GridFS
