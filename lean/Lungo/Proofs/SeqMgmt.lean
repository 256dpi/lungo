/-
  Lungo.Proofs.SeqMgmt — C01: createCollection, dropCollection, dropDatabase, dropIndex,
  dropAllIndexes, dropIndexByKey (createIndex: Proofs/SeqIndex.lean).
-/
import Lungo.Proofs.SeqDelete
namespace Lungo.SeqRef
open Lungo Lungo.Spec

variable {sch : SchemaEval}

theorem refines_createCollection (s : Sys) (h : Handle) (oids : List V) :
    Refines sch s (.createCollection h) oids := by
  unfold Refines Sys.step
  simp only [Spec.step, runCall, Txn.create]
  cases hwr : writable h true with
  | error e => rfl
  | ok _ =>
    have hne := writable_ne_oplog hwr
    simp only [abs_get? s.catalog hne, Option.isSome_map]
    cases (s.catalog.get? h).isSome <;> simp [Except.map, Sys.commit, abs_set s.catalog _ hne, absC_new]

theorem dropHit_coll {h : Handle} (hc : h.coll ≠ "") (ns : Handle) : dropHit h ns = (ns == h) := by
  simp [dropHit, hc]

theorem dropHit_db (name : String) (ns : Handle) : dropHit ⟨name, ""⟩ ns = (ns.db == name) := by
  simp only [dropHit, beq_self_eq_true, Bool.true_and, Bool.or_eq_right_iff_imp, beq_iff_eq]
  rintro rfl; rfl

/-- `Transaction.Drop` = the Spec's filter over the collections, `p` being the Spec's way of saying
    which namespaces are hit -/
theorem txnDrop_abs (s : Sys) (h : Handle) (oids : List V) (hi : SysInv sch s) (p : Handle → Bool)
    (hp : ∀ ns, dropHit h ns = p ns) :
    (match writable h false with
      | .error e => .error e
      | .ok _ =>
        if ((abs s.catalog).colls.filter fun (ns, _) => p ns).isEmpty then .ok (abs s.catalog, Reply.unit)
        else .ok ({ colls := (abs s.catalog).colls.filter fun (ns, _) => !p ns, logged := true }, .unit)) =
      (Txn.drop { catalog := s.catalog } h (s.nu oids)).map fun r => (abs (s.commit r.1 r.2).catalog, .unit) := by
  obtain rfl : dropHit h = p := funext hp
  unfold Txn.drop
  cases hwr : writable h false with
  | error e => rfl
  | ok _ =>
    have hkeep := dropHit_oplog (writable_ne_oplog hwr) (writable_db hwr)
    have hf := filter_abs s.catalog (dropHit h)
    have hf' := filter_abs s.catalog (fun n => !dropHit h n)
    simp only at hf hf' ⊢
    rw [hf, hf', List.isEmpty_map]
    show _ = Except.map _ (if ((s.catalog.namespaces.filter fun x => dropHit h x.1).map (·.1)).isEmpty then _ else _)
    rw [List.isEmpty_map]
    cases hemp : (s.catalog.namespaces.filter fun x => dropHit h x.1).isEmpty with
    | true => simp [Except.map, Sys.commit]
    | false =>
      obtain ⟨oc, hoc⟩ := hi.oplog
      obtain ⟨f1, f2, _⟩ := abs_fold_append
        (fun (cn : Catalog × Nu) (ns : Handle) => appendOplog cn.1 cn.2 ns "drop" none none)
        (fun _ _ => ⟨_, _, _, _, rfl⟩)
        ((s.catalog.namespaces.filter fun x => dropHit h x.1).map (·.1))
        ({ s.catalog with namespaces := s.catalog.namespaces.filter fun x => !dropHit h x.1 }, s.nu oids)
        ⟨oc, List.mem_filter.mpr ⟨hoc, by simp [hkeep]⟩⟩
      simp only [List.isEmpty_map, hemp, Bool.false_eq_true, ↓reduceIte] at f1
      simp only [Bool.false_eq_true, ↓reduceIte, Except.map, Sys.commit, Except.ok.injEq, Prod.mk.injEq, and_true]
      split
      · refine ((abs_appendOplog f2 _ h "dropDatabase" none none).1.trans ?_).symm
        rw [f1]; rfl
      · exact f1.symm

theorem validate_true_facts {h : Handle} (hv : h.validate true = .ok ()) :
    h.coll ≠ "" ∧ h.validate false = .ok () := by
  unfold Handle.validate at hv ⊢
  split at hv
  · cases hv
  · split at hv
    · cases hv
    · split at hv
      · cases hv
      · rename_i h1 h2 h3
        exact ⟨fun e => h3 (by simp [e]), by simp [h1, h2]⟩

/-- `Collection.Drop` needs a collection name (validated before the transaction begins) -/
theorem refines_dropCollection (s : Sys) (h : Handle) (oids : List V) (hi : SysInv sch s) :
    Refines sch s (.dropCollection h) oids := by
  unfold Refines Sys.step
  simp only [Spec.step, runCall]
  cases hv : h.validate true with
  | error e => simp only [writable, hv]; rfl
  | ok u =>
    obtain ⟨hc, hvf⟩ := validate_true_facts hv
    have hww : writable h true = writable h false := by simp only [writable, hv, hvf]
    rw [hww]
    refine (txnDrop_abs s h oids hi (· == h) (dropHit_coll hc)).trans ?_
    cases Txn.drop { catalog := s.catalog } h (s.nu oids) <;> rfl

theorem refines_dropDatabase (s : Sys) (name : String) (oids : List V) (hi : SysInv sch s) :
    Refines sch s (.dropDatabase name) oids := by
  unfold Refines Sys.step
  simp only [Spec.step, runCall]
  refine (txnDrop_abs s ⟨name, ""⟩ oids hi (·.db == name) (dropHit_db name)).trans ?_
  cases Txn.drop { catalog := s.catalog } ⟨name, ""⟩ (s.nu oids) <;> rfl

theorem shape_filter (idx : List (String × Index)) (p : String → Bool) :
    (shape idx).filter (fun x => p x.1) = shape (idx.filter (fun x => p x.1)) := by
  simp only [shape, List.filter_map]; rfl

/-- `Collection.DropIndex` by a non-empty name = the Spec's `dropIndex` -/
theorem dropIndex_abs (c : Coll) {name : String} (hn : name ≠ "") :
    (c.dropIndex name).map (fun r => absC r.1) = (absC c).dropIndex name := by
  have hn' : (name != "") = true := by simpa using hn
  unfold Coll.dropIndex SColl.dropIndex
  simp only [hn', ↓reduceIte, absC, shape_any]
  split
  · rfl
  · split
    · rfl
    · simp only [Except.map]
      have := shape_filter c.indexes (fun n => n != name)
      rw [this]

/-- `Transaction.DropIndex` ("" = all) on the abstraction = the Spec's `dropIn` -/
theorem txnDropIndex_abs (s : Sys) (h : Handle) (name : String) (nu : Nu) :
    (Txn.dropIndex { catalog := s.catalog } h name).map (fun t => abs (s.commit t nu).catalog) =
      dropIndexCall (abs s.catalog) h name := by
  unfold Txn.dropIndex dropIndexCall
  cases hwr : writable h true with
  | error e => rfl
  | ok _ =>
    have hne := writable_ne_oplog hwr
    simp only [abs_get? s.catalog hne]
    cases hg : s.catalog.get? h with
    | none => rfl
    | some c =>
      simp only [Option.map_some, dropIn]
      by_cases hn : name = ""
      · subst hn
        have h1 := shape_filter c.indexes (fun n => n != "_id_")
        have h2 := shape_filter c.indexes (fun n => n == "_id_")
        have hemp' : ((absC c).defs.filter (fun x => x.1 != "_id_")).isEmpty =
            (c.indexes.filter fun x => x.1 != "_id_").isEmpty := by
          simp only [absC]; rw [h1]; simp [shape]
        simp only [Coll.dropIndex, bne_self_eq_false, Bool.false_eq_true, ↓reduceIte, beq_self_eq_true,
          dropAllIn, List.isEmpty_map, hemp']
        cases hemp : (c.indexes.filter fun x => x.1 != "_id_").isEmpty with
        | true => simp [Except.map, Sys.commit]
        | false =>
          simp only [Bool.false_eq_true, ↓reduceIte, Except.map, Sys.commit]
          rw [abs_set s.catalog _ hne]
          simp only [absC, SColl.dropAllIndexes]
          rw [h2]
      · have hb : (name == "") = false := by simpa using hn
        simp only [hb, Bool.false_eq_true, ↓reduceIte]
        rw [← dropIndex_abs c hn]
        cases hd : c.dropIndex name with
        | error e => rfl
        | ok r =>
          obtain ⟨coll, dropped⟩ := r
          obtain ⟨_, _, p, _, _, h1, _⟩ := dropIndex_spec hd
          obtain ⟨_, _, hdr⟩ := h1 hn
          subst hdr
          simp [Except.map, Sys.commit, abs_set s.catalog coll hne]

theorem refines_dropIndex (s : Sys) (h : Handle) (name : String) (oids : List V) :
    Refines sch s (.dropIndex h name) oids := by
  unfold Refines Sys.step
  simp only [Spec.step, runCall, ← txnDropIndex_abs s h name (s.nu oids)]
  cases Txn.dropIndex { catalog := s.catalog } h name <;> rfl

theorem refines_dropAllIndexes (s : Sys) (h : Handle) (oids : List V) :
    Refines sch s (.dropAllIndexes h) oids := by
  unfold Refines Sys.step
  simp only [Spec.step, runCall, ← txnDropIndex_abs s h "" (s.nu oids)]
  cases Txn.dropIndex { catalog := s.catalog } h "" <;> rfl

theorem find_shape (idx : List (String × Index)) (key : Doc) :
    (shape idx).find? (fun x => V.cmp (.doc x.2.key) (.doc key) == .eq) =
      (idx.find? (fun x => V.cmp (.doc x.2.config.key) (.doc key) == .eq)).map (fun x => (x.1, x.2.config)) := by
  simp only [shape, List.find?_map]
  rfl

theorem refines_dropIndexByKey (s : Sys) (h : Handle) (key : Doc) (oids : List V) :
    Refines sch s (.dropIndexByKey h key) oids := by
  unfold Refines Sys.step
  simp only [Spec.step, runCall, Txn.dropIndexByKey]
  cases hwr : writable h true with
  | error e => rfl
  | ok _ =>
    have hne := writable_ne_oplog hwr
    simp only [abs_get? s.catalog hne]
    cases hg : s.catalog.get? h with
    | none => rfl
    | some c =>
      simp only [Option.map_some]
      have hfs := find_shape c.indexes key
      simp only [absC]
      have hfun2 : (fun (x : String × Index) => match x with | (_, i) => V.cmp (.doc i.config.key) (.doc key) == .eq) =
          fun x => V.cmp (.doc x.2.config.key) (.doc key) == .eq := by funext x; rfl
      rw [hfun2, hfs]
      cases hf : c.indexes.find? (fun x => V.cmp (.doc x.2.config.key) (.doc key) == .eq) with
      | none => rfl
      | some p =>
        obtain ⟨name, i⟩ := p
        simp only [Option.map_some]
        rw [← txnDropIndex_abs s h name (s.nu oids)]
        cases Txn.dropIndex { catalog := s.catalog } h name with
        | error e => rfl
        | ok t => rfl

end Lungo.SeqRef
