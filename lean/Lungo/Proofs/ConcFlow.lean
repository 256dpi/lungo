/-
  Lungo.Proofs.ConcFlow — the control-flow graph of the concurrency model (`edge`: one table) and what one step does to
  the registers of the actor that takes it (`Flow`: inside a call an edge of the graph, with the registers it writes;
  a new call; the ticker).  Whatever holds of every step because of where control can go (the rank goes down, the expiry
  goroutine's code is run by actor 0 only, the continuation fits the subroutine, the guards find their registers set)
  is proved along the edges.
-/
import Lungo.Proofs.ConcInvDefs
namespace Lungo.Conc

/-- the kinds of edge inside a call; a call site names the continuation it sets -/
inductive Edge
  | next | load | retB | retCA | resume | call (k' : K) | finish

/-- the continuation after an edge taken under continuation `k` -/
def Edge.k : Edge → K → K
  | .call k', _ => k'
  | _, k => k

/-- The control-flow graph inside a call: the edge, if there is one, from a program counter under a continuation to a
    program counter. Straight-line code, `useTransaction` finding the session's transaction, the returns of Begin and
    of Commit and Abort, where the caller of Begin goes on, the call sites of the three subroutines, the ends of a
    call (the expiry goroutine goes back to its select). -/
def edge : Pc → K → Pc → Option Edge
  | .bSessLock, _, .bSessRead | .bSessRead, _, .bLock | .bLock, _, .bCheck | .bCheck, _, .bAcquire
  | .bAcquire, _, .bRelock | .bRelock, _, .bPost | .cLock, _, .cCheck | .cCheck, _, .cStore | .aLock, _, .aBody
  | .uSessLock, _, .uSessRead | .ssLock, _, .ssReserve | .ssRelock, _, .ssFinal | .scLock, _, .scBody
  | .saLock, _, .saBody | .clLock, _, .clKill | .clKill, _, .clStreams | .clStreams, _, .clWait | .kLock, _, .kBody
  | .xWait, _, .xExited => some .next
  | .uSessRead, _, .uCbSess => some .load
  | .bSessRead, _, .after | .bCheck, _, .after | .bPost, _, .after => some .retB
  | .cCheck, _, .after | .cStore, _, .after | .aBody, _, .after => some .retCA
  | .after, .use, .uCb | .after, .use, .uCbRead | .after, .start, .ssRelock | .after, .expBegin, .xExpire => some .resume
  | .uSessRead, _, .bSessLock | .uSessRead, _, .bLock => some (.call .use)
  | .uCb, _, .cLock => some (.call .useCommit)
  | .uCb, _, .aLock | .after, .useCommit, .aLock => some (.call .useAbort)
  | .xExpire, _, .cLock => some (.call .expCommit)
  | .xExpire, _, .aLock => some (.call .expAbort)
  | .ssReserve, _, .bLock => some (.call .start)
  | .ssFinal, _, .aLock => some (.call .startAbort)
  | .scBody, _, .cLock => some (.call .sessCommit)
  | .saBody, _, .aLock => some (.call .sessAbort)
  | .after, .expBegin, .xWait | .after, .expAbort, .xWait | .after, .expCommit, .xWait
  | .after, .use, .idle | .after, .useAbort, .idle | .after, .startAbort, .idle | .after, .sessCommit, .idle
  | .after, .sessAbort, .idle | .after, .dBegin, .idle | .after, .dCommit, .idle | .after, .dAbort, .idle
  | .uCbSess, _, .idle | .uCbRead, _, .idle | .ssReserve, _, .idle | .ssFinal, _, .idle | .scBody, _, .idle
  | .saBody, _, .idle | .clKill, _, .idle | .clWait, _, .idle | .kBody, _, .idle => some .finish
  | _, _, _ => none

/-- what the guard of a straight-line step says about the registers the next one reads -/
def Pc.nextOk (l : Local) : Pc → Prop
  | .bCheck => l.lockF = true
  | .cCheck => l.t.isSome = true
  | _ => True

/-- the registers a new call starts with; `l` are the idle actor's registers after `Local.invoke`, `h` its handle -/
def Call.enter (l : Local) (h : Option Tid) : Call → Option Local
  | .useTx lock (some sid) => some { l with pc := .uSessLock, lockF := lock, ctxSess := some sid }
  | .useTx lock none => some { l with pc := .bLock, k := .use, lockF := lock, ctxSess := none }
  | .begin lock =>
    if h = none then some { l with pc := .bLock, k := .dBegin, lockF := lock, ctxSess := none } else none
  | .commit => h.map fun t => { l with pc := .cLock, k := .dCommit, t := some t, handle := none }
  | .abort => h.map fun t => { l with pc := .aLock, k := .dAbort, t := some t, handle := none }
  | .sessStart sid => some { l with pc := .ssLock, sid := sid }
  | .sessCommit sid => some { l with pc := .scLock, sid := sid }
  | .sessAbort sid => some { l with pc := .saLock, sid := sid, endF := false }
  | .sessEnd sid => some { l with pc := .saLock, sid := sid, endF := true }
  | .close => some { l with pc := .clLock }
  | .crit kind => some { l with pc := .kLock, crit := kind }

/-- The registers after an edge of kind `e` from `l` at `p` to `p'`. Those that steer control (`pc`, `k`, `lockF`,
    `ctxSess`, `sid`, `t`, `res`, `handle`) are given exactly; the others are left open where nothing reads them. -/
inductive Regs (l : Local) (p p' : Pc) : Edge → Local → Prop
  /-- `Acquire` records its outcome -/
  | next {okF : Bool} {acq : Acq} : p.nextOk l → Regs l p p' .next { l with pc := p', okF := okF, acq := acq }
  | load {t : Tid} : Regs l p p' .load { l with pc := p', t := some t }
  /-- `Engine.Begin` fails, or returns a transaction -/
  | fail {e : Err} : Regs l p p' .retB { l with pc := p', res := .err e }
  | got {t : Tid} : Regs l p p' .retB { l with pc := p', res := .ok, t := some t }
  | ret {r : Res} {cmt : Option (Tid × Nat)} : Regs l p p' .retCA { l with pc := p', res := r, cmt := cmt }
  /-- `startTransaction` goes on whatever Begin's result -/
  | resume : (p' = .ssRelock ∨ l.res = .ok) → Regs l p p' .resume { l with pc := p' }
  /-- `startTransaction`'s Begin is locked and has no context -/
  | call {k' : K} {t : Option Tid} {sv : Res} : (p' = .bSessLock → l.lockF = true) →
      Regs l p p' (.call k') { l with pc := p', k := k', lockF := k'.isStart || l.lockF,
                                      ctxSess := bif k'.isStart then none else l.ctxSess, t := t, saved := sv }
  | finish {h : Option Tid} {o : Option (List OpId)} {r : Res} :
      Regs l p p' .finish { l with handle := h, obs := o, pc := p', res := r }

theorem Regs.pc_k {l l' : Local} {p p' : Pc} {e : Edge} (r : Regs l p p' e l') : l'.pc = p' ∧ l'.k = e.k l.k := by
  cases r <;> exact ⟨rfl, rfl⟩

/-- One step of actor `a` from state `s`, as far as `a`'s registers go: `Flow s a c l'` says that `l'` are the
    registers after a step with label `c`. -/
inductive Flow (s : State) (a : ActorId) : Choice → Local → Prop
  /-- inside a call, along an edge of the graph -/
  | go {c : Choice} {p p' : Pc} {k : K} {e : Edge} {l' : Local} : (s.loc a).pc = p → (s.loc a).k = k →
      Regs (s.loc a) p p' e l' → edge p k p' = some e → Flow s a c l'
  /-- an idle client issues a call -/
  | invoke {cl : Call} {h : Option Tid} {l' : Local} : (s.loc a).pc = .idle → (s.loc a).handle = h →
      Call.enter ((s.loc a).invoke s) h cl = some l' → Flow s a (.call cl) l'
  /-- the ticker fires: the expiry goroutine starts a round -/
  | tick : (s.loc a).pc = .xWait →
      Flow s a .tick { (s.loc a).invoke s with pc := .bLock, k := .expBegin, lockF := true, ctxSess := none }

/-! ## the continuation fits the subroutine -/

theorem edge_kOk {p p' : Pc} {k : K} {e : Edge} (h : edge p k p' = some e) (w : kOkAt p k = true) :
    kOkAt p' (e.k k) = true := by
  revert h
  fun_cases edge p k p' <;> intro h <;> cases h <;> first | exact w | rfl

theorem Call.enter_kOk {l l' : Local} {h : Option Tid} {cl : Call} (he : Call.enter l h cl = some l') :
    kOkAt l'.pc l'.k = true := by
  revert he
  fun_cases Call.enter l h cl <;> intro he <;> first | (cases he; rfl) | (cases h <;> cases he; rfl) | cases he

/-- `BeginWf` is kept: straight-line code stays inside its subroutine, a call site sets the continuation for the callee,
    and nothing is asked of the continuation anywhere else. -/
theorem Flow.wf {s : State} {a : ActorId} {c : Choice} {l' : Local} (f : Flow s a c l')
    (w : kOkAt (s.loc a).pc (s.loc a).k = true) : kOkAt l'.pc l'.k = true := by
  cases f with
  | go hp hk r he => rw [r.pc_k.1, r.pc_k.2]; subst hp hk; exact edge_kOk he w
  | invoke _ _ he => exact Call.enter_kOk he
  | tick => rfl

end Lungo.Conc
