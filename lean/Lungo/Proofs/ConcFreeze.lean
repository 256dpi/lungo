/-
  Lungo.Proofs.ConcFreeze — a committed transaction object is never written again (configuration:
  no session shared between actors): what C04 `write_history` needs beyond `Hinv`.
  Zown: the installed transaction has exactly one finisher (actor-local position, session or handle), and an
        actor between a successful Begin and its Commit/hand-over still has its transaction installed.
  Zfrz: committed tids are never installed / never a session's transaction, a callback on a session
        transaction runs on the session's current transaction, committed records equal the heap cells.

  Both are proved against `OwnStep`.  What a step of `a` leaves of the clauses about another actor depends only on
  what it does to `txn` and `own` (`ActorOwn.frame`, `ActorOwn.install`); the commit records survive because
  transactions circulate in one direction (`Circ`, `Frozen.step`).
-/
import Lungo.Proofs.ConcUnshared
namespace Lungo.Conc

-- unfolds the state a branch produced, in `h` and in the goal
macro "z_simp_at" h:ident : tactic => `(tactic|
  simp only [State.put, State.putS, State.finish, State.write, upd_apply, Eng.unlock, Eng.release,
    Local.back, Local.invoke, newTxn, PreW, FinPos, List.mem_append, List.mem_singleton,
    if_true, if_false, ite_true, ite_false] at $h:ident ⊢)

/-- What `Zown` asks of actor `b` with registers `l` under the engine record `e`. -/
def ActorOwn (e : Eng) (b : ActorId) (l : Local) : Prop :=
  -- whoever claims the installed transaction, by position or by handle, is its owner
  (∀ t, e.txn = some t → OwnsL l t → e.own = .actor b) ∧
  -- the transaction of a successful locked Begin stays installed until its actor commits or hands it over
  (PreW l → l.t = e.txn ∧ e.txn.isSome = true) ∧
  -- nobody claims it twice, by position and by handle: giving the position away leaves no claim behind
  (∀ t, e.txn = some t → l.t = some t → FinPos l → l.handle ≠ some t)

/-- a session at rest that has the installed transaction is its owner -/
def SessOwn (e : Eng) (ss : SessId → Sess) : Prop :=
  ∀ sid t, e.txn = some t → (ss sid).txn = some t → e.own = .sess sid

/-- `e.own` is exact about the installed transaction: whoever could finish it (an actor by its registers, a session at
    rest by its `txn`) is the owner on record, and it stays installed while its actor is between Begin and Commit. -/
def Zown (s : State) : Prop := (∀ b, ActorOwn s.eng b (s.loc b)) ∧ SessOwn s.eng s.sess

/-- away from the finishing positions only the handle can claim -/
theorem ActorOwn.of_handle {e : Eng} {b : ActorId} {l : Local} (nf : ¬ FinPos l)
    (hd : ∀ t, e.txn = some t → l.handle = some t → e.own = .actor b) : ActorOwn e b l :=
  ⟨fun t ht h => (OwnsL_iff.1 h).elim (hd t ht) fun h => absurd h.2 nf, fun h => absurd (.inl h) nf,
    fun _ _ _ h => absurd h nf⟩

theorem zown_init (n : Nat) : Zown (init n) := by
  refine ⟨fun b => .of_handle (FinPos.not ?_) (fun _ h => nomatch h), fun _ _ h => nomatch h⟩
  simp only [init]; split <;> rfl

/-- the clauses about an actor that does not move survive a step that keeps the installed transaction and its owner,
    or takes either from somebody else -/
theorem ActorOwn.frame {e e' : Eng} {b : ActorId} {l : Local} (h : ActorOwn e b l)
    (ht : e'.txn = e.txn ∨ e'.txn = none) (ho : e'.txn = e.txn ∧ e'.own = e.own ∨ e.own ≠ .actor b) :
    ActorOwn e' b l := by
  obtain ⟨p, pr, on⟩ := h
  have old : ∀ t, e'.txn = some t → e.txn = some t := fun t h => by
    rcases ht with ht | ht
    · exact ht ▸ h
    · rw [ht] at h; cases h
  rcases ho with ⟨ht, ho⟩ | ho
  · exact ⟨by rwa [ht, ho], by rwa [ht], by rwa [ht]⟩
  · -- `b` was not the owner, so it had no claim on the installed transaction
    refine ⟨fun t h c => absurd (p t (old t h) c) ho, fun hp => ?_, fun t h c f => ?_⟩
    · obtain ⟨h1, h2⟩ := pr hp
      obtain ⟨t, h⟩ := Option.isSome_iff_exists.1 h2
      exact absurd (p t h (OwnsL_iff.2 (.inr ⟨h1.trans h, .inl hp⟩))) ho
    · exact absurd (p t (old t h) (OwnsL_iff.2 (.inr ⟨c, f⟩))) ho

/-- an actor that does not move knows no tid as large as a freshly installed one, and was not waiting for an
    installed one -/
theorem ActorOwn.install {e e' : Eng} {b : ActorId} {l : Local} (h : ActorOwn e b l) (hn : e.txn = none)
    (hi : e'.txn = some e.nextTid) (bt : ∀ t, l.t = some t → t < e.nextTid)
    (bh : ∀ t, l.handle = some t → t < e.nextTid) : ActorOwn e' b l := by
  refine ⟨fun t h c => ?_, fun hp => ?_, fun t h c => ?_⟩
  · obtain rfl := Option.some.inj (hi.symm.trans h)
    rcases OwnsL_iff.1 c with c | ⟨c, _⟩
    · exact absurd (bh _ c) (Nat.lt_irrefl _)
    · exact absurd (bt _ c) (Nat.lt_irrefl _)
  · have := (h.2.1 hp).2; rw [hn] at this; cases this
  · obtain rfl := Option.some.inj (hi.symm.trans h)
    exact absurd (bt _ c) (Nat.lt_irrefl _)

/-- the clauses about the stepping actor survive a move -/
theorem ActorOwn.move {e e' : Eng} {a : ActorId} {l l' : Local} (h : ActorOwn e a l) (ht : e'.txn = e.txn)
    (ho : e'.own = e.own) (et : l'.t = l.t) (eh : l'.handle = l.handle) (pos : FinPos l' → FinPos l)
    (pre : PreW l' → PreW l) : ActorOwn e' a l' := by
  obtain ⟨p, pr, on⟩ := h
  rw [ActorOwn, ht, ho, et, eh]
  refine ⟨fun t h c => p t h ?_, fun hp => pr (pre hp), fun t h c f => on t h c (pos f)⟩
  rcases OwnsL_iff.1 c with c | ⟨c, f⟩
  · exact .inl (eh ▸ c)
  · exact OwnsL_iff.2 (.inr ⟨et ▸ c, pos f⟩)

/-- after session `sid₀` was rewritten -/
theorem SessOwn.upd {e' : Eng} {ss ss' : SessId → Sess} {sid₀ : SessId} {x : Sess} (hs : ss' = upd ss sid₀ x)
    (self : ∀ t, e'.txn = some t → x.txn = some t → e'.own = .sess sid₀)
    (other : ∀ sid t, sid ≠ sid₀ → e'.txn = some t → (ss sid).txn = some t → e'.own = .sess sid) :
    SessOwn e' ss' := fun sid t => by
  rw [hs, upd_apply]
  split
  · next e => exact e ▸ self t
  · next e => exact other sid t e

theorem Zown.lift {s s' : State} {a : ActorId} {l' : Local} (hl : s'.loc = upd s.loc a l')
    (other : ∀ b, b ≠ a → ActorOwn s'.eng b (s.loc b)) (self : ActorOwn s'.eng a l')
    (sess : SessOwn s'.eng s'.sess) : Zown s' := by
  refine ⟨fun b => ?_, sess⟩
  rw [hl]
  by_cases hb : b = a
  · rw [hb, upd_same]; exact self
  · rw [upd_other _ _ _ _ hb]; exact other b hb

/-- a step that leaves the installed transaction, its owner and the sessions' transactions alone -/
theorem Zown.keep {s s' : State} {a : ActorId} {l' : Local} (g : Zown s) (hl : s'.loc = upd s.loc a l')
    (ht : s'.eng.txn = s.eng.txn) (ho : s'.eng.own = s.eng.own) (hs : ∀ sid, (s'.sess sid).txn = (s.sess sid).txn)
    (self : ActorOwn s'.eng a l') : Zown s' :=
  .lift hl (fun b _ => (g.1 b).frame (.inl ht) (.inl ⟨ht, ho⟩)) self fun sid t => by
    rw [ht, ho, hs]; exact g.2 sid t

theorem zown_step {s s' : State} {a : ActorId} (h1 : Inv1 s) (h2 : Inv2 s) (g : Zown s) (d : OwnStep a s s') :
    Zown s' := by
  obtain ⟨p, pr, on⟩ := g.1 a
  have zs := g.2
  have bnd := h2.bnd
  cases d with
  | move l' hl he hs _ _ et eh pos =>
    obtain ⟨e1, e2, -, -⟩ := he
    exact g.keep hl e1 e2 hs ((g.1 a).move e1 e2 et eh pos.1.1 pos.2)
  | regs l' hl he hs _ _ claims _ np fh =>
    obtain ⟨e1, e2, -, -⟩ := he
    refine g.keep hl e1 e2 hs ⟨fun t h c => ?_, fun h => absurd h np, fun t _ _ f => by rw [fh f]; nofun⟩
    rw [e2]; exact p t (e1 ▸ h) ((claims t).1 c)
  | fresh l' tx hl hs _ _ _ _ hf et eh _ _ hi =>
    rcases hi with ⟨e1, e2, nf⟩ | ⟨hn, e1, e2, pre⟩
    · exact g.keep hl e1 e2 hs (.of_handle nf fun t h c => e2.trans (p t (e1 ▸ h) (.inl (eh ▸ c))))
    · refine .lift hl (fun b _ => (g.1 b).install hn e1 (bnd.2.1 b) (bnd.2.2.1 b))
        ⟨fun _ _ _ => e2, fun _ => ⟨et.trans e1.symm, by rw [e1]; rfl⟩, fun t h _ _ c => ?_⟩ fun sid t h c => ?_
      · obtain rfl := Option.some.inj (e1.symm.trans h)
        exact absurd (bnd.2.2.1 a _ (eh ▸ c)) (Nat.lt_irrefl _)
      · obtain rfl := Option.some.inj (e1.symm.trans h)
        exact absurd (bnd.2.2.2 sid _ (hs sid ▸ c)) (Nat.lt_irrefl _)
  | fin l' hl hs _ eo _ _ hx _ et eh ek _ hb pcs =>
    obtain ⟨pos, np, ab, fp⟩ := fin_pos (h1.beginWf a) hb ek pcs
    rcases hx with e1 | ⟨e1, e0⟩
    · exact g.keep hl e1 eo hs ((g.1 a).move e1 eo et eh pos fun h => absurd h np)
    · -- the transaction uninstalled was `a`'s to finish, or its session's
      refine .lift hl (fun b hb => (g.1 b).frame (.inr e1) ?_) ⟨fun t h => ?_, fun h => absurd h np, fun t h => ?_⟩
        fun sid t h => ?_
      · cases ht : s.eng.txn with
        | none => exact .inl ⟨e1, eo⟩
        | some t =>
          refine .inr fun ho => ?_
          by_cases hk : (s.loc a).k = .sessAbort
          · have := zs _ t ht ((h2.oinv.2.1 a hk (.inr (.inl (ab (ek ▸ hk))))).trans (e0.symm.trans ht))
            rw [this] at ho; cases ho
          · exact hb (Own.actor.inj ((p t ht (OwnsL_iff.2 (.inr ⟨e0.symm.trans ht, fp hk⟩))).symm.trans ho)).symm
      all_goals (rw [e1] at h; cases h)
  | give l' x hl hs _ _ hx _ _ o1 _ hp hr ex hp' et eh =>
    have pw : PreW (s.loc a) := .inr (.inr (.inr ⟨.inr hp, hr⟩))
    obtain ⟨hc, hi⟩ := pr pw
    obtain ⟨t₀, h0⟩ := Option.isSome_iff_exists.1 hi
    have nf : ¬ FinPos l' := FinPos.not (hp' ▸ rfl)
    have oa := p t₀ h0 (OwnsL_iff.2 (.inr ⟨hc.trans h0, .inl pw⟩))
    refine .lift hl (fun b hb => (g.1 b).frame (.inl hx) (.inr fun h => hb (Own.actor.inj (oa.symm.trans h)).symm))
      (.of_handle nf fun t h c => ?_) (.upd hs (fun _ _ _ => o1 hc.symm) fun sid t _ h c => ?_)
    · obtain rfl := Option.some.inj (h0.symm.trans (hx ▸ h))
      exact absurd (eh ▸ c) (on _ h0 (hc.trans h0) (.inl pw))
    · rw [zs sid t (hx ▸ h) c] at oa; cases oa
  | back l' x t₀ hl hs _ _ hx _ _ o1 o2 hp hst ex hp' _ et eh =>
    have np : ¬ PreW l' := fun h => by simp [PreW, hp'] at h
    by_cases hc : s.eng.txn = some t₀
    · have os := zs _ t₀ hc hst
      refine .lift hl (fun b _ => (g.1 b).frame (.inl hx) (.inr fun h => by rw [os] at h; cases h))
        ⟨fun _ _ _ => o1 hc, fun h => absurd h np, fun t h _ _ c => ?_⟩
        (.upd hs (fun _ _ h => by rw [ex] at h; cases h) fun sid t ne h c => ?_)
      · have := p t (hx ▸ h) (.inl (eh ▸ c)); rw [os] at this; cases this
      · have := zs sid t (hx ▸ h) c; rw [os] at this; exact absurd (Own.sess.inj this).symm ne
    · refine .lift hl (fun b _ => (g.1 b).frame (.inl hx) (.inl ⟨hx, o2 hc⟩)) ⟨fun t h c => ?_, fun h => absurd h np,
        fun t h c => absurd ((hx ▸ h : s.eng.txn = some t).trans (et.symm.trans c).symm) hc⟩
        (.upd hs (fun _ _ h => by rw [ex] at h; cases h) fun sid t _ h c => o2 hc ▸ zs sid t (hx ▸ h) c)
      rcases OwnsL_iff.1 c with c | ⟨c, _⟩
      · rw [o2 hc]; exact p t (hx ▸ h) (.inl (eh ▸ c))
      · exact absurd ((hx ▸ h : s.eng.txn = some t).trans (et.symm.trans c).symm) hc
  | clear l' x hl hs _ _ he _ _ ex hp' et eh =>
    obtain ⟨e1, e2, -, -⟩ := he
    exact .lift hl (fun b _ => (g.1 b).frame (.inl e1) (.inl ⟨e1, e2⟩))
      (.of_handle (FinPos.not (hp' ▸ rfl)) fun t h c => e2.trans (p t (e1 ▸ h) (.inl (eh ▸ c))))
      (.upd hs (fun _ _ h => by rw [ex] at h; cases h) fun sid t _ h c => e2 ▸ zs sid t (e1 ▸ h) c)

/-- `Zown` needs no sharing restriction: it holds in every reachable state -/
theorem zown_reachable {n : Nat} {s : State} (h : Reachable n s) : Zown s := by
  induction h with
  | init => exact zown_init n
  | step hr hs ih =>
    have i := inv_reachable hr
    exact zown_step i.1 i.2 ih (step_ownStep i.1 i.2.lwf hs)

/-- The transaction of commit record `r` is out of circulation: its tid has been allocated, it is neither installed
    nor a session's transaction, and its heap cell still reads what was recorded. -/
def Frozen (e : Eng) (ss : SessId → Sess) (tx : Tid → Txn) (r : CRec) : Prop :=
  r.tid < e.nextTid ∧ e.txn ≠ some r.tid ∧ (∀ sid, (ss sid).txn ≠ some r.tid) ∧
  (tx r.tid).ops = r.ops ∧ (tx r.tid).base = r.base

/-- Committed transactions are never touched again, and a transaction being stored by Commit has left every
    session. Clause 2 (the session callback runs on the session's transaction) indexes sessions by the actor id `b`:
    it speaks of `b`'s own session, which is what `Uinv` makes of `(s.loc b).sid`, so it means something only under
    `Uinv`. -/
def Zfrz (s : State) : Prop :=
  (∀ r ∈ s.commitLog, Frozen s.eng s.sess s.txns r) ∧
  (∀ b, (s.loc b).pc = .uCbSess → (s.sess b).txn = (s.loc b).t) ∧
  (∀ b t, (s.loc b).pc = .cStore → (s.loc b).t = some t → ∀ sid, (s.sess sid).txn ≠ some t)

theorem zfrz_init (n : Nat) : Zfrz (init n) := by
  refine ⟨fun _ h => (nomatch h), fun b => ?_, fun b => ?_⟩ <;>
    (simp only [init]; by_cases hb : b = 0 <;> simp [hb])

/-- How transactions circulate in one step: tids are allocated upwards, the engine installs only a fresh tid, a
    session adopts only the installed transaction, and a heap cell is written only while its tid is fresh,
    installed or a session's. -/
structure Circ (e e' : Eng) (ss ss' : SessId → Sess) (tx tx' : Tid → Txn) : Prop where
  next : e.nextTid ≤ e'.nextTid
  txn : ∀ t, e'.txn = some t → e.txn = some t ∨ e.nextTid ≤ t
  sess : ∀ sid t, (ss' sid).txn = some t → (ss sid).txn = some t ∨ e.txn = some t
  cell : ∀ t, tx' t = tx t ∨ e.nextTid ≤ t ∨ e.txn = some t ∨ ∃ sid, (ss sid).txn = some t

theorem Circ.same {e e' : Eng} {ss ss' : SessId → Sess} {tx : Tid → Txn} (hn : e'.nextTid = e.nextTid)
    (ht : e'.txn = e.txn) (hs : ∀ sid, (ss' sid).txn = (ss sid).txn) : Circ e e' ss ss' tx tx :=
  ⟨Nat.le_of_eq hn.symm, fun _ h => .inl (ht ▸ h), fun sid _ h => .inl (hs sid ▸ h), fun _ => .inl rfl⟩

theorem Frozen.step {e e' : Eng} {ss ss' : SessId → Sess} {tx tx' : Tid → Txn} {r : CRec}
    (h : Frozen e ss tx r) (c : Circ e e' ss ss' tx tx') : Frozen e' ss' tx' r := by
  obtain ⟨h1, h2, h3, h4, h5⟩ := h
  refine ⟨Nat.lt_of_lt_of_le h1 c.next, fun ht => ?_, fun sid hs => ?_, ?_⟩
  · rcases c.txn _ ht with h | h
    · exact h2 h
    · exact Nat.lt_irrefl _ (Nat.lt_of_lt_of_le h1 h)
  · rcases c.sess sid _ hs with h | h
    · exact h3 sid h
    · exact h2 h
  · rcases c.cell r.tid with h | h | h | ⟨sid, h⟩
    · rw [h]; exact ⟨h4, h5⟩
    · exact absurd (Nat.lt_of_lt_of_le h1 h) (Nat.lt_irrefl _)
    · exact absurd h h2
    · exact absurd h (h3 sid)

/-- `own`: with unshared sessions a step of `a` rewrites no session but `a`'s. -/
theorem Zfrz.lift {s s' : State} {a : ActorId} {l' : Local} (h : Zfrz s) (i : Inv1 s)
    (hl : s'.loc = upd s.loc a l') (circ : Circ s.eng s'.eng s.sess s'.sess s.txns s'.txns)
    (own : ∀ b, b ≠ a → (s'.sess b).txn = (s.sess b).txn)
    (log : ∀ r ∈ s'.commitLog, r ∈ s.commitLog ∨ Frozen s'.eng s'.sess s'.txns r)
    (cb : l'.pc = .uCbSess → (s'.sess a).txn = l'.t)
    (store : ∀ t, l'.pc = .cStore → l'.t = some t → ∀ sid, (s'.sess sid).txn ≠ some t) : Zfrz s' := by
  rw [Zfrz, hl]
  refine ⟨fun r hr => (log r hr).elim (fun hr => (h.1 r hr).step circ) id, fun b => ?_, fun b t => ?_⟩
  · by_cases hb : b = a
    · rw [hb, upd_same]; exact cb
    · rw [upd_other _ _ _ _ hb, own b hb]; exact h.2.1 b
  · by_cases hb : b = a
    · rw [hb, upd_same]; exact store t
    · rw [upd_other _ _ _ _ hb]
      intro hp ht sid hs
      -- a session adopts only the installed transaction, and nothing is installed while `b` stores
      rcases circ.sess sid t hs with h' | h'
      · exact h.2.2 b t hp ht sid h'
      · rw [i.txn_none_of_cStore hp] at h'; cases h'

/-- what the sessions hold after one of them was rewritten -/
theorem upd_sess_cases {ss : SessId → Sess} {sid₀ sid : SessId} {x : Sess} {t : Tid}
    (h : (upd ss sid₀ x sid).txn = some t) : (ss sid).txn = some t ∨ x.txn = some t := by
  rw [upd_apply] at h
  split at h
  · exact .inr h
  · exact .inl h

theorem zfrz_step {s s' : State} {a : ActorId} (h1 : Inv1 s) (h2 : Inv2 s) (u : Uinv s) (zo : Zown s) (g : Zfrz s)
    (d : OwnStep a s s') : Zfrz s' := by
  obtain ⟨p, pr, -⟩ := zo.1 a
  have z2 := zo.2
  have fc := g.2.1 a
  have fs := g.2.2 a
  obtain ⟨uc, us⟩ := u a
  have bnd := h2.bnd
  -- a transaction `a` is about to commit is no session's
  have mine : ∀ t, s.eng.txn = some t → (s.loc a).t = some t → FinPos (s.loc a) → ∀ sid, (s.sess sid).txn ≠ some t :=
    fun t ht hl f sid c => by
      have := p t ht (OwnsL_iff.2 (.inr ⟨hl, f⟩)); rw [z2 sid t ht c] at this; cases this
  -- a session method rewrites the session of `a`, which adopts nothing but the installed transaction
  have sess_write : ∀ {l' : Local} {x : Sess}, s'.loc = upd s.loc a l' → s'.sess = upd s.sess (s.loc a).sid x →
      s'.commitLog = s.commitLog → s'.txns = s.txns → s'.eng.txn = s.eng.txn → s'.eng.nextTid = s.eng.nextTid →
      (l'.pc = .idle ∨ l'.pc = .cLock) → (∀ t, x.txn = some t → s.eng.txn = some t) → Zfrz s' :=
    fun hl hs hc cells hx hn hp' adopt => by
      refine g.lift h1 hl (cells ▸ ⟨Nat.le_of_eq hn.symm, fun _ h => .inl (hx ▸ h), fun sid t h => ?_, fun _ => .inl rfl⟩)
        (fun b hb => by rw [hs, us, upd_other _ _ _ _ hb]) (fun r hr => .inl (hc ▸ hr)) (fun h => ?_) fun _ h => ?_
      · rw [hs] at h
        exact (upd_sess_cases h).imp id (adopt t)
      · rcases hp' with e | e <;> rw [e] at h <;> cases h
      · rcases hp' with e | e <;> rw [e] at h <;> cases h
  cases d with
  | move l' hl he hs hc cells _ _ _ _ nu nc =>
    obtain ⟨e1, -, e3, -⟩ := he
    refine g.lift h1 hl ⟨Nat.le_of_eq e3.symm, fun _ h => .inl (e1 ▸ h), fun sid _ h => .inl (hs sid ▸ h), fun t => ?_⟩
      (fun b _ => hs b) (fun r hr => .inl (hc ▸ hr)) (fun h => absurd h nu) fun _ h => absurd h nc
    -- a callback writes into the installed transaction, or into its session's
    rcases cells t with h | ⟨ht, hw | hw⟩
    · exact .inl h
    · exact .inr (.inr (.inl ((pr hw).1.symm.trans ht)))
    · exact .inr (.inr (.inr ⟨a, (fc hw).trans ht⟩))
  | regs l' hl he hs hc cells _ _ _ _ _ cb nc =>
    obtain ⟨e1, -, e3, -⟩ := he
    refine g.lift h1 hl (cells ▸ .same e3 e1 hs) (fun b _ => hs b) (fun r hr => .inl (hc ▸ hr)) (fun h => ?_)
      fun _ h => absurd h nc
    obtain ⟨sid, h, e⟩ := cb h
    rw [hs, e, uc sid h]
  | fresh l' tx hl hs hc cells hn _ _ _ _ hp' _ hi =>
    refine g.lift h1 hl ⟨hn ▸ Nat.le_succ _, fun t h => ?_, fun sid _ h => .inl (hs sid ▸ h), fun t => ?_⟩
      (fun b _ => hs b) (fun r hr => .inl (hc ▸ hr)) (fun h => by rw [hp'] at h; cases h)
      fun _ h => by rw [hp'] at h; cases h
    · rcases hi with ⟨e, _⟩ | ⟨_, e, _⟩
      · exact .inl (e ▸ h)
      · exact .inr (Nat.le_of_eq (Option.some.inj (e.symm.trans h)))
    · rw [cells, upd_apply]
      split
      · next e => exact .inr (.inl (Nat.le_of_eq e.symm))
      · exact .inl rfl
  | fin l' hl hs cells _ hn _ hx _ et _ _ _ _ pcs log =>
    have circ : Circ s.eng s'.eng s.sess s'.sess s.txns s'.txns :=
      cells ▸ ⟨Nat.le_of_eq hn.symm, fun t h => .inl (txn_of_fin hx h), fun sid _ h => .inl (hs sid ▸ h),
        fun _ => .inl rfl⟩
    refine g.lift h1 hl circ (fun b _ => hs b) (fun r hr => ?_) (fun h => ?_) fun t h c sid => ?_
    · rcases log with e | ⟨t, r₀, lt, en, src, e, rt, ro, rb⟩
      · exact .inl (e ▸ hr)
      · rw [e, List.mem_append, List.mem_singleton] at hr
        refine hr.imp id fun hr => ?_
        subst hr
        refine ⟨rt ▸ hn ▸ bnd.2.1 a t lt, by rw [en]; nofun, fun sid => ?_, by rw [cells, rt]; exact ro.symm,
          by rw [cells, rt]; exact rb.symm⟩
        rw [hs, rt]
        rcases src with ⟨hp, he⟩ | hp
        · exact mine t he lt (.inr (.inr (.inl hp))) sid
        · exact fs t hp lt sid
    · rcases pcs with e | ⟨e, _⟩ <;> rw [e] at h <;> cases h
    · rw [hs]
      rcases pcs with e | ⟨_, hp, _, e⟩
      · rw [e] at h; cases h
      · exact mine t (e.trans (et ▸ c)) (et ▸ c) (.inr (.inr (.inl hp))) sid
  | give l' x hl hs hc cells hx hn _ _ _ hp hr ex hp' =>
    have pw : PreW (s.loc a) := .inr (.inr (.inr ⟨.inr hp, hr⟩))
    exact sess_write hl hs hc cells hx hn (.inl hp') fun t h => (pr pw).1.symm.trans (ex ▸ h)
  | back l' x t₀ hl hs hc cells hx hn _ _ _ _ _ ex hp' =>
    exact sess_write hl hs hc cells hx hn (.inr hp') fun t h => by rw [ex] at h; cases h
  | clear l' x hl hs hc cells he _ _ ex hp' =>
    exact sess_write hl hs hc cells he.1 he.2.2.1 (.inl hp') fun t h => by rw [ex] at h; cases h

theorem zfrz_reachable {n : Nat} {s : State} (h : ReachableU n s) : Zfrz s := by
  induction h with
  | init => exact zfrz_init n
  | step hr _ hs ih =>
    have i := inv_reachable hr.reachable
    exact zfrz_step i.1 i.2 (uinv_reachable hr) (zown_reachable hr.reachable) ih (step_ownStep i.1 i.2.lwf hs)

end Lungo.Conc
