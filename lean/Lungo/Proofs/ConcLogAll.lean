/-
  Lungo.Proofs.ConcLogAll — the positions recorded in `done` / `before` are the end positions of actual commit records
  (`Ninv`: links the real-time bookkeeping to `commitLog`), and `Linv`, `Rinv`, `Pinv`, `Hinv`, `Ninv` hold in every
  reachable state.
-/
import Lungo.Proofs.ConcAll
import Lungo.Proofs.ConcLog2
namespace Lungo.Conc

/-- `p = (tid, end position)` of some record of the commit log -/
def Named (cl : List CRec) (p : Tid × Nat) : Prop :=
  ∃ r ∈ cl, r.tid = p.1 ∧ r.base.length + r.ops.length = p.2

theorem Named.mono {cl : List CRec} {p : Tid × Nat} (h : Named cl p) (r : CRec) : Named (cl ++ [r]) p := by
  obtain ⟨r', hr, h1, h2⟩ := h
  exact ⟨r', by simp [hr], h1, h2⟩

theorem Named.last (cl : List CRec) (r : CRec) (t k : Nat) (h1 : r.tid = t)
    (h2 : r.base.length + r.ops.length = k) : Named (cl ++ [r]) (t, k) :=
  ⟨r, by simp, h1, h2⟩

/-- the commits an actor's ghost registers speak of are in the commit log `cl` -/
def RegNamed (cl : List CRec) (l : Local) : Prop :=
  (∀ p ∈ l.invDone, Named cl p) ∧ (∀ p, l.cmt = some p → Named cl p)

/-- every ghost record of "this commit had returned" (global, in an actor's registers, in a transaction, in a commit
    record) is about a commit that is in the commit log, with the end position it has there -/
def Ninv (s : State) : Prop :=
  (∀ p ∈ s.done, Named s.commitLog p) ∧
  (∀ a, RegNamed s.commitLog (s.loc a)) ∧
  (∀ t, t < s.eng.nextTid → ∀ p ∈ (s.txns t).before, Named s.commitLog p) ∧
  (∀ r ∈ s.commitLog, ∀ p ∈ r.before, Named s.commitLog p)

theorem ninv_init (n : Nat) : Ninv (init n) := by
  refine ⟨nofun, fun b => ?_, fun t h => absurd h (Nat.not_lt_zero t), nofun⟩
  simp only [init, RegNamed]
  split <;> simp

theorem RegNamed.same {cl : List CRec} {l l' : Local} (h : RegNamed cl l) (hs : l.SameCall l') : RegNamed cl l' := by
  unfold RegNamed
  rw [hs.2.1, hs.2.2.1]; exact h

/-- `Ninv` of a state with the commit log of `s` and the registers of `s` except for actor `a` -/
theorem Ninv.of_upd {s s' : State} {a : ActorId} {l' : Local} {k : Nat} (g : Ninv s)
    (hl : s'.loc = upd s.loc a l') (hcl : s'.commitLog = s.commitLog) (hk : s'.eng.nextTid = k)
    (n0 : ∀ p ∈ s'.done, Named s.commitLog p) (n1 : RegNamed s.commitLog l')
    (n2 : ∀ t, t < k → ∀ p ∈ (s'.txns t).before, Named s.commitLog p) : Ninv s' := by
  unfold Ninv
  rw [hcl, hk, hl]
  refine ⟨n0, fun b => ?_, n2, g.2.2.2⟩
  rw [upd_apply]
  split
  · exact n1
  · exact g.2.1 b

theorem Ninv.write {s : State} (g : Ninv s) (t : Tid) : Ninv (s.write t) := by
  refine ⟨g.1, g.2.1, fun t' ht' => ?_, g.2.2.2⟩
  rw [(s.write_txns t t').2.2]
  exact g.2.2.1 t' ht'

theorem ninv_step {s s' : State} {a : ActorId} (bnd : Bnd s) (lv : Linv s) (g : Ninv s)
    (d : LogStep a s s') : Ninv s' := by
  induction d with
  | move l' e' he hsc => exact g.of_upd rfl rfl he.2.1 g.1 ((g.2.1 a).same hsc) g.2.2.1
  | invoke l' _ hd hc =>
    refine g.of_upd rfl rfl rfl g.1 ⟨?_, ?_⟩ g.2.2.1
    · rw [hd]; exact g.1
    · rw [hc]; nofun
  | @finish s l₁ e' r pc he hsc =>
    refine g.of_upd rfl rfl he.2.1 ?_ ((g.2.1 a).same hsc) g.2.2.1
    rw [State.finish_done, hsc.2.2.1]
    exact forall_mem_append_toList g.1 (g.2.1 a).2
  | read =>
    refine g.of_upd rfl rfl rfl ?_ (g.2.1 a) g.2.2.1
    rw [State.finish_done]
    exact forall_mem_append_toList g.1 (g.2.1 a).2
  | @«begin» s l' e' locked _ hn _ hsc =>
    refine g.of_upd rfl rfl hn g.1 ((g.2.1 a).same hsc) fun t ht => ?_
    show ∀ p ∈ (upd s.txns s.eng.nextTid (newTxn s (s.loc a) locked) t).before, _
    rw [upd_apply]
    split
    · exact (g.2.1 a).1
    · exact g.2.2.1 t (by omega)
  | @commit s t l' e' ops ht src _ hcat hn _ _ _ hd hcm _ =>
    obtain ⟨hb, hc⟩ := lv.commit ht src hcat
    have up : ∀ {p}, Named s.commitLog p →
        Named (s.commitLog ++ [⟨t, (s.txns t).base, ops, (s.txns t).invLen, (s.txns t).before⟩]) p :=
      fun h => h.mono _
    refine ⟨fun p hp => up (g.1 p hp), fun b => ?_, fun t' ht' p hp => up (g.2.2.1 t' (hn ▸ ht') p hp),
      fun r hr p hp => ?_⟩
    · show RegNamed _ (upd s.loc a l' b)
      rw [upd_apply]
      split
      · refine ⟨fun p hp => up ((g.2.1 a).1 p (hd ▸ hp)), fun p hp => ?_⟩
        rw [← Option.some.inj (hcm.symm.trans hp)]
        exact Named.last _ _ _ _ rfl (by rw [hc, hb, List.length_append])
      · exact ⟨fun p hp => up ((g.2.1 b).1 p hp), fun p hp => up ((g.2.1 b).2 p hp)⟩
    · rcases List.mem_append.1 hr with hr | hr
      · exact up (g.2.2.2 r hr p hp)
      · rw [List.mem_singleton.1 hr] at hp
        exact up (g.2.2.1 t (bnd.2.1 a t ht) p hp)
  | write t _ _ ih => exact ih bnd (lv.write t) (g.write t)
  | sess sid x _ ih => exact ih bnd lv g

/-- The invariants about the ghost history (commit log, recorded reads, real-time positions) from which C04's
    serialisability and snapshot theorems are read off; they hold under `Inv1` and `Inv2`. -/
structure Inv3 (s : State) : Prop where
  linv : Linv s
  rinv : Rinv s
  pinv : Pinv s
  hinv : Hinv s
  ninv : Ninv s

theorem inv3_step {s s' : State} {a : ActorId} {c : Choice} (h1 : Inv1 s) (h2 : Inv2 s) (g : Inv3 s)
    (hs : step s a c = some s') : Inv3 s' :=
  have d := step_logStep h1 hs
  ⟨linv_step h1 h2.bnd g.linv d, rinv_step h2.bnd g.linv g.rinv d, pinv_step h2.bnd g.linv g.rinv g.pinv d,
    hinv_step h2.bnd g.hinv d, ninv_step h2.bnd g.linv g.ninv d⟩

theorem inv3_reachable {n : Nat} {s : State} (h : Reachable n s) : Inv3 s := by
  induction h with
  | init => exact ⟨linv_init n, rinv_init n, pinv_init n, hinv_init n, ninv_init n⟩
  | step hr hs ih => exact inv3_step (inv_reachable hr).1 (inv_reachable hr).2 ih hs

theorem linv_reachable {n : Nat} {s : State} (h : Reachable n s) : Linv s := (inv3_reachable h).linv

theorem ninv_reachable {n : Nat} {s : State} (h : Reachable n s) : Ninv s := (inv3_reachable h).ninv

/-- the log is append-only: a step either leaves the catalog alone or appends the committing
    transaction's operations -/
theorem catalog_grows {n : Nat} {s s' : State} {a : ActorId} {c : Choice} (h : Reachable n s)
    (hs : step s a c = some s') : ∃ ops, s'.eng.catalog = s.eng.catalog ++ ops := by
  have d := step_logStep (inv_reachable h).1 hs
  have lv := linv_reachable h
  clear h hs
  induction d with
  | move l' e' he => exact ⟨[], he.1.trans (List.append_nil _).symm⟩
  | invoke => exact ⟨[], (List.append_nil _).symm⟩
  | finish l₁ e' r pc he => exact ⟨[], he.1.trans (List.append_nil _).symm⟩
  | read => exact ⟨[], (List.append_nil _).symm⟩
  | «begin» l' e' locked hc => exact ⟨[], hc.trans (List.append_nil _).symm⟩
  | commit t l' e' ops ht src _ hcat => exact ⟨ops, (lv.commit ht src hcat).2⟩
  | write t _ _ ih => exact ih (lv.write t)
  | sess sid x _ ih => exact ih lv

end Lungo.Conc
