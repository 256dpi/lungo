/-
  The invariant of an open GridFS upload stream (`UpInv`; between two calls: `Ready`) and what Write, upload and
  Close do to it.
-/
import Lungo.Proofs.GridFSChunks
namespace Lungo.GridFS
open Lungo.Spec

/-! ### lists whose front part fails a test that the rest passes (documents of other files, then ours) -/

theorem filter_append_eq_left {α : Type} {p : α → Bool} {l r : List α} (hl : ∀ a ∈ l, p a = true)
    (hr : ∀ a ∈ r, p a = false) : (l ++ r).filter p = l := by
  rw [List.filter_append, List.filter_eq_self.mpr hl, List.filter_eq_nil_iff.mpr fun a ha => by simp [hr a ha],
    List.append_nil]

theorem filter_append_eq_right {α : Type} {p : α → Bool} {l r : List α} (hl : ∀ a ∈ l, p a = false)
    (hr : ∀ a ∈ r, p a = true) : (l ++ r).filter p = r := by
  rw [List.filter_append, List.filter_eq_self.mpr hr, List.filter_eq_nil_iff.mpr fun a ha => by simp [hl a ha],
    List.nil_append]

theorem find?_append_eq_last {α : Type} {p : α → Bool} {l : List α} {x : α} (hl : ∀ a ∈ l, p a = false)
    (hx : p x = true) : (l ++ [x]).find? p = some x := by
  rw [List.find?_append, List.find?_eq_none.mpr fun a ha => by simp [hl a ha], Option.none_or, List.find?_cons_of_pos hx]

theorem map_ite_append_last {α : Type} {p : α → Bool} {l : List α} {x : α} (y : α) (hl : ∀ a ∈ l, p a = false)
    (hx : p x = true) : (l ++ [x]).map (fun a => if p a then y else a) = l ++ [y] := by
  rw [List.map_append, List.map_congr_left (g := fun a => a) fun a ha => by simp [hl a ha], List.map_id']
  simp [hx]

/-- removing by key the last element, whose key no other element has -/
theorem filter_key_append_last {α : Type} (key : α → Nat) {l : List α} (x : α) (h : ∀ y ∈ l, key y ≠ key x) :
    (l ++ [x]).filter (fun y => key y != key x) = l :=
  filter_append_eq_left (fun y hy => bne_iff_ne.mpr (h y hy)) fun y hy => by
    rw [List.mem_singleton.mp hy, bne_self_eq_false]

theorem insertChunks_mkDocs (id : Nat) : ∀ (D : List Bytes) (k : Nat) (st : Store),
    (∀ d ∈ st.chunks, d.file = id → d.n < k) →
    st.insertChunks (mkDocs id k D) = ({ st with chunks := st.chunks ++ mkDocs id k D }, none)
  | [], _, _, _ => by rw [mkDocs, List.append_nil]; rfl
  | a :: D, k, st, h => by
    have hno : st.hasChunk id k = false := by
      rw [Store.hasChunk, List.any_eq_false]
      intro d hd hdk
      rw [Bool.and_eq_true, beq_iff_eq, beq_iff_eq] at hdk
      exact absurd (h d hd hdk.1) (by omega)
    rw [mkDocs, Store.insertChunks, hno, if_neg Bool.false_ne_true, insertChunks_mkDocs id D (k + 1), List.append_assoc]
    · rfl
    · intro d hd hf
      rcases List.mem_append.mp hd with hd | hd
      · exact Nat.lt_succ_of_lt (h d hd hf)
      · rw [List.mem_singleton.mp hd]; exact Nat.lt_succ_self k

theorem ite_insertChunks (st : Store) (docs : List ChunkDoc) :
    (if docs.isEmpty then (st, none) else st.insertChunks docs) = st.insertChunks docs := by
  cases docs <;> rfl

theorem findMarker_none_of (st : Store) (id : Nat) (h : ∀ m ∈ st.markers, m.file ≠ id) :
    st.findMarker id = none :=
  List.find?_eq_none.mpr fun m hm => by simpa using h m hm

theorem findFile_none_of (st : Store) (id : Nat) (h : ∀ f ∈ st.files, f.id ≠ id) : st.findFile id = none :=
  List.find?_eq_none.mpr fun f hf => by simpa using h f hf

theorem findMarker_last {st : Store} {Mb : List Marker} {m : Marker} (hm : st.markers = Mb ++ [m])
    (h : ∀ x ∈ Mb, x.file ≠ m.file) : st.findMarker m.file = some m := by
  rw [Store.findMarker, hm]
  exact find?_append_eq_last (fun x hx => beq_eq_false_iff_ne.mpr (h x hx)) (beq_self_eq_true _)

theorem findFile_last {st : Store} {F : List FileDoc} {f : FileDoc} (hf : st.files = F ++ [f])
    (h : ∀ x ∈ F, x.id ≠ f.id) : st.findFile f.id = some f := by
  rw [Store.findFile, hf]
  exact find?_append_eq_last (fun x hx => beq_eq_false_iff_ne.mpr (h x hx)) (beq_self_eq_true _)

theorem pairwise_mkDocs (id : Nat) : ∀ (D : List Bytes) (k : Nat),
    List.Pairwise (fun a b : ChunkDoc => decide (a.n ≤ b.n) = true) (mkDocs id k D)
  | [], _ => List.Pairwise.nil
  | a :: D, k => by
    rw [mkDocs, List.pairwise_cons]
    exact ⟨fun b hb => decide_eq_true (Nat.le_of_succ_le (mem_mkDocs id D (k + 1) b hb).2.1), pairwise_mkDocs id D (k + 1)⟩

/-- `Find({files_id: id}).sort({n: 1})` returns exactly the documents appended for the file -/
theorem chunksOfFile_eq (st : Store) (C0 : List ChunkDoc) (id : Nat) (D : List Bytes)
    (h : st.chunks = C0 ++ mkDocs id 0 D) (hC0 : ∀ d ∈ C0, d.file ≠ id) :
    st.chunksOfFile id = mkDocs id 0 D := by
  rw [Store.chunksOfFile, h, filter_append_eq_right (fun d hd => beq_eq_false_iff_ne.mpr (hC0 d hd))
    fun d hd => beq_iff_eq.mpr (mem_mkDocs id D 0 d hd).1]
  exact List.mergeSort_of_pairwise (pairwise_mkDocs id D 0)

/-! ### the invariant of an open upload stream

  `C0`, `F0`, `Mb` are the chunk, file and marker documents of *other* files; `P` is the content
  accepted so far (persisted chunks `D` followed by the buffer). -/

structure UpInv (C0 : List ChunkDoc) (F0 : List FileDoc) (Mb : List Marker) (id c B : Nat) (tracked : Bool)
    (st : Store) (s : UploadStream) (P : Bytes) (D : List Bytes) : Prop where
  closed : s.closed = false
  sid : s.id = id
  sc : s.chunkSize = c
  sB : s.bufCap = B
  str : s.tracked = tracked
  chunks : st.chunks = C0 ++ mkDocs id 0 D
  files : st.files = F0
  flat : D.flatten ++ s.buffer = P
  cnt : s.chunks = D.length
  len : s.length = D.flatten.length
  mark : (s.marker = none ∧ st.markers = Mb) ∨
         (tracked = true ∧ ∃ mid, s.marker = some mid ∧ st.markers = Mb ++ [⟨mid, id, .uploading, 0, c⟩] ∧
            ∀ m ∈ Mb, m.id ≠ mid)
  fresh : ∀ m ∈ st.markers, m.id < st.nextId
  trk : tracked = true → s.marker = none → D = []

/-- side conditions on the rest of the store -/
structure Env (C0 : List ChunkDoc) (Mb : List Marker) (id c B : Nat) : Prop where
  hc : 0 < c
  hcB : c ≤ B
  hC0 : ∀ d ∈ C0, d.file ≠ id
  hMb : ∀ m ∈ Mb, m.file ≠ id

def AllFull (c : Nat) (D : List Bytes) : Prop := ∀ d ∈ D, d.length = c

section
variable {C0 : List ChunkDoc} {F0 : List FileDoc} {Mb : List Marker} {id c B : Nat} {tracked : Bool}
  {st : Store} {s : UploadStream} {P : Bytes} {D : List Bytes}

/-- a stream without a marker has none in the store; a tracked one with a marker has it last -/
theorem UpInv.marker_none (inv : UpInv C0 F0 Mb id c B tracked st s P D) (h : s.marker = none) :
    st.markers = Mb := by
  rcases inv.mark with ⟨_, hM⟩ | ⟨_, mid, hm, _⟩
  · exact hM
  · rw [h] at hm; cases hm

theorem UpInv.marker_isSome (inv : UpInv C0 F0 Mb id c B tracked st s P D) (h : s.marker.isSome) :
    tracked = true ∧ ∃ mid, s.marker = some mid ∧ st.markers = Mb ++ [⟨mid, id, .uploading, 0, c⟩] ∧
      ∀ m ∈ Mb, m.id ≠ mid := by
  rcases inv.mark with ⟨hm, _⟩ | h'
  · rw [hm] at h; cases h
  · exact h'

/-- The marker part of upload(): afterwards a tracked stream has its marker, the rest of the stream is as
    before.  The new marker's id is `nextId`, above every id in the store (`fresh`), and no marker of the
    file exists yet (`Env.hMb`), so the unique index accepts it. -/
theorem ensureMarker_ok (env : Env C0 Mb id c B) (inv : UpInv C0 F0 Mb id c B tracked st s P D) :
    ∃ st' mk, s.ensureMarker st = (st', { s with marker := mk }, none) ∧
      UpInv C0 F0 Mb id c B tracked st' { s with marker := mk } P D ∧ (tracked = true → mk.isSome) := by
  unfold UploadStream.ensureMarker
  split
  · rename_i hm
    have hnone : s.marker = none := Option.isNone_iff_eq_none.mp hm.1
    have hmk := inv.marker_none hnone
    have hfind : ({ st with nextId := st.nextId + 1 } : Store).findMarker s.id = none :=
      findMarker_none_of _ _ (by rw [inv.sid]; exact hmk ▸ env.hMb)
    rw [Store.insertMarker, hfind, if_neg (by simp)]
    refine ⟨_, _, rfl, { inv with mark := ?_, fresh := ?_, trk := ?_ }, fun _ => rfl⟩
    · exact .inr ⟨inv.str ▸ hm.2, st.nextId, rfl, by rw [hmk, inv.sid, inv.sc],
        fun m hm => Nat.ne_of_lt (inv.fresh m (hmk ▸ hm))⟩
    · intro m hm
      rcases List.mem_append.mp hm with hm | hm
      · exact Nat.lt_succ_of_lt (inv.fresh m hm)
      · rw [List.mem_singleton.mp hm]; exact Nat.lt_succ_self _
    · exact fun _ h => nomatch h
  · rename_i hm
    refine ⟨st, s.marker, rfl, inv, fun htr => ?_⟩
    cases h : s.marker with
    | some _ => rfl
    | none => exact absurd ⟨by rw [h]; rfl, inv.str.trans htr⟩ hm

/-- upload(final), given what the cut loop returns: the pieces are appended to the persisted chunks.  Their
    numbers start at `D.length`, above every number the file has in the store, so no insert is refused. -/
theorem upload_ok (env : Env C0 Mb id c B) (inv : UpInv C0 F0 Mb id c B tracked st s P D) {final : Bool}
    {pcs : List Bytes} {rest : Bytes} (hcut : cut c final (s.buffer.length + 1) s.buffer = (pcs, rest))
    (hflat : pcs.flatten ++ rest = s.buffer) :
    ∃ st' s', s.upload st final = (st', s', none) ∧ UpInv C0 F0 Mb id c B tracked st' s' P (D ++ pcs) ∧
      s'.buffer = rest ∧ (tracked = true → s'.marker.isSome) := by
  obtain ⟨st1, mk, hm, inv1, hmk⟩ := ensureMarker_ok env inv
  have hins := insertChunks_mkDocs s.id pcs s.chunks st1 fun d hd hf => by
    rw [inv1.chunks] at hd
    rcases List.mem_append.mp hd with hd | hd
    · exact absurd (hf.trans inv.sid) (env.hC0 d hd)
    · simpa [inv.cnt] using (mem_mkDocs id D 0 d hd).2.2.1
  rw [← inv.sc] at hcut
  unfold UploadStream.upload
  simp only [ite_insertChunks]
  simp only [hm, hcut, hins]
  refine ⟨_, _, rfl, { inv1 with chunks := ?_, flat := ?_, cnt := ?_, len := ?_, trk := ?_ }, rfl, hmk⟩
  · show st1.chunks ++ _ = _
    rw [inv1.chunks, inv.sid, inv.cnt, List.append_assoc, mkDocs_append, Nat.zero_add]
  · show (D ++ pcs).flatten ++ rest = P
    rw [List.flatten_append, List.append_assoc, hflat, inv.flat]
  · show s.chunks + _ = _
    rw [inv.cnt, List.length_append]
  · show s.length + _ = _
    rw [inv.len, List.flatten_append, List.length_append]
  · intro htr (hnone : mk = none)
    have := hmk htr
    rw [hnone] at this; cases this

theorem UpInv.push {st : Store} {s : UploadStream} {P : Bytes} {D : List Bytes}
    (inv : UpInv C0 F0 Mb id c B tracked st s P D) (x : Bytes) :
    UpInv C0 F0 Mb id c B tracked st { s with buffer := s.buffer ++ x } (P ++ x) D :=
  { inv with flat := by rw [← inv.flat, List.append_assoc] }

theorem UpInv.init (st : Store) (hC : st.chunks = C0) (hF : st.files = F0) (hM : st.markers = Mb)
    (hfresh : ∀ m ∈ st.markers, m.id < st.nextId) :
    UpInv C0 F0 Mb id c B tracked st (UploadStream.new tracked id c B) [] [] :=
  { closed := rfl, sid := rfl, sc := rfl, sB := rfl, str := rfl
    chunks := by rw [hC]; exact (List.append_nil _).symm
    files := hF, flat := rfl, cnt := rfl, len := rfl
    mark := Or.inl ⟨rfl, hM⟩, fresh := hfresh, trk := fun _ _ => rfl }

theorem UpInv.length_eq {st : Store} {s : UploadStream} {P : Bytes} {D : List Bytes}
    (inv : UpInv C0 F0 Mb id c B tracked st s P D) (hb : s.buffer = []) : s.length = P.length := by
  rw [inv.len, ← inv.flat, hb, List.append_nil]

/-- An open stream between two calls: the invariant holds, only full chunks are persisted and the buffer
    has room (Write flushes as soon as it is full). -/
def Ready (C0 : List ChunkDoc) (F0 : List FileDoc) (Mb : List Marker) (id c B : Nat) (tracked : Bool)
    (st : Store) (s : UploadStream) (P : Bytes) : Prop :=
  ∃ D, UpInv C0 F0 Mb id c B tracked st s P D ∧ AllFull c D ∧ s.buffer.length < B

/-- with nothing buffered and full chunks persisted the stream is ready (`0 < c ≤ B`) -/
theorem UpInv.ready (inv : UpInv C0 F0 Mb id c B tracked st s P D) (env : Env C0 Mb id c B) (hD : AllFull c D)
    (hb : s.buffer = []) : Ready C0 F0 Mb id c B tracked st s P :=
  ⟨D, inv, hD, by rw [hb]; exact Nat.lt_of_lt_of_le env.hc env.hcB⟩

theorem Ready.init (env : Env C0 Mb id c B) (st : Store) (hC : st.chunks = C0) (hF : st.files = F0)
    (hM : st.markers = Mb) (hfresh : ∀ m ∈ st.markers, m.id < st.nextId) :
    Ready C0 F0 Mb id c B tracked st (UploadStream.new tracked id c B) [] :=
  (UpInv.init st hC hF hM hfresh).ready env (fun _ hd => absurd hd List.not_mem_nil) rfl

/-- the number of bytes a round of Write copies into a buffer with room -/
theorem copy_bounds {cap len dlen n : Nat} (hb : len < cap) (h0 : dlen ≠ 0) (hn : min (cap - len) dlen = n) :
    0 < n ∧ n ≤ dlen ∧ len + n ≤ cap :=
  hn ▸ ⟨Nat.lt_min.mpr ⟨Nat.sub_pos_of_lt hb, Nat.pos_of_ne_zero h0⟩, Nat.min_le_right ..,
    (Nat.le_sub_iff_add_le' (Nat.le_of_lt hb)).mp (Nat.min_le_left ..)⟩

/-- upload(false) persists the full chunks of the buffer and keeps less than one chunk -/
theorem upload_false_ok (env : Env C0 Mb id c B) (inv : UpInv C0 F0 Mb id c B tracked st s P D)
    (hD : AllFull c D) :
    ∃ st' s' D', s.upload st false = (st', s', none) ∧ UpInv C0 F0 Mb id c B tracked st' s' P D' ∧
      AllFull c D' ∧ s'.buffer.length < c := by
  obtain ⟨h1, h2, h3⟩ := cut_false env.hc (s.buffer.length + 1) s.buffer (Nat.lt_succ_self _)
  obtain ⟨st', s', hu, inv', hb, _⟩ := upload_ok env inv rfl h1
  refine ⟨st', s', _, hu, inv', fun x hx => ?_, hb ▸ h3⟩
  rcases List.mem_append.mp hx with hx | hx
  · exact hD x hx
  · exact h2 x hx

/-- The loop of Write accepts all the data.  Each round copies `n > 0` bytes, as many as fit, and flushes
    when that fills the buffer; the flush leaves less than a chunk, hence room again since `c ≤ B`. -/
theorem writeLoop_ok (env : Env C0 Mb id c B) : ∀ (fuel : Nat) (data : Bytes) (written : Nat) (st : Store)
    (s : UploadStream) (P : Bytes), Ready C0 F0 Mb id c B tracked st s P → data.length < fuel →
    ∃ st' s', writeLoop fuel st s data written = (st', s', written + data.length, none) ∧
      Ready C0 F0 Mb id c B tracked st' s' (P ++ data)
  | 0, _, _, _, _, _, _, h => absurd h (Nat.not_lt_zero _)
  | fuel + 1, data, written, st, s, P, ⟨D, inv, hD, hb⟩, hf => by
    rw [writeLoop]
    split
    · rename_i h0
      rw [List.eq_nil_of_length_eq_zero h0]
      exact ⟨st, s, rfl, D, by rwa [List.append_nil], hD, hb⟩
    · rename_i h0
      simp only []
      generalize hn : min (s.bufCap - s.buffer.length) data.length = n
      obtain ⟨hn0, hnd, hnB⟩ := copy_bounds (inv.sB ▸ hb) h0 hn
      clear hn
      have hlen : (s.buffer ++ data.take n).length = s.buffer.length + n := by
        rw [List.length_append, List.length_take, Nat.min_eq_left hnd]
      -- what the remaining rounds do, from any ready state that has accepted `data.take n`
      have rest : ∀ st1 s1, Ready C0 F0 Mb id c B tracked st1 s1 (P ++ data.take n) →
          ∃ st' s', writeLoop fuel st1 s1 (data.drop n) (written + n) = (st', s', written + data.length, none) ∧
            Ready C0 F0 Mb id c B tracked st' s' (P ++ data) := fun st1 s1 h1 => by
        have := writeLoop_ok env fuel (data.drop n) (written + n) st1 s1 _ h1 (by rw [List.length_drop]; omega)
        rwa [List.append_assoc, List.take_append_drop, List.length_drop, Nat.add_assoc, Nat.add_sub_cancel' hnd]
          at this
      split
      · obtain ⟨st2, s2, D2, hu, inv2, hD2, hb2⟩ := upload_false_ok env (inv.push (data.take n)) hD
        rw [hu]
        exact rest st2 s2 ⟨D2, inv2, hD2, Nat.lt_of_lt_of_le hb2 env.hcB⟩
      · rename_i hfull
        refine rest st _ ⟨D, inv.push _, hD, ?_⟩
        show (s.buffer ++ data.take n).length < B
        rw [inv.sB] at hnB hfull
        omega

theorem write_ok (env : Env C0 Mb id c B) (h : Ready C0 F0 Mb id c B tracked st s P) (data : Bytes) :
    ∃ st' s', s.write st data = (st', s', data.length, none) ∧ Ready C0 F0 Mb id c B tracked st' s' (P ++ data) := by
  obtain ⟨D, inv, _⟩ := h
  have := writeLoop_ok env (data.length + 1) data 0 st s P ⟨D, inv, ‹_›⟩ (Nat.lt_succ_self _)
  rw [UploadStream.write, inv.closed, if_neg Bool.false_ne_true]
  rwa [Nat.zero_add] at this

theorem writeAll_ok (env : Env C0 Mb id c B) : ∀ (ws : List Bytes) (st : Store) (s : UploadStream) (P : Bytes),
    Ready C0 F0 Mb id c B tracked st s P →
    ∃ st' s', writeAll st s ws = (st', s', none) ∧ Ready C0 F0 Mb id c B tracked st' s' (P ++ ws.flatten)
  | [], st, s, P, h => ⟨st, s, rfl, by rwa [List.flatten_nil, List.append_nil]⟩
  | w :: ws, st, s, P, h => by
    obtain ⟨st1, s1, hw, h1⟩ := write_ok env h w
    rw [writeAll, hw, List.flatten_cons, ← List.append_assoc]
    exact writeAll_ok env ws st1 s1 _ h1

/-- the flush at the beginning of Close: everything accepted is now persisted as the spec chunking -/
theorem close_flush (env : Env C0 Mb id c B) (inv : UpInv C0 F0 Mb id c B tracked st s P D) (hD : AllFull c D) :
    ∃ st' s', (if s.buffer.length > 0 ∨ (s.tracked = true ∧ s.marker.isNone) then s.upload st true else (st, s, none))
        = (st', s', none) ∧
      UpInv C0 F0 Mb id c B tracked st' s' P (chunksOf c P) ∧ s'.buffer = [] ∧
      (tracked = true → s'.marker.isSome) := by
  have hP : D ++ chunksOf c s.buffer = chunksOf c P := by rw [chunksOf_append_full env.hc D s.buffer hD, inv.flat]
  split
  · have := upload_ok env inv (cut_true env.hc _ s.buffer (Nat.lt_succ_self _))
      (by rw [flatten_chunksOf env.hc, List.append_nil])
    rwa [hP] at this
  · rename_i h
    have hb : s.buffer = [] := List.eq_nil_of_length_eq_zero (by omega)
    rw [hb, chunksOf_nil, List.append_nil] at hP
    refine ⟨st, s, rfl, hP ▸ inv, hb, fun htr => ?_⟩
    cases hm : s.marker with
    | some _ => rfl
    | none => exact absurd (.inr ⟨inv.str.trans htr, by rw [hm]; rfl⟩) h

/-- Close on an untracked bucket: the chunks are the spec chunking, the file record is exact -/
theorem close_untracked_ok (env : Env C0 Mb id c B) (inv : UpInv C0 F0 Mb id c B false st s P D) (hD : AllFull c D)
    (hF0 : ∀ f ∈ F0, f.id ≠ id) :
    ∃ st' s', s.close st = (st', s', none) ∧ st'.chunks = C0 ++ mkDocs id 0 (chunksOf c P) ∧
      st'.files = F0 ++ [⟨id, P.length, c⟩] ∧ st'.markers = Mb ∧ s'.closed = true := by
  obtain ⟨st2, s2, hf, inv2, hb, _⟩ := close_flush env inv hD
  have hfind : st2.findFile s2.id = none := findFile_none_of _ _ (by rw [inv2.files, inv2.sid]; exact hF0)
  have hmk : st2.markers = Mb := by
    rcases inv2.mark with ⟨_, h⟩ | ⟨h, _⟩
    · exact h
    · cases h
  rw [UploadStream.close, inv.closed, if_neg Bool.false_ne_true]
  simp only [hf, inv2.str, Bool.false_eq_true, if_false, Store.insertFile, hfind, Option.isSome_none]
  exact ⟨_, _, rfl, inv2.chunks, by rw [inv2.files, inv2.sid, inv2.sc, inv2.length_eq hb], hmk, rfl⟩

end

/-- open; Write each piece; Close on an untracked bucket -/
theorem uploadAll_untracked (st : Store) (id c B : Nat) (hc : 0 < c) (hcB : c ≤ B)
    (hC : ∀ d ∈ st.chunks, d.file ≠ id) (hF : ∀ f ∈ st.files, f.id ≠ id) (hM : ∀ m ∈ st.markers, m.file ≠ id)
    (hfresh : ∀ m ∈ st.markers, m.id < st.nextId) (ws : List Bytes) :
    (uploadAll st false id c B ws).2 = none ∧
    (uploadAll st false id c B ws).1.chunks = st.chunks ++ mkDocs id 0 (chunksOf c ws.flatten) ∧
    (uploadAll st false id c B ws).1.files = st.files ++ [⟨id, ws.flatten.length, c⟩] ∧
    (uploadAll st false id c B ws).1.markers = st.markers := by
  have env : Env st.chunks st.markers id c B := ⟨hc, hcB, hC, hM⟩
  obtain ⟨st1, s1, hw, D, inv1, hD, _⟩ := writeAll_ok env ws st _ [] (Ready.init env st rfl rfl rfl hfresh)
  obtain ⟨st2, s2, hcl, c2, c3, c4, _⟩ := close_untracked_ok env inv1 hD hF
  rw [uploadAll, hw]
  simp only [hcl]
  exact ⟨trivial, c2, c3, c4⟩

/-! ### the Write loop never exhausts its fuel (any store, any stream with 0 < chunkSize ≤ bufCap) -/

theorem insertChunks_err : ∀ (docs : List ChunkDoc) (st : Store),
    ∃ st' e, st.insertChunks docs = (st', e) ∧ (e = none ∨ e = some .dupKey)
  | [], st => ⟨st, none, rfl, .inl rfl⟩
  | d :: ds, st => by
    rw [Store.insertChunks]
    split
    · exact ⟨st, _, rfl, .inr rfl⟩
    · exact insertChunks_err ds _

theorem ensureMarker_shape (st : Store) (s : UploadStream) :
    ∃ st' mk e, s.ensureMarker st = (st', { s with marker := mk }, e) ∧ (e = none ∨ e = some .dupKey) := by
  unfold UploadStream.ensureMarker Store.insertMarker
  split
  · split
    · exact ⟨_, _, _, rfl, .inr rfl⟩
    · exact ⟨_, _, _, rfl, .inl rfl⟩
  · exact ⟨st, s.marker, none, rfl, .inl rfl⟩

/-- upload(final) on any store: the only error is a refused insert; chunk size and capacity stay, and without an
    error the buffer holds what the cut loop left -/
theorem upload_shape (st : Store) (s : UploadStream) (final : Bool) :
    (∃ st' s', s.upload st final = (st', s', some .dupKey) ∧ s'.chunkSize = s.chunkSize ∧ s'.bufCap = s.bufCap) ∨
    (∃ st' s', s.upload st final = (st', s', none) ∧ s'.chunkSize = s.chunkSize ∧ s'.bufCap = s.bufCap ∧
      s'.buffer = (cut s.chunkSize final (s.buffer.length + 1) s.buffer).2) := by
  obtain ⟨st1, mk, e1, hm, he1⟩ := ensureMarker_shape st s
  obtain ⟨st2, e2, hi, he2⟩ := insertChunks_err
    (mkDocs s.id s.chunks (cut s.chunkSize final (s.buffer.length + 1) s.buffer).1) st1
  unfold UploadStream.upload
  simp only [ite_insertChunks]
  simp only [hm, hi]
  rcases he1 with rfl | rfl
  · rcases he2 with rfl | rfl
    · exact .inr ⟨_, _, rfl, rfl, rfl, rfl⟩
    · exact .inl ⟨_, _, rfl, rfl, rfl⟩
  · exact .inl ⟨_, _, rfl, rfl, rfl⟩

theorem writeLoop_never_diverges : ∀ (fuel : Nat) (st : Store) (s : UploadStream) (data : Bytes) (written : Nat),
    0 < s.chunkSize → s.chunkSize ≤ s.bufCap → s.buffer.length < s.bufCap → data.length < fuel →
    (writeLoop fuel st s data written).2.2.2 ≠ some .diverged
  | 0, _, _, _, _, _, _, _, h => absurd h (Nat.not_lt_zero _)
  | fuel + 1, st, s, data, written, hc, hcB, hb, hf => by
    rw [writeLoop]
    split
    · exact fun h => nomatch h
    · rename_i h0
      simp only []
      generalize hn : min (s.bufCap - s.buffer.length) data.length = n
      obtain ⟨hn0, hnd, hnB⟩ := copy_bounds hb h0 hn
      clear hn
      have hdrop : (data.drop n).length < fuel := by rw [List.length_drop]; omega
      have hlen : (s.buffer ++ data.take n).length = s.buffer.length + n := by
        rw [List.length_append, List.length_take, Nat.min_eq_left hnd]
      split
      · rcases upload_shape st { s with buffer := s.buffer ++ data.take n } false with
          ⟨st2, s2, hu, _⟩ | ⟨st2, s2, hu, h1, h2, h3⟩
        · rw [hu]; exact fun h => nomatch h
        · rw [hu]
          have := (cut_false hc _ (s.buffer ++ data.take n) (Nat.lt_succ_self _)).2.2
          exact writeLoop_never_diverges fuel st2 s2 _ _ (h1 ▸ hc) (h1 ▸ h2 ▸ hcB)
            (by rw [h3, h2]; exact Nat.lt_of_lt_of_le this hcB) hdrop
      · rename_i hfull
        exact writeLoop_never_diverges fuel st _ _ _ hc hcB
          (by show (s.buffer ++ data.take n).length < s.bufCap; omega) hdrop

end Lungo.GridFS
