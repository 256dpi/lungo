/-
  Lemmas about Spec.chunksOf, the model's `cut` loop and `mkDocs`.
-/
import Lungo.Spec.Chunks
import Lungo.Model.GridFS
namespace Lungo.GridFS
open Lungo.Spec

section chunksOf
variable {α : Type} {c : Nat}

/-- Induction along `l ↦ l.drop c`, the recursion of `chunksOf`. -/
theorem drop_induction (hc : 0 < c) {motive : List α → Prop} (nil : motive [])
    (step : ∀ l, l ≠ [] → motive (l.drop c) → motive l) (l : List α) : motive l :=
  if h : l = [] then h ▸ nil else step l h (drop_induction hc nil step (l.drop c))
termination_by l.length
decreasing_by
  have := List.length_pos_iff.mpr h
  simp only [List.length_drop]; omega

theorem chunksAux_fuel (hc : 0 < c) : ∀ (f g : Nat) (l : List α), l.length ≤ f → l.length ≤ g →
    chunksAux c f l = chunksAux c g l
  | 0, 0, _, _, _ => rfl
  | 0, g + 1, l, hf, _ => by simp [chunksAux, Nat.le_zero.mp hf]
  | f + 1, 0, l, _, hg => by simp [chunksAux, Nat.le_zero.mp hg]
  | f + 1, g + 1, l, hf, hg => by
    simp only [chunksAux]
    split
    · rfl
    · rw [chunksAux_fuel hc f g] <;> simp only [List.length_drop] <;> omega

theorem chunksOf_nil (c : Nat) : chunksOf c ([] : List α) = [] := rfl

theorem chunksOf_of_ne_nil (hc : 0 < c) {l : List α} (h : l ≠ []) :
    chunksOf c l = l.take c :: chunksOf c (l.drop c) := by
  have hl := List.length_pos_iff.mpr h
  unfold chunksOf
  obtain ⟨n, hn⟩ : ∃ n, l.length = n + 1 := ⟨l.length - 1, by omega⟩
  rw [hn, chunksAux, if_neg (by omega), chunksAux_fuel hc n (l.drop c).length _ (by simp only [List.length_drop]; omega)
    (Nat.le_refl _)]

theorem flatten_chunksOf (hc : 0 < c) (l : List α) : (chunksOf c l).flatten = l := by
  induction l using drop_induction hc with
  | nil => rfl
  | step l hl ih => rw [chunksOf_of_ne_nil hc hl, List.flatten_cons, ih, List.take_append_drop]

theorem chunksOf_append_full (hc : 0 < c) : ∀ (D : List (List α)) (b : List α), (∀ d ∈ D, d.length = c) →
    D ++ chunksOf c b = chunksOf c (D.flatten ++ b)
  | [], _, _ => rfl
  | d :: D, b, h => by
    have hd : d.length = c := h d (List.mem_cons_self ..)
    have hne : d ++ (D.flatten ++ b) ≠ [] := fun h0 => by
      have := congrArg List.length h0
      rw [List.length_append] at this; simp only [List.length_nil] at this; omega
    rw [List.flatten_cons, List.append_assoc, chunksOf_of_ne_nil hc hne, ← hd, List.take_left,
      List.drop_left, hd, List.cons_append, chunksOf_append_full hc D b fun x hx => h x (List.mem_cons_of_mem _ hx)]

theorem drop_chunksOf (hc : 0 < c) : ∀ (j : Nat) (l : List α), (chunksOf c l).drop j = chunksOf c (l.drop (j * c))
  | 0, l => by rw [Nat.zero_mul]; rfl
  | j + 1, l => by
    by_cases hl : l = []
    · subst hl; rw [List.drop_nil]; rfl
    · rw [chunksOf_of_ne_nil hc hl, List.drop_succ_cons, drop_chunksOf hc j, List.drop_drop, Nat.succ_mul,
        Nat.add_comm]

theorem length_mem_chunksOf (hc : 0 < c) (l : List α) : ∀ d ∈ chunksOf c l, 0 < d.length ∧ d.length ≤ c := by
  induction l using drop_induction hc with
  | nil => intro d hd; cases hd
  | step l hl ih =>
    have := List.length_pos_iff.mpr hl
    intro d hd
    rw [chunksOf_of_ne_nil hc hl] at hd
    rcases List.mem_cons.mp hd with rfl | hd
    · rw [List.length_take]; omega
    · exact ih d hd

/-- number of pieces, division-free: n·c ≥ L and (n−1)·c < L -/
theorem length_chunksOf_bounds (hc : 0 < c) (l : List α) :
    l.length ≤ (chunksOf c l).length * c ∧ (chunksOf c l).length * c < l.length + c := by
  induction l using drop_induction hc with
  | nil => exact ⟨Nat.zero_le _, by rw [chunksOf_nil]; simpa using hc⟩
  | step l hl ih =>
    have := List.length_pos_iff.mpr hl
    rw [chunksOf_of_ne_nil hc hl, List.length_cons, Nat.succ_mul]
    by_cases hle : l.length ≤ c
    · rw [List.drop_of_length_le hle, chunksOf_nil]
      simp only [List.length_nil]; omega
    · rw [List.length_drop] at ih
      omega

theorem length_chunksOf (hc : 0 < c) (l : List α) : (chunksOf c l).length = (l.length + c - 1) / c := by
  have h := length_chunksOf_bounds hc l
  symm
  apply Nat.div_eq_of_lt_le
  · omega
  · rw [Nat.succ_mul]; omega

theorem length_piece_of_not_last (hc : 0 < c) (l : List α) {i : Nat} (hi : i + 1 < (chunksOf c l).length) :
    ((l.drop (i * c)).take c).length = c := by
  have hb := (length_chunksOf_bounds hc l).2
  have := Nat.mul_le_mul_right c hi
  rw [Nat.succ_mul, Nat.succ_mul] at this
  rw [List.length_take, List.length_drop]; omega

/-- piece i is content[i·c, min((i+1)·c, L)) -/
theorem getElem?_chunksOf (hc : 0 < c) (l : List α) (i : Nat) (hi : i < (chunksOf c l).length) :
    (chunksOf c l)[i]? = some ((l.drop (i * c)).take c) := by
  have h := drop_chunksOf hc i l
  have hne : l.drop (i * c) ≠ [] := fun h0 => by
    rw [h0, chunksOf_nil] at h
    have := congrArg List.length h
    rw [List.length_drop] at this; simp only [List.length_nil] at this; omega
  rw [chunksOf_of_ne_nil hc hne] at h
  rw [← List.head?_drop, h]
  rfl

end chunksOf

theorem take_min_length {α : Type} (l : List α) (c : Nat) : l.take (min l.length c) = l.take c := by
  rw [List.take_eq_take_iff, Nat.min_comm, ← Nat.min_assoc, Nat.min_self, Nat.min_comm]

theorem drop_min_length {α : Type} (l : List α) (c : Nat) : l.drop (min l.length c) = l.drop c := by
  rw [List.drop_eq_drop_iff, Nat.min_comm, ← Nat.min_assoc, Nat.min_self, Nat.min_comm]

theorem cut_nil (c : Nat) (final : Bool) (fuel : Nat) : cut c final fuel [] = ([], []) := by
  cases fuel <;> rfl

/-- a buffer shorter than a chunk stays when the cut is not final -/
theorem cut_short {c : Nat} {buf : Bytes} (h : buf.length < c) (fuel : Nat) : cut c false fuel buf = ([], buf) := by
  cases fuel with
  | zero => rfl
  | succ fuel =>
    rw [cut]
    split
    · rfl
    · rw [if_pos ⟨by rw [List.length_take]; omega, rfl⟩]

/-- one round of the loop: a piece is cut when it is full or the cut is final -/
theorem cut_step {c : Nat} {final : Bool} {buf : Bytes} (h0 : buf ≠ []) (h : c ≤ buf.length ∨ final = true)
    (fuel : Nat) :
    cut c final (fuel + 1) buf = (buf.take c :: (cut c final fuel (buf.drop c)).1, (cut c final fuel (buf.drop c)).2) := by
  rw [cut, if_neg (by simpa using h0), if_neg]
  rw [List.length_take]
  rcases h with h | h
  · omega
  · simp [h]

/-- upload(true) cuts the whole buffer into the spec chunking -/
theorem cut_true {c : Nat} (hc : 0 < c) : ∀ (fuel : Nat) (buf : Bytes), buf.length < fuel →
    cut c true fuel buf = (chunksOf c buf, [])
  | 0, _, h => absurd h (Nat.not_lt_zero _)
  | fuel + 1, buf, h => by
    by_cases h0 : buf = []
    · subst h0; rfl
    · have := List.length_pos_iff.mpr h0
      rw [cut_step h0 (.inr rfl), cut_true hc fuel _ (by rw [List.length_drop]; omega), chunksOf_of_ne_nil hc h0]

/-- upload(false) cuts full chunks only and keeps less than one chunk -/
theorem cut_false {c : Nat} (hc : 0 < c) : ∀ (fuel : Nat) (buf : Bytes), buf.length < fuel →
    (cut c false fuel buf).1.flatten ++ (cut c false fuel buf).2 = buf ∧
    (∀ d ∈ (cut c false fuel buf).1, d.length = c) ∧ (cut c false fuel buf).2.length < c
  | 0, _, h => absurd h (Nat.not_lt_zero _)
  | fuel + 1, buf, h => by
    by_cases hlt : buf.length < c
    · rw [cut_short hlt]
      exact ⟨rfl, fun d hd => absurd hd List.not_mem_nil, hlt⟩
    · have h0 : buf ≠ [] := fun e => by subst e; exact hlt hc
      obtain ⟨h1, h2, h3⟩ := cut_false hc fuel (buf.drop c) (by rw [List.length_drop]; omega)
      rw [cut_step h0 (.inl (by omega))]
      refine ⟨?_, ?_, h3⟩
      · rw [List.flatten_cons, List.append_assoc, h1, List.take_append_drop]
      · intro d hd
        rcases List.mem_cons.mp hd with rfl | hd
        · rw [List.length_take]; omega
        · exact h2 d hd

theorem mkDocs_append (file : Nat) : ∀ (A B : List Bytes) (k : Nat),
    mkDocs file k (A ++ B) = mkDocs file k A ++ mkDocs file (k + A.length) B
  | [], _, _ => rfl
  | a :: A, B, k => by
    rw [List.cons_append, mkDocs, mkDocs_append file A B, mkDocs, List.cons_append, List.length_cons,
      Nat.add_right_comm, Nat.add_assoc]

theorem length_mkDocs (file : Nat) : ∀ (A : List Bytes) (k : Nat), (mkDocs file k A).length = A.length
  | [], _ => rfl
  | a :: A, k => by rw [mkDocs, List.length_cons, length_mkDocs file A, List.length_cons]

theorem mem_mkDocs (file : Nat) : ∀ (A : List Bytes) (k : Nat) (d : ChunkDoc),
    d ∈ mkDocs file k A → d.file = file ∧ k ≤ d.n ∧ d.n < k + A.length ∧ d.data ∈ A
  | a :: A, k, d, h => by
    rw [mkDocs, List.mem_cons] at h
    rcases h with rfl | h
    · exact ⟨rfl, Nat.le_refl _, by simp, List.mem_cons_self ..⟩
    · obtain ⟨h1, h2, h3, h4⟩ := mem_mkDocs file A (k + 1) d h
      exact ⟨h1, by omega, by rw [List.length_cons]; omega, List.mem_cons_of_mem _ h4⟩

theorem drop_mkDocs (file : Nat) : ∀ (j : Nat) (A : List Bytes) (k : Nat),
    (mkDocs file k A).drop j = mkDocs file (k + j) (A.drop j)
  | 0, _, _ => rfl
  | j + 1, [], _ => rfl
  | j + 1, a :: A, k => by
    rw [mkDocs, List.drop_succ_cons, List.drop_succ_cons, drop_mkDocs file j A, Nat.add_right_comm, Nat.add_assoc]

theorem getElem?_mkDocs (file : Nat) : ∀ (A : List Bytes) (k i : Nat),
    (mkDocs file k A)[i]? = (A[i]?).map fun d => ⟨file, k + i, d⟩
  | [], _, _ => rfl
  | a :: A, k, 0 => rfl
  | a :: A, k, i + 1 => by
    rw [mkDocs, List.getElem?_cons_succ, List.getElem?_cons_succ, getElem?_mkDocs file A, Nat.add_right_comm,
      Nat.add_assoc]

end Lungo.GridFS
