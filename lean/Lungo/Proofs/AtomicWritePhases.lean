/-
  Lungo.Proofs.AtomicWritePhases — the expected program, instruction by instruction (from the last to the first).
  Each phase lemma states what is known before its instruction, computes the successful call and hands over
  to the next phase; the faulted call is dealt with once, in `phase_step`.
-/
import Lungo.Proofs.AtomicWrite
namespace Lungo.AtomicWrite
open Lungo.FS

def iFsyncDir : Instr := ⟨.fsyncDir, [], .ret, C2⟩
def iOpenDir : Instr := ⟨.openDir, [], .ret, C1⟩
def iRename : Instr := ⟨.renameTmpToPath, [], .ret, C1⟩
def iClose : Instr := ⟨.closeTmp, [], .ret, C1⟩
def iFsync : Instr := ⟨.fsyncTmp, [], .ret, C1⟩
def iWrite (b : Bytes) : Instr := ⟨.writeTmp, b, .ret, C1⟩
def iCreate : Instr := ⟨.createExclTmp, [], .ret, []⟩
def iRemove : Instr := ⟨.removeTmp, [], .retUnlessNotExist, []⟩
def tail5 : List Instr := [iFsync, iClose, iRename, iOpenDir, iFsyncDir]

theorem compile_expected (chunks : List Bytes) :
    compile chunks Expected.atomicWriteSteps [] = (iRemove :: iCreate :: (chunks.map iWrite ++ tail5), C2) := rfl

section
variable {path tmp : Name} (hne : tmp ≠ path) {f : Faults} {A₀ A : Option Bytes → Prop} {new : Bytes}
include hne

/-- one instruction with error edge `ret`/`retUnlessNotExist`: without a fault the call succeeds and the run
    continues (`hs`); a faulted call keeps the invariants (`exec_base`: a faulted rename does nothing, a faulted
    write goes to a private inode, `hw`) and the deferred calls run -/
theorem phase_step {fin : List Call} {i : Instr} {rest : List Instr} {m : M} {j0 nm nb nb' : Nat} {gp : Prop}
    (hG : Base m.fs path A) (hA₀ : 0 < nb' → Base m.fs path A₀)
    (hw : i.call = .writeTmp → ∀ h, m.tmpH = some h → Private m.fs path h)
    (hi : i.onErr ≠ .ignore) (hcl : ∀ c ∈ i.cleanup, c ∈ C2)
    (hsh : (i.cleanup = [] ∧ (gp → ∀ x, f j0 = some x → (execCall path tmp i.call i.chunk m (some x)).1.fs.vdir tmp = none)) ∨
      ∃ pre, i.cleanup = pre ++ [.removeTmp])
    (hnb : nb' ≤ nb + 1)
    (hs : f j0 = none → proceeds i.onErr (execCall path tmp i.call i.chunk m none).2 = true ∧
      Tri (fun k => runUpTo path tmp f fin k rest (execCall path tmp i.call i.chunk m none).1 (j0 + 1))
        (fun m => Base m.fs path A) (Post path tmp f A₀ new gp (j0 + 1) nm nb)) :
    Tri (fun k => runUpTo path tmp f fin k (i :: rest) m j0)
      (fun m => Base m.fs path A) (Post path tmp f A₀ new gp j0 (nm + 1) nb') := by
  apply tri_step path tmp f hG
  · intro hp
    cases hft : f j0 with
    | none => exact ((hs hft).2).mono_P fun m h => h.shift hft hnb
    | some x =>
      rw [hft, exec_fault_stops path tmp _ _ _ _ hi] at hp
      cases hp
  · intro hp
    cases hft : f j0 with
    | none =>
      rw [hft, (hs hft).1] at hp
      cases hp
    | some x =>
      have keep : ∀ {X}, Base m.fs path X → Base (execCall path tmp i.call i.chunk m (some x)).1.fs path X :=
        fun hb => exec_base hne _ _ m _ hb hw fun _ e => absurd e (exec_fault_err ..).ne_none
      exact fail_tri (f := f) (j0 := j0) hne i.cleanup { (execCall path tmp i.call i.chunk m (some x)).1 with err := true }
        hcl (hsh.imp (fun ⟨e, hg⟩ => ⟨e, fun g => hg g x hft⟩) id) (by rw [hft]; nofun) (keep hG) rfl fun h => keep (hA₀ h)

end

section
variable {path tmp : Name} (hne : tmp ≠ path) {f : Faults} {A₀ A : Option Bytes → Prop} {new : Bytes} {gp : Prop}
  (hA : ∀ x, A₀ x → A x) (hnew : A (some new))
include hne hA hnew

omit hA hnew in
/-- all main-line calls have succeeded: the final deferred calls -/
theorem phase_return (m : M) (j0 : Nat) (hb : Base m.fs path A) (hn : PathInv m.fs path (· = some new))
    (he : m.err = false) (hg : m.fs.vdir tmp = none) :
    Tri (fun k => runUpTo path tmp f C2 k [] m j0) (fun m => Base m.fs path A) (Post path tmp f A₀ new gp j0 0 0) := by
  simp only [runUpTo_nil]
  let Q : M → Prop := fun m => Base m.fs path A ∧ Base m.fs path (· = some new) ∧ m.err = false ∧ m.fs.vdir tmp = none
  have hQ : ∀ c ∈ C2, ∀ m ft, Q m → Q (execCall path tmp c [] m ft).1 := fun c hc m ft ⟨h1, h2, h3, h4⟩ =>
    ⟨exec_base_cleanup hne c hc m ft h1, exec_base_cleanup hne c hc m ft h2, (execCall_err ..).trans h3,
      exec_gone c (fun e => absurd (e ▸ hc) (by decide)) [] m ft h4⟩
  intro k
  have t := cleanup_tri path tmp f Q C2 hQ m j0 ⟨hb, ⟨hb.wf, hn⟩, he, hg⟩ k
  refine ⟨t.1.1, fun hk => ?_⟩
  obtain ⟨_, q2, q3, q4⟩ := t.2 hk
  exact ⟨fun _ => ⟨q2.inv, q4⟩, fun _ => q3, fun j hj hlt => absurd hlt (Nat.not_lt.mpr hj.1), fun _ _ => q4⟩

omit hA hnew in
theorem phase_fsyncDir (m : M) (j0 : Nat) (hb : Base m.fs path A) (he : m.err = false)
    (hg : m.fs.vdir tmp = none) (hd : Fd.dir ∈ m.fs.fds) (h : Ino)
    (hap : applyAll m.fs.ddir m.fs.pending path = some h) (hst : Stable m.fs h new) (hv : m.fs.vdir path = some h) :
    Tri (fun k => runUpTo path tmp f C2 k [iFsyncDir] m j0)
      (fun m => Base m.fs path A) (Post path tmp f A₀ new gp j0 1 0) := by
  refine phase_step hne (nb := 0) hb nofun nofun (by decide) (fun _ hc => hc) (.inr ⟨[.closeDir, .closeTmp], rfl⟩)
    (Nat.zero_le _) fun _ => ?_
  have hb' := exec_base hne iFsyncDir.call iFsyncDir.chunk m none hb nofun nofun
  have hex : execCall path tmp iFsyncDir.call iFsyncDir.chunk m none =
      (⟨{ m.fs with ddir := applyAll m.fs.ddir m.fs.pending, pending := [] }, m.tmpH, m.err⟩, none) := by
    simp [execCall, iFsyncDir, fsyncDir, hd]
  rw [hex] at hb' ⊢
  -- the rename is durable now: every directory gives `path` the inode with the new content
  have hok : ∀ v, v = some h → ValOK m.fs (· = some new) v := fun _ e => e ▸ ⟨new, hst, rfl⟩
  exact ⟨rfl, phase_return hne _ _ hb' ⟨hok _ hap, hok _ hv, fun _ h => absurd h List.not_mem_nil⟩ he hg⟩

omit hA hnew in
theorem phase_openDir (m : M) (j0 : Nat) (hb : Base m.fs path A) (he : m.err = false)
    (hg : m.fs.vdir tmp = none) (h : Ino)
    (hap : applyAll m.fs.ddir m.fs.pending path = some h) (hst : Stable m.fs h new) (hv : m.fs.vdir path = some h) :
    Tri (fun k => runUpTo path tmp f C2 k [iOpenDir, iFsyncDir] m j0)
      (fun m => Base m.fs path A) (Post path tmp f A₀ new gp j0 2 0) := by
  refine phase_step hne (nb := 0) hb nofun nofun (by decide) C1_sub (.inr ⟨[.closeTmp], rfl⟩) (Nat.zero_le _) fun _ => ?_
  have hb' := exec_base hne iOpenDir.call iOpenDir.chunk m none hb nofun nofun
  have hex : execCall path tmp iOpenDir.call iOpenDir.chunk m none =
      (⟨{ m.fs with fds := .dir :: m.fs.fds }, m.tmpH, m.err⟩, none) := by
    simp [execCall, iOpenDir, openDir]
  rw [hex] at hb' ⊢
  exact ⟨rfl, phase_fsyncDir hne _ _ hb' he hg List.mem_cons_self h hap hst hv⟩

theorem phase_rename (m : M) (j0 : Nat) (hb : Base m.fs path A₀) (he : m.err = false) (h : Ino)
    (hvt : m.fs.vdir tmp = some h) (hst : Stable m.fs h new) :
    Tri (fun k => runUpTo path tmp f C2 k [iRename, iOpenDir, iFsyncDir] m j0)
      (fun m => Base m.fs path A) (Post path tmp f A₀ new gp j0 3 1) := by
  have hbA := hb.mono hA
  refine phase_step hne (nb := 0) hbA (fun _ => hb) nofun (by decide) C1_sub (.inr ⟨[.closeTmp], rfl⟩) (Nat.le_refl _)
    fun _ => ?_
  have hb' := exec_base hne iRename.call iRename.chunk m none hbA nofun
    fun _ _ i hi => Option.some.inj (hvt.symm.trans hi) ▸ ⟨new, hst, hnew⟩
  have hex : execCall path tmp iRename.call iRename.chunk m none =
      (⟨{ m.fs with vdir := (m.fs.vdir.set tmp none).set path (some h),
                    pending := m.fs.pending ++ [.rename tmp path h] }, m.tmpH, m.err⟩, none) := by
    simp [execCall, iRename, rename, hvt]
  rw [hex] at hb' ⊢
  refine ⟨rfl, phase_openDir hne _ _ hb' he ?_ h ?_ hst (Dir.set_same ..)⟩
  · exact (Dir.set_other _ _ hne).trans (Dir.set_same ..)
  · show applyAll m.fs.ddir (m.fs.pending ++ [.rename tmp path h]) path = some h
    rw [applyAll_append]
    exact Dir.set_same ..

theorem phase_close (m : M) (j0 : Nat) (hb : Base m.fs path A₀) (he : m.err = false) (h : Ino)
    (htmp : m.tmpH = some h) (hfd : Fd.file h ∈ m.fs.fds)
    (hvt : m.fs.vdir tmp = some h) (hst : Stable m.fs h new) :
    Tri (fun k => runUpTo path tmp f C2 k [iClose, iRename, iOpenDir, iFsyncDir] m j0)
      (fun m => Base m.fs path A) (Post path tmp f A₀ new gp j0 4 2) := by
  refine phase_step hne (nb := 1) (hb.mono hA) (fun _ => hb) nofun (by decide) C1_sub (.inr ⟨[.closeTmp], rfl⟩)
    (Nat.le_refl _) fun _ => ?_
  have hb' := exec_base hne iClose.call iClose.chunk m none hb nofun nofun
  have hex : execCall path tmp iClose.call iClose.chunk m none =
      (⟨{ m.fs with fds := m.fs.fds.erase (.file h) }, m.tmpH, m.err⟩, none) := by
    simp [execCall, iClose, withFile, htmp, close, hfd]
  rw [hex] at hb' ⊢
  exact ⟨rfl, phase_rename hne hA hnew _ _ hb' he h hvt hst⟩

theorem phase_writes (cs : List Bytes) : ∀ (m : M) (j0 : Nat) (_hb : Base m.fs path A₀) (_he : m.err = false) (h : Ino)
    (_htmp : m.tmpH = some h) (_hfd : Fd.file h ∈ m.fs.fds) (_hvt : m.fs.vdir tmp = some h)
    (_hpr : Private m.fs path h) (_hdur : (m.fs.ino h).dur = []) (_hc : (m.fs.ino h).pend ++ cs.flatten = new),
    Tri (fun k => runUpTo path tmp f C2 k (cs.map iWrite ++ tail5) m j0)
      (fun m => Base m.fs path A) (Post path tmp f A₀ new gp j0 (cs.length + 5) (cs.length + 3)) := by
  induction cs with
  | nil =>
    intro m j0 hb he h htmp hfd hvt hpr hdur hc
    refine phase_step hne (i := iFsync) (nb := 2) (hb.mono hA) (fun _ => hb) nofun (by decide) C1_sub
      (.inr ⟨[.closeTmp], rfl⟩) (Nat.le_refl _) fun _ => ?_
    have hb' := exec_base hne iFsync.call iFsync.chunk m none hb nofun nofun
    have hex : execCall path tmp iFsync.call iFsync.chunk m none =
        (⟨{ m.fs with ino := setIno m.fs.ino h ⟨(m.fs.ino h).dur ++ (m.fs.ino h).pend, []⟩ }, m.tmpH, m.err⟩, none) := by
      simp [execCall, iFsync, withFile, htmp, fsync, hfd]
    rw [hex] at hb' ⊢
    refine ⟨rfl, phase_close hne hA hnew _ _ hb' he h htmp hfd hvt ?_⟩
    show setIno m.fs.ino h _ h = _
    rw [setIno, if_pos rfl, hdur, ← hc, List.flatten_nil, List.append_nil, List.nil_append]
  | cons b cs ih =>
    intro m j0 hb he h htmp hfd hvt hpr hdur hc
    refine phase_step hne (i := iWrite b) (nb := cs.length + 3) (hb.mono hA) (fun _ => hb)
      (fun _ h' e => Option.some.inj (htmp.symm.trans e) ▸ hpr) nofun C1_sub (.inr ⟨[.closeTmp], rfl⟩)
      (Nat.le_refl _) fun _ => ?_
    have hb' := exec_base hne (iWrite b).call (iWrite b).chunk m none hb
      (fun _ h' e => Option.some.inj (htmp.symm.trans e) ▸ hpr) nofun
    have hex : execCall path tmp (iWrite b).call (iWrite b).chunk m none =
        (⟨{ m.fs with ino := setIno m.fs.ino h ⟨(m.fs.ino h).dur, (m.fs.ino h).pend ++ b⟩ }, m.tmpH, m.err⟩, none) := by
      simp [execCall, iWrite, withFile, htmp, write, hfd]
    rw [hex] at hb' ⊢
    refine ⟨rfl, ih _ _ hb' he h htmp hfd hvt hpr ?_ ?_⟩
    · show (setIno m.fs.ino h _ h).dur = []
      rw [setIno, if_pos rfl]
      exact hdur
    · show (setIno m.fs.ino h _ h).pend ++ cs.flatten = new
      rw [setIno, if_pos rfl, ← hc, List.flatten_cons, List.append_assoc]

theorem phase_create (cs : List Bytes) (m : M) (j0 : Nat) (hb : Base m.fs path A₀) (he : m.err = false)
    (hg : m.fs.vdir tmp = none) (hc : cs.flatten = new) :
    Tri (fun k => runUpTo path tmp f C2 k (iCreate :: (cs.map iWrite ++ tail5)) m j0)
      (fun m => Base m.fs path A) (Post path tmp f A₀ new gp j0 (cs.length + 6) (cs.length + 4)) := by
  refine phase_step hne (i := iCreate) (nb := cs.length + 3) (hb.mono hA) (fun _ => hb) nofun (by decide)
    (fun _ h => absurd h List.not_mem_nil) (.inl ⟨rfl, fun _ _ _ => hg⟩) (Nat.le_refl _) fun _ => ?_
  have hb' := exec_base hne iCreate.call iCreate.chunk m none hb nofun nofun
  have hex : execCall path tmp iCreate.call iCreate.chunk m none =
      (⟨{ m.fs with ino := setIno m.fs.ino m.fs.next ⟨[], []⟩, next := m.fs.next + 1,
                    vdir := m.fs.vdir.set tmp (some m.fs.next),
                    pending := m.fs.pending ++ [.link tmp m.fs.next], fds := .file m.fs.next :: m.fs.fds },
         some m.fs.next, m.err⟩, none) := by
    simp [execCall, iCreate, createExcl, hg]
  rw [hex] at hb' ⊢
  refine ⟨rfl, phase_writes hne hA hnew cs _ _ hb' he m.fs.next rfl List.mem_cons_self (Dir.set_same ..) ?_ ?_ ?_⟩
  · -- the fresh inode is private: the old state cannot show it, and the new link is for `tmp`
    rintro (hs | hs | ⟨op, hm, hs⟩)
    · exact hb.wf.private_next path (.inl hs)
    · exact hb.wf.private_next path (.inr (.inl ((Dir.set_other _ _ hne.symm).symm.trans hs)))
    · rcases List.mem_append.mp hm with hm | hm
      · exact hb.wf.private_next path (.inr (.inr ⟨op, hm, hs⟩))
      · cases List.mem_singleton.mp hm
        rw [DirOp.effect, if_neg hne.symm] at hs
        cases hs
  · show (setIno m.fs.ino m.fs.next _ m.fs.next).dur = []
    rw [setIno, if_pos rfl]
  · show (setIno m.fs.ino m.fs.next _ m.fs.next).pend ++ cs.flatten = new
    rw [setIno, if_pos rfl]
    exact hc

theorem phase_remove (cs : List Bytes) (m : M) (j0 : Nat) (hb : Base m.fs path A₀) (he : m.err = false)
    (hc : cs.flatten = new) :
    Tri (fun k => runUpTo path tmp f C2 k (iRemove :: iCreate :: (cs.map iWrite ++ tail5)) m j0)
      (fun m => Base m.fs path A) (Post path tmp f A₀ new (f j0 = none) j0 (cs.length + 7) (cs.length + 5)) := by
  refine phase_step hne (i := iRemove) (nb := cs.length + 4) (hb.mono hA) (fun _ => hb) nofun (by decide)
    (fun _ h => absurd h List.not_mem_nil) (.inl ⟨rfl, fun hn x hx => nomatch hn.symm.trans hx⟩) (Nat.le_refl _) fun _ => ?_
  have hb' := exec_base hne iRemove.call iRemove.chunk m none hb nofun nofun
  cases hv : m.fs.vdir tmp with
  | none =>
    have hex : execCall path tmp iRemove.call iRemove.chunk m none = (m, some .notExist) := by
      simp [execCall, iRemove, unlink, hv]
    rw [hex]
    exact ⟨rfl, phase_create hne hA hnew cs m _ hb he hv hc⟩
  | some i =>
    have hex : execCall path tmp iRemove.call iRemove.chunk m none =
        (⟨{ m.fs with vdir := m.fs.vdir.set tmp none, pending := m.fs.pending ++ [.unlink tmp] }, m.tmpH, m.err⟩, none) := by
      simp [execCall, iRemove, unlink, hv]
    rw [hex] at hb' ⊢
    exact ⟨rfl, phase_create hne hA hnew cs _ _ hb' he (Dir.set_same ..) hc⟩

end
end Lungo.AtomicWrite
