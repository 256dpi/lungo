/-
  Lungo.Proofs.NoPanic — the model of Match / Apply never reports a Go panic (`Err.panic`),
  provided the `$jsonSchema` evaluator parameter does not. Used by C11 (and C20).

  The only place of the model that produces `.panic` is `Put` on an empty path (Model/Access.lean);
  everything else hands errors on.  So every lemma `NP (f …)` below has the same reason: the body of
  `f` is a tree of `match`/`if` whose leaves are values, plain errors, errors handed on from a call
  that is itself `NP`, or such a call in tail position.  `np_tree` is that argument.
-/
import Lungo.Model.Apply
import Lungo.Proofs.AccessLaws
namespace Lungo

/-- "this result is not a panic". -/
def NP {α} (r : Res α) : Prop := ∀ site, r ≠ .error (.panic site)

theorem NP_ok {α} (a : α) : NP (.ok a : Res α) := by intro s h; cases h
theorem NP_err {α} : NP (.error .err : Res α) := by intro s h; cases h
theorem NP_dup {α} : NP (.error .dup : Res α) := by intro s h; cases h
theorem NP_notMatched {α} : NP (.error .notMatched : Res α) := by intro s h; cases h
theorem NP_unmodelled {α} (w : String) : NP (.error (.unmodelled w) : Res α) := by intro s h; cases h
theorem NP_notMatched' : NP notMatched := NP_notMatched

/-- an error handed on from a call that does not panic is no panic (at whatever result type) -/
theorem NP_of_error {α β} {r : Res α} (h : NP r) {e : Err} (he : r = .error e) : NP (.error e : Res β) := by
  intro s h'; cases h'; exact h s he

open Lean.Parser.Tactic in
/-- `np_split [lemmas]` proves `NP t` for a tree `t` of `match`/`if`, node by node.  A node is
    * `.ok _`;
    * a `match`/`if`: `split`, and go on in every branch;
    * a plain error or a call `g x`: closed by `simp` with the constant lemmas above and the given `NP (g x)`
      (`implies_true` serves a loop combinator `g` whose lemma asks `∀ y, NP (f y)` of its callback);
    * `.error e` in a branch `g x = .error e`: `NP_of_error` reduces it to the tree `g x`.
    A leaf that is none of these is left as a goal. -/
syntax "np_split" "[" (simpStar <|> simpErase <|> simpLemma),* "]" : tactic
macro_rules
  | `(tactic| np_split [$ts,*]) => `(tactic|
      first
        | with_reducible exact NP_ok _
        | (split <;> np_split [$ts,*])
        | simp only [NP_err, NP_dup, NP_notMatched, NP_notMatched', NP_unmodelled, implies_true, $ts,*]
        | ((with_reducible refine NP_of_error ?_ ‹_›); np_split [$ts,*])
        | skip)

open Lean.Parser.Tactic in
/-- `np_tree [lemmas]`: `np_split` once the `let`s of the body are gone (a `let` hides the `match` under it
    from `split`; `simp only` removes them too, at thirty times the price on a long body). -/
syntax "np_tree" "[" (simpStar <|> simpErase <|> simpLemma),* "]" : tactic
macro_rules
  | `(tactic| np_tree [$ts,*]) => `(tactic| ((conv => zeta); np_split [$ts,*]))

theorem NP_bind_unit {r : Res Unit} {k : Res Unit} (hr : NP r) (hk : NP k) :
    NP (match r with | .error e => .error e | .ok _ => k) := by
  np_tree [hr, hk]

theorem negate_np {r : Res Unit} (h : NP r) : NP (negate r) := by
  unfold negate
  np_tree [h]

theorem unwindLoop_np (op : V → Res Unit) (hop : ∀ f, NP (op f)) (xs : List V) (r : Res Unit)
    (h : unwindLoop op xs = some r) : NP r := by
  induction xs with
  | nil => cases h
  | cons f rest ih =>
    unfold unwindLoop at h
    split at h
    · exact ih h
    · cases h; exact NP_of_error (hop f) ‹_›
    · cases h; exact NP_ok _

theorem matchUnwind_np (d : Doc) (path : String) (merge ym : Bool) (op : V → Res Unit)
    (hop : ∀ f, NP (op f)) : NP (matchUnwind d path merge ym op) := by
  unfold matchUnwind
  simp only
  split
  · rename_i r hr
    split at hr
    · exact unwindLoop_np op hop _ _ hr
    · cases hr
  · np_tree [hop]

theorem matchComp_np (d : Doc) (op path : String) (v : V) : NP (matchComp d op path v) := by
  refine matchUnwind_np _ _ _ _ _ fun f => ?_
  np_tree []

theorem matchIn_np (d : Doc) (path : String) (v : V) : NP (matchIn d path v) := by
  refine matchUnwind_np _ _ _ _ _ fun f => ?_
  np_tree []

theorem matchExists_np (d : Doc) (path : String) (v : V) : NP (matchExists d path v) := by
  unfold matchExists
  np_tree []

theorem resolveType_np (v : V) : NP (resolveType v) := by
  unfold resolveType
  np_tree []

theorem resolveTypes_np (vs : List V) : NP (resolveTypes vs) := by
  induction vs with
  | nil => exact NP_ok _
  | cons o r ih => unfold resolveTypes; np_tree [resolveType_np, ih]

theorem matchType_np (d : Doc) (path : String) (v : V) : NP (matchType d path v) := by
  unfold matchType
  simp only
  split
  · np_tree []
  · split
    · exact NP_of_error (resolveTypes_np _) ‹_›
    · refine matchUnwind_np _ _ _ _ _ fun f => ?_
      np_tree []

theorem allLoop_np (d : Doc) (path : String) (vs : List V) : NP (allLoop d path vs) := by
  induction vs with
  | nil => exact NP_ok _
  | cons item r ih => unfold allLoop; np_tree [matchComp_np, ih]

theorem matchAll_np (d : Doc) (path : String) (v : V) : NP (matchAll d path v) := by
  unfold matchAll
  np_tree [allLoop_np]

theorem intArg_np (v : V) : NP (intArg v) := by
  unfold intArg
  np_tree []

theorem matchSize_np (d : Doc) (path : String) (v : V) : NP (matchSize d path v) := by
  unfold matchSize
  np_tree [intArg_np]

theorem modOperand_np (v : V) : NP (modOperand v) := by
  unfold modOperand
  np_tree []

theorem matchMod_np (d : Doc) (path : String) (v : V) : NP (matchMod d path v) := by
  unfold matchMod
  split
  · split
    · exact NP_of_error (modOperand_np _) ‹_›
    · split
      · exact NP_of_error (modOperand_np _) ‹_›
      · split
        · exact NP_err
        · refine matchUnwind_np _ _ _ _ _ fun f => ?_
          np_tree []
  · exact NP_err

theorem bitPosition_np (v : V) : NP (bitPosition v) := by
  unfold bitPosition
  np_tree []

theorem bitPositions_np (vs : List V) : NP (bitPositions vs) := by
  induction vs with
  | nil => exact NP_ok _
  | cons o r ih => unfold bitPositions; np_tree [bitPosition_np, ih]

theorem parseBitMask_np (v : V) : NP (parseBitMask v) := by
  unfold parseBitMask
  np_tree [bitPositions_np]

theorem matchBits_np (d : Doc) (op path : String) (v : V) : NP (matchBits d op path v) := by
  unfold matchBits
  split
  · exact NP_of_error (parseBitMask_np v) ‹_›
  · refine matchUnwind_np _ _ _ _ _ fun f => ?_
    np_tree []

theorem leafOp_np (d : Doc) (op path : String) (v : V) (r : Res Unit)
    (h : leafOp d op path v = some r) : NP r := by
  unfold leafOp at h
  split at h <;> cases h <;>
    simp only [negate_np, matchComp_np, matchIn_np, matchExists_np, matchType_np, matchAll_np, matchSize_np,
      matchBits_np, matchMod_np]

theorem elemLoop_np (f : V → Res Unit) (hf : ∀ x, NP (f x)) (xs : List V) : NP (elemLoop f xs) := by
  induction xs with
  | nil => exact NP_notMatched
  | cons item r ih => unfold elemLoop; np_tree [hf, ih]

theorem match_np_all (sch : SchemaEval) (hs : ∀ a b, NP (sch a b)) :
    (∀ d op path v, NP (mOp sch d op path v)) ∧
    (∀ d query pfx root, NP (mProcess sch d query pfx root)) ∧
    (∀ d pfx key value root, NP (mExpr sch d pfx key value root)) ∧
    (∀ d path exps, NP (mOps sch d path exps)) ∧
    (∀ d items, NP (mOrLoop sch d items)) ∧
    (∀ d items, NP (mAndLoop sch d items)) ∧
    (∀ d path query, NP (mNotLoop sch d path query)) := by
  apply mOp.mutual_induct sch
    (motive1 := fun d op path v => NP (mOp sch d op path v))
    (motive2 := fun d query pfx root => NP (mProcess sch d query pfx root))
    (motive3 := fun d pfx key value root => NP (mExpr sch d pfx key value root))
    (motive4 := fun d path exps => NP (mOps sch d path exps))
    (motive5 := fun d items => NP (mOrLoop sch d items))
    (motive6 := fun d items => NP (mAndLoop sch d items))
    (motive7 := fun d path query => NP (mNotLoop sch d path query))
  all_goals intros
  all_goals first | unfold mOp | unfold mProcess | unfold mExpr | unfold mOps | unfold mOrLoop | unfold mAndLoop | unfold mNotLoop
  all_goals simp_all only [Bool.false_eq_true, ↓reduceIte, NP_ok, NP_err, NP_notMatched', matchComp_np]
  -- what is left: `mOp` on a leaf operator, `mOp` on `$elemMatch`, `mExpr` on `$nor`, `mExpr` handing over to `mOps`
  · exact leafOp_np _ _ _ _ _ ‹_›
  · rename_i ih
    refine elemLoop_np _ (fun x => ?_) _
    np_tree [ih]
  · rename_i ih
    refine negate_np ?_
    split <;> np_tree [ih]
  · assumption

/-- mongokit.Match reports no panic when the `$jsonSchema` evaluator doesn't. -/
theorem Match_np (sch : SchemaEval) (hs : ∀ a b, NP (sch a b)) (d q : Doc) : NP (Match sch d q) := by
  unfold Match
  np_tree [(match_np_all sch hs).2.1]

theorem record_np (s : AState) (path : String) (v : V) : NP (record s path v) := by
  unfold record
  np_tree []

theorem put_np (v : V) (p : Path) (x : V) (pre : Bool) : NP (put v p x pre) := by
  intro site h
  cases put_error_err v p x pre _ h

theorem Put_np (d : Doc) (p : Path) (x : V) (pre : Bool) (hp : p ≠ []) : NP (Put d p x pre) := by
  intro site h
  cases Put_error_err d p x pre _ hp h

theorem Put_splitPath_np (d : Doc) (p : String) (x : V) (pre : Bool) : NP (Put d (splitPath p) x pre) :=
  Put_np d _ x pre (splitPath_ne_nil p)

theorem putRec_np (s : AState) (path : String) (v : V) : NP (putRec s path v) := by
  unfold putRec
  np_tree [Put_splitPath_np, record_np]

theorem addOrErr_np (r : Option V) : NP (addOrErr r) := by
  unfold addOrErr
  np_tree []

theorem pushSort_cols_np (s : List (String × V)) : NP (pushSort.cols s) := by
  induction s with
  | nil => exact NP_ok _
  | cons kv r ih => unfold pushSort.cols; np_tree [intArg_np, pushIntModifier, ih]

theorem pushSort_np (arr : List V) (spec : V) : NP (pushSort arr spec) := by
  unfold pushSort
  np_tree [pushSort_cols_np]

theorem pullMatches_np (sch : SchemaEval) (hs : ∀ a b, NP (sch a b)) (el cond : V) :
    NP (pullMatches sch el cond) := by
  unfold pullMatches
  np_tree [Match_np sch hs]

theorem pullFilter_np (sch : SchemaEval) (hs : ∀ a b, NP (sch a b)) (cond : V) (xs : List V) :
    NP (pullFilter sch cond xs) := by
  induction xs with
  | nil => exact NP_ok _
  | cons item r ih => unfold pullFilter; np_tree [pullMatches_np sch hs, ih]

theorem parsePushMods_np (d : Doc) (m : PushMods) : NP (parsePushMods d m) := by
  induction d generalizing m with
  | nil => exact NP_ok _
  | cons kv r ih => unfold parsePushMods; np_tree [ih]

theorem parseAddToSetMods_np (d : Doc) (vals : List V) : NP (parseAddToSetMods d vals) := by
  induction d generalizing vals with
  | nil => exact NP_ok _
  | cons kv r ih => unfold parseAddToSetMods; np_tree [ih]

theorem recs_np (path : String) (s : AState) (i : Nat) (vals : List V) :
    NP (applyOp.recs path s i vals) := by
  induction vals generalizing s i with
  | nil => exact NP_ok _
  | cons val r ih => unfold applyOp.recs; np_tree [record_np, ih]

theorem applyOp_np (c : ACtx) (hs : ∀ a b, NP (c.sch a b)) (s : AState) (op path : String) (v : V) :
    NP (applyOp c s op path v) := by
  unfold applyOp
  np_tree [record_np, putRec_np, Put_splitPath_np, addOrErr_np, intArg_np, pushIntModifier, pushSort_np,
    parsePushMods_np, parseAddToSetMods_np, recs_np, pullFilter_np c.sch hs]

theorem anyFilter_np (sch : SchemaEval) (hs : ∀ a b, NP (sch a b)) (id : String) (item : V) (fs : List Doc) :
    NP (anyFilter sch id item fs) := by
  induction fs with
  | nil => exact NP_ok _
  | cons f r ih => unfold anyFilter; np_tree [Match_np sch hs, ih]

theorem loopIdx_np (f : Nat → V → Res (Option (List String))) (hf : ∀ i x, NP (f i x)) (i : Nat) (xs : List V) :
    NP (loopIdx f i xs) := by
  induction xs generalizing i with
  | nil => exact NP_ok _
  | cons item r ih => unfold loopIdx; np_tree [hf, ih]

theorem resolve_np (sch : SchemaEval) (hs : ∀ a b, NP (sch a b)) (fuel : Nat) (path : String) (doc : Doc)
    (afs : List Doc) : NP (resolve sch fuel path doc afs) := by
  induction fuel generalizing path with
  | zero => exact NP_err
  | succ n ih =>
    unfold resolve
    np_tree []
    all_goals
      refine loopIdx_np _ (fun i x => ?_) _ _
      np_tree [anyFilter_np sch hs, ih]

theorem Apply_each_np (c : ACtx) (hs : ∀ a b, NP (c.sch a b)) (op : String) (value : V) (s : AState)
    (ps : List String) : NP (Apply.conds.each c op value s ps) := by
  induction ps generalizing s with
  | nil => exact NP_ok _
  | cons p r ih => unfold Apply.conds.each; np_tree [applyOp_np c hs, ih]

theorem Apply_conds_np (c : ACtx) (hs : ∀ a b, NP (c.sch a b)) (afs : List Doc) (s : AState) (op : String)
    (upd : List (String × V)) : NP (Apply.conds c afs s op upd) := by
  induction upd generalizing s with
  | nil => exact NP_ok _
  | cons kv r ih => unfold Apply.conds; np_tree [resolve_np c.sch hs, Apply_each_np c hs, ih]

theorem Apply_ops_np (c : ACtx) (hs : ∀ a b, NP (c.sch a b)) (afs : List Doc) (s : AState)
    (upd : List (String × V)) : NP (Apply.ops c afs s upd) := by
  induction upd generalizing s with
  | nil => exact NP_ok _
  | cons kv r ih => unfold Apply.ops; np_tree [Apply_conds_np c hs, ih]

theorem Apply_np (c : ACtx) (hs : ∀ a b, NP (c.sch a b)) (d u : Doc) (afs : List Doc) :
    NP (Apply c d u afs) := by
  unfold Apply
  np_tree [Apply_ops_np c hs]

end Lungo
