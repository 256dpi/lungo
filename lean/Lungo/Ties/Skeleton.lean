/- Tie (T): the synchronisation skeleton (lock / unlock / acquire / release / alive? / kill / wait /
   tracked assignments, calls and channel operations / control structure) of the Engine, Session,
   Stream and Semaphore functions regenerated from /repo equals `Expected.skeleton`, the skeleton the
   transition systems `Lungo.Conc` (C04, C16) and `Lungo.StreamTS` (C09) were written against.
   One tie per function, so a failure names the function; `tie_skeleton` is the whole list.
   A per-function tie says that entry `i` of the expected list is the generated term under its key (`rfl`: the two
   are the same closed term, string literals are compared as literals) and that the keys of the list are distinct
   (`Expected.skeleton_keys_nodup`, evaluated once), so the look-up finds that entry. -/
import Lungo.Gen.Skeleton
import Lungo.Expected.Skeleton
namespace Lungo

theorem tie_skeleton_Engine_Catalog : some Gen.sk_Engine_Catalog = Expected.find? "Engine.Catalog" :=
  Expected.find?_skeleton (i := 0) rfl
theorem tie_skeleton_Engine_Begin : some Gen.sk_Engine_Begin = Expected.find? "Engine.Begin" :=
  Expected.find?_skeleton (i := 1) rfl
theorem tie_skeleton_Engine_Commit : some Gen.sk_Engine_Commit = Expected.find? "Engine.Commit" :=
  Expected.find?_skeleton (i := 2) rfl
theorem tie_skeleton_Engine_Abort : some Gen.sk_Engine_Abort = Expected.find? "Engine.Abort" :=
  Expected.find?_skeleton (i := 3) rfl
theorem tie_skeleton_Engine_Watch : some Gen.sk_Engine_Watch = Expected.find? "Engine.Watch" :=
  Expected.find?_skeleton (i := 4) rfl
theorem tie_skeleton_Engine_Close : some Gen.sk_Engine_Close = Expected.find? "Engine.Close" :=
  Expected.find?_skeleton (i := 5) rfl
theorem tie_skeleton_Engine_expire : some Gen.sk_Engine_expire = Expected.find? "Engine.expire" :=
  Expected.find?_skeleton (i := 6) rfl
theorem tie_skeleton_Session_startTransaction : some Gen.sk_Session_startTransaction = Expected.find? "Session.startTransaction" :=
  Expected.find?_skeleton (i := 7) rfl
theorem tie_skeleton_Session_CommitTransaction : some Gen.sk_Session_CommitTransaction = Expected.find? "Session.CommitTransaction" :=
  Expected.find?_skeleton (i := 8) rfl
theorem tie_skeleton_Session_AbortTransaction : some Gen.sk_Session_AbortTransaction = Expected.find? "Session.AbortTransaction" :=
  Expected.find?_skeleton (i := 9) rfl
theorem tie_skeleton_Session_EndSession : some Gen.sk_Session_EndSession = Expected.find? "Session.EndSession" :=
  Expected.find?_skeleton (i := 10) rfl
theorem tie_skeleton_Session_Transaction : some Gen.sk_Session_Transaction = Expected.find? "Session.Transaction" :=
  Expected.find?_skeleton (i := 11) rfl
theorem tie_skeleton_Session_WithTransaction : some Gen.sk_Session_WithTransaction = Expected.find? "Session.WithTransaction" :=
  Expected.find?_skeleton (i := 12) rfl
theorem tie_skeleton_useTransaction : some Gen.sk_useTransaction = Expected.find? "useTransaction" :=
  Expected.find?_skeleton (i := 13) rfl
theorem tie_skeleton_Stream_next : some Gen.sk_Stream_next = Expected.find? "Stream.next" :=
  Expected.find?_skeleton (i := 14) rfl
theorem tie_skeleton_Stream_Close : some Gen.sk_Stream_Close = Expected.find? "Stream.Close" :=
  Expected.find?_skeleton (i := 15) rfl
theorem tie_skeleton_Semaphore_Acquire : some Gen.sk_Semaphore_Acquire = Expected.find? "Semaphore.Acquire" :=
  Expected.find?_skeleton (i := 16) rfl
theorem tie_skeleton_Semaphore_Release : some Gen.sk_Semaphore_Release = Expected.find? "Semaphore.Release" :=
  Expected.find?_skeleton (i := 17) rfl

theorem tie_skeleton : Gen.skeleton = Expected.skeleton := rfl

end Lungo
