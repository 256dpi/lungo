/- Tie (T): the clone/mutate/publish programs of the Transaction write methods and the write structure of
   the mongokit.Collection methods, regenerated from /repo/transaction.go and /repo/mongokit/collection.go by
   go/cmd/extract/txnprog.go, equal the terms the C02/C03 theorems are proved about.

   Each comparison is by `rfl`: both sides are closed terms, and the kernel compares string literals as
   literals (deciding the equality instead would run `String.decEq` on every name and source text). -/
import Lungo.Gen.TxnPrograms
import Lungo.Expected.TxnPrograms
namespace Lungo

theorem tie_txnPrograms : Gen.txnPrograms = Expected.txnPrograms := rfl

theorem tie_collPrograms : Gen.collPrograms = Expected.collPrograms := rfl

theorem tie_cloneBodies : Gen.cloneBodies = Expected.cloneBodies := rfl

/-- hence the regenerated programs pass the ownership check -/
theorem gen_owned : ∀ p ∈ Gen.txnPrograms, Own.ownedOK p.2 = true :=
  tie_txnPrograms ▸ Expected.expected_owned

end Lungo
