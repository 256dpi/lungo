/-
# Lungo.Expected.Skeleton — synchronisation skeletons as DATA

The synchronisation skeleton of the Go functions that make up lungo's concurrency
protocol (engine / session / stream / semaphore), read off the source by hand:

    /repo/engine.go          Engine.Catalog Begin Commit Abort Watch Close expire
    /repo/session.go         Session.startTransaction CommitTransaction AbortTransaction
                             EndSession Transaction WithTransaction
    /repo/utils.go           useTransaction
    /repo/stream.go          Stream.next Stream.Close
    /repo/dbkit/semaphore.go Semaphore.Acquire Semaphore.Release

A Go extractor (go/ast, *no type information needed*) emits `Gen.skeleton` in the SAME
datatype; the fact `Gen.skeleton = Expected.skeleton` (checked by evaluation) ties the
transition systems of the model (DESIGN Appendix B) to the code.  The CODE is the
reference; Appendix B is prose.  Core Lean only.
The rules below were validated with a throw-away go/ast prototype (~400 lines) that follows
them literally: its output was `decide`-equal to `Expected.skeleton` on the tree under /repo.

## 0. Shape

    skeleton : List (String × Sk)       key = "<RecvType>.<Name>"  (receiver type without `*`)
                                        or  "<Name>" for plain functions (useTransaction)
    FuncDecl                            ↦ (key, .func (T body.List))
    []ast.Stmt                          ↦ List Sk          (T below; order preserved)
    one kept ast.Stmt                   ↦ exactly ONE Sk   (one constructor application)
    dropped ast.Stmt                    ↦ nothing

`Sk` has few constructors (the ones that contain statement lists) plus `.atom a` where
`Atom` is a flat enum of leaf statements.  `Sk.lock m` etc. are `@[match_pattern]`
abbreviations for `.atom (.lock m)`; the extractor may emit either spelling.
The two closures that `Engine.Watch` stores into the stream (`stream.oplog`, `stream.cancel`)
are rendered as NESTED `.closure "<lhs path>" body` nodes at the position of the assignment
(not as separate entries).

## 1. Text normalisation

`strip(e)`     remove any number of outer `*ast.ParenExpr`.
`path(e)`      (may be undefined)  Ident x ↦ "x";  SelectorExpr{X,Sel} ↦ path(X) ++ "." ++ Sel;
               IndexExpr{X,_} ↦ path(X) ++ "[_]"   (the index is ERASED, ASCII underscore);
               CallExpr{Fun,_} ↦ path(Fun) ++ "()"  (arguments erased);
               StarExpr{X} / ParenExpr{X} ↦ path(X);  anything else: undefined.
`pure(e)`      path(e) is defined and uses only Ident / SelectorExpr / StarExpr / ParenExpr
               (no index, no call).
`last(p)`      the final dot-separated component of a path string.
`text(e)`      `go/types.ExprString(strip(e))`  (binary operators always get one space on
               each side: `len(oplog.List) > index + 1`; string literals keep their quotes).
`name(e)`      path(e) if defined, else text(e).
Receiver and variable names are taken VERBATIM from the source (no renaming by type):
the engine receiver is `e`, session and stream receivers are both `s`, `Engine.Close` uses
the loop variable `stream`, `useTransaction` the parameter `engine`, `Begin` the local `sess`.

## 2. Tables (also as Lean `def`s below: the Go side should read those)

`trackedCallees` are FINAL names: a CallExpr `f(..)` is a *tracked call* iff `f` is an Ident
whose name is in the table, or a SelectorExpr whose `Sel.Name` is in the table.  It is
rendered as `path(f)` WITHOUT the "()" (e.g. "e.store.Store", "sess.Transaction", "fn").
`trackedFields`, `trackedChannels`, `trackedClosures` are compared against `path(e)`.

## 3. Classification of a call  (`callKind`, first match wins)

For `c = CallExpr{Fun: f, Args}`:
 1. f = Sel{X, "Lock"|"RLock"}     and last(path X) = "mutex"  ↦ lock (path X)
 2. f = Sel{X, "Unlock"|"RUnlock"} and last(path X) = "mutex"  ↦ unlock (path X)
 3. f = Sel{X, "Acquire"} and last(path X) = "token"           ↦ acquire
 4. f = Sel{X, "Release"} and last(path X) = "token"           ↦ release
 5. f = Sel{X, "Kill"}    and last(path X) = "tomb"            ↦ kill
 6. f = Sel{X, "Wait"}    and last(path X) = "tomb"            ↦ wait
 7. f = Ident "panic"                                          ↦ panic
 8. f = Ident "close"  and path(Args[0]) ∈ trackedChannels     ↦ close (path Args[0])
 9. f = Ident "delete" and path(Args[0]) ++ "[_]" ∈ trackedFields ↦ delete (path Args[0] ++ "[_]")
10. c is a tracked call                                        ↦ call (path f)
11. otherwise                                                  ↦ none

## 4. Simple statements  (first match wins; "dropped" = emit nothing)

 * ExprStmt{CallExpr c}                       ↦ callKind c (dropped if none)
 * ExprStmt{UnaryExpr{<-, ch}}, path ch ∈ trackedChannels            ↦ recv (path ch)
 * SendStmt{Chan: ch}, path ch ∈ trackedChannels                     ↦ send (path ch)
 * AssignStmt (`=` or `:=`) with Lhs, Rhs:
    a. |Lhs| = |Rhs| = 1, path(Lhs[0]) ∈ trackedClosures, Rhs[0] is a FuncLit
                                    ↦ .closure (path Lhs[0]) (T funcLit.Body.List)
    b. |Lhs| = |Rhs| = 1, path(Lhs[0]) ∈ trackedFields   ↦ set (path Lhs[0]) (rhs Rhs[0])
    c. |Rhs| = 1, Rhs[0] a CallExpr with callKind ≠ none ↦ that atom (the Lhs is ignored:
         `ok = e.token.Acquire(..)` ↦ acquire, `_ = e.tomb.Wait()` ↦ wait,
         `txn, err := e.Begin(nil, true)` ↦ call "e.Begin")
    d. |Rhs| = 1, Rhs[0] = UnaryExpr{<-, ch}, path ch ∈ trackedChannels ↦ recv (path ch)
    e. |Lhs| = |Rhs| = 1, Lhs[0] an Ident v, path(Rhs[0]) ∈ trackedFields ∪ trackedChannels
                                    ↦ read v (path Rhs[0])      (`txn := s.txn`, `signal := s.signal`)
    f. otherwise dropped.  (A multi-assignment with a tracked field on the left is
       UNSUPPORTED: the extractor must fail loudly.)
 * DeferStmt{Call c}:
    - c.Fun is a FuncLit                      ↦ .deferBlock (T body)   (dropped if T body = [])
    - callKind c = unlock m ↦ deferUnlock m;  release ↦ deferRelease;  call x ↦ deferCall x;
      none ↦ dropped (`defer ticker.Stop()`, `defer t.Stop()`); any other kind: UNSUPPORTED.
   Deferred actions are recorded where they are REGISTERED; they are not replayed at
   `return`s (the consumer applies LIFO order itself).
 * ReturnStmt ↦ ret kind calls  (§7).  A `return` inside nested blocks is rendered in place;
   nothing is hoisted or pruned after it.
 * BranchStmt break ↦ brk, continue ↦ cont (labels dropped; goto/fallthrough UNSUPPORTED).
 * DeclStmt, IncDecStmt, EmptyStmt, every other ExprStmt/AssignStmt: dropped.
   GoStmt, SwitchStmt, TypeSwitchStmt: UNSUPPORTED inside the configured functions
   (none occurs today).  LabeledStmt ↦ T of the inner statement.  BlockStmt ↦ its
   statements spliced into the surrounding list.
 * FuncLits other than the two cases above (tracked closure, `defer func(){..}()`) are
   NOT descended into.

rhs kinds (`rhs e`, e stripped, first match): Ident nil ↦ nil; Ident true ↦ tt; false ↦ ff;
Ident with prefix "Err" ↦ named x; other Ident ↦ var x; CallExpr{Fun f} with Fun Ident
`make`/`new` ↦ fresh; other CallExpr ↦ call (name f)  [tracked or not: "bsonkit.Get",
"ctx.Err", "NewTransaction", "txn.Catalog"; a `.Clone()` shows up as call "x.Clone"];
CompositeLit, `&`CompositeLit, FuncLit ↦ fresh; pure(e) ↦ field (path e); else other (text e).

## 5. Compound statements

 * IfStmt{Init, Cond, Body, Else}: first emit T[Init] (a simple statement, §4) into the
   CURRENT list if it is kept (`if err := ctx.Err(); err != nil {..}` ↦
   `call "ctx.Err"` followed by the `ite`).  Then t := T Body, e := T Else (Else = nil ↦ [],
   `else if` ↦ the list T [that IfStmt], so its Init lands inside `els`).
   Emit `.ite (cond Cond) t e` iff t ++ e ≠ []; otherwise nothing.
 * ForStmt / RangeStmt: b := T Body.  kind: no Cond/Init/Post ↦ forever; RangeStmt{X} ↦
   range (name X); otherwise cond (cond Cond) (Init/Post dropped).
   Emit `.loop kind b` iff `liveList b` (§ `Sk.live`: b contains, transitively, some node
   other than brk/cont and ite/loop wrappers of those) or it is a RangeStmt with
   path X ∈ trackedFields (then b may be []: `for stream := range e.streams {append}` in Close).
   Consequence: `brk`/`cont` are always emitted by T, but survive only inside kept loops;
   `if x { break }` inside a loop that has nothing else disappears together with the loop
   (the three search loops of Engine.Watch).
 * SelectStmt: ALWAYS kept.  Each CommClause ↦ `.arm op (T clause.Body)`, in source order:
       Comm = nil                              ↦ dflt
       ExprStmt{<-ch}  or  `v := <-ch`/`v = <-ch`   ↦ recv (name ch)
       `v, ok := <-ch` / `v, ok = <-ch`        ↦ recvOk (name ch)
       SendStmt{ch <- _}                       ↦ send (name ch)
   `ctx.Done()`, `e.tomb.Dying()`, timers are ordinary recv arms, recognisable by the
   channel text ("ctx.Done()", "e.tomb.Dying()", "ticker.C", "deadline").
   Exception (the only one): a select with exactly two clauses, one `send ch` and one
   default, whose two translated bodies are BOTH empty ↦ the atom `trysend (name ch)`.
   (Semaphore.Release has a `panic` in the default arm, so it stays a `.select`.)

## 6. Conditions (`cond e`, e stripped; ordered, first match wins)

 1. `!x` ↦ not (cond x);  `a && b` ↦ and (cond a) (cond b);  `a || b` ↦ or (cond a) (cond b)
    (Go's left-associative parse: `a && b && c` ↦ and (and a b) c).
 2. CallExpr{Sel{X,"Alive"}} with last(path X) = "tomb" ↦ alive;
    CallExpr with final name "Dirty" ↦ dirty;  other tracked call ↦ call (path f).
 3. `x != nil` / `x == nil`: x = Ident "err" ↦ errNotNil / errNil;  pure(x) ↦ notNil / isNil (path x).
 4. `x == y` / `x != y` with pure(x) and pure(y) ↦ eq / ne (path x) (path y).
 5. `len(x) > 0` with pure(x) ↦ lenPos (path x).
 6. pure(e) (Ident or selector used as a boolean), not the Idents true/false ↦ flag (path e).
 7. otherwise other (text e).      Error strings never occur in conditions.

## 7. Return kinds (`ret kind calls`)

R := result list of the innermost enclosing FuncDecl/FuncLit; rs := the ReturnStmt results.
 1. rs = []                                 ↦ void
 2. |rs| = 1 and R has more than one result ↦ forward      (`return fn(txn)`)
 3. R's last type is the Ident `error`; x := strip(last rs):
      Ident nil ↦ ok;  Ident with prefix "Err" ↦ named x;
      CallExpr to `fmt.Errorf` or `errors.New` ↦ fmtErr (the string is NOT recorded);
      anything else ↦ err
 4. otherwise x := strip(last rs): Ident true ↦ tt; Ident false ↦ ff;
      path(x) defined ↦ path (path x); else value.
calls := [ path f | r ← rs, strip r = CallExpr{Fun f} a tracked call ]  (top level only).
-/

namespace Lungo.Expected

/-! ## Tables -/

/-- FINAL names of tracked callees (Ident name or `Sel.Name`). -/
def trackedCallees : List String :=
  [ "Store", "Clean", "NewTransaction", "Begin", "Commit", "Abort", "Transaction",
    "cancel", "oplog", "fn", "Expire", "reporter", "Dirty", "Err",
    "startTransaction", "CommitTransaction", "AbortTransaction" ]

/-- Tracked fields, as `path` strings (index erased to `[_]`). `e.streams` itself is listed so
that `for … range e.streams` is always kept. -/
def trackedFields : List String :=
  [ "e.txn", "e.catalog", "e.streams", "e.streams[_]",
    "s.txn", "s.starting", "s.ended",
    "s.closed", "s.dropped", "s.last", "s.error", "s.event", "s.token",
    "stream.closed" ]

/-- Tracked channels for stand-alone send / recv / close / read (select arms are always kept). -/
def trackedChannels : List String :=
  [ "s.signal", "stream.signal", "signal", "s.tokens" ]

/-- Left-hand sides whose FuncLit right-hand side is rendered as a nested `.closure`. -/
def trackedClosures : List String := [ "stream.oplog", "stream.cancel" ]

/-- `last(path X)` recognised for Lock/Unlock, Acquire/Release, Alive/Kill/Wait. -/
def mutexName : String := "mutex"
def tokenName : String := "token"
def tombName  : String := "tomb"

/-- Functions the extractor is configured with: (file, key). -/
def functions : List (String × String) :=
  [ ("engine.go", "Engine.Catalog"), ("engine.go", "Engine.Begin"), ("engine.go", "Engine.Commit"),
    ("engine.go", "Engine.Abort"), ("engine.go", "Engine.Watch"), ("engine.go", "Engine.Close"),
    ("engine.go", "Engine.expire"),
    ("session.go", "Session.startTransaction"), ("session.go", "Session.CommitTransaction"),
    ("session.go", "Session.AbortTransaction"), ("session.go", "Session.EndSession"),
    ("session.go", "Session.Transaction"), ("session.go", "Session.WithTransaction"),
    ("utils.go", "useTransaction"),
    ("stream.go", "Stream.next"), ("stream.go", "Stream.Close"),
    ("dbkit/semaphore.go", "Semaphore.Acquire"), ("dbkit/semaphore.go", "Semaphore.Release") ]

/-! ## Datatypes -/

/-- Condition kinds (§6). -/
inductive Cond where
  | alive                         -- `<..>.tomb.Alive()`
  | dirty                         -- `<..>.Dirty()`
  | errNotNil                     -- `err != nil`
  | errNil                        -- `err == nil`
  | isNil  (p : String)           -- `p == nil`
  | notNil (p : String)           -- `p != nil`
  | eq (a b : String)             -- `a == b`, both pure paths
  | ne (a b : String)             -- `a != b`
  | lenPos (p : String)           -- `len(p) > 0`
  | flag (p : String)             -- a pure path used as a boolean
  | call (callee : String)        -- a tracked call used as a boolean
  | not (c : Cond)
  | and (a b : Cond)
  | or  (a b : Cond)
  | other (text : String)         -- go/types.ExprString
  deriving DecidableEq, BEq, Repr

/-- Right-hand-side kinds of `set` (§4). -/
inductive Rhs where
  | nil | tt | ff
  | named (name : String)         -- Ident with prefix "Err"
  | var   (name : String)         -- any other Ident (parameter or local)
  | field (p : String)            -- pure path that is not an Ident
  | call  (callee : String)       -- any call (callee = name f)
  | fresh                         -- composite literal, &composite, make/new, func literal
  | other (text : String)
  deriving DecidableEq, BEq, Repr

/-- Return kinds (§7). -/
inductive Ret where
  | void                          -- `return`
  | ok                            -- error position is `nil`
  | err                           -- error position is a variable / other expression
  | named (name : String)         -- error position is `ErrXxx`
  | fmtErr                        -- error position is fmt.Errorf / errors.New (string dropped)
  | forward                       -- `return f(..)` in a multi-result function
  | tt | ff                       -- non-error function: literal booleans
  | path (p : String)             -- non-error function: a path
  | value                         -- non-error function: anything else
  deriving DecidableEq, BEq, Repr

/-- Communication of a select arm (§5). -/
inductive ChanOp where
  | recv   (ch : String)
  | recvOk (ch : String)
  | send   (ch : String)
  | dflt
  deriving DecidableEq, BEq, Repr

/-- Loop kinds (§5). -/
inductive LoopKind where
  | forever
  | range (over : String)
  | cond (c : Cond)
  deriving DecidableEq, BEq, Repr

/-- Leaf statements. -/
inductive Atom where
  | lock (m : String) | unlock (m : String) | deferUnlock (m : String)
  | acquire | release | deferRelease
  | kill | wait
  | set (field : String) (rhs : Rhs)
  | delete (field : String)
  | read (var field : String)
  | call (callee : String)
  | deferCall (callee : String)
  | send (ch : String) | recv (ch : String) | close (ch : String) | trysend (ch : String)
  | brk | cont
  | ret (kind : Ret) (calls : List String)
  | panic
  deriving DecidableEq, BEq, Repr

/-- The skeleton tree. `select` contains only `arm` nodes; `func` occurs only at top level. -/
inductive Sk where
  | atom (a : Atom)
  | ite (c : Cond) (thn els : List Sk)
  | loop (k : LoopKind) (body : List Sk)
  | select (arms : List Sk)
  | arm (op : ChanOp) (body : List Sk)
  | deferBlock (body : List Sk)
  | closure (name : String) (body : List Sk)
  | func (body : List Sk)
  deriving Repr

namespace Sk
@[match_pattern] abbrev lock (m : String) : Sk := .atom (.lock m)
@[match_pattern] abbrev unlock (m : String) : Sk := .atom (.unlock m)
@[match_pattern] abbrev deferUnlock (m : String) : Sk := .atom (.deferUnlock m)
@[match_pattern] abbrev acquire : Sk := .atom .acquire
@[match_pattern] abbrev release : Sk := .atom .release
@[match_pattern] abbrev deferRelease : Sk := .atom .deferRelease
@[match_pattern] abbrev kill : Sk := .atom .kill
@[match_pattern] abbrev wait : Sk := .atom .wait
@[match_pattern] abbrev set (f : String) (r : Rhs) : Sk := .atom (.set f r)
@[match_pattern] abbrev delete (f : String) : Sk := .atom (.delete f)
@[match_pattern] abbrev read (v f : String) : Sk := .atom (.read v f)
@[match_pattern] abbrev call (c : String) : Sk := .atom (.call c)
@[match_pattern] abbrev deferCall (c : String) : Sk := .atom (.deferCall c)
@[match_pattern] abbrev send (ch : String) : Sk := .atom (.send ch)
@[match_pattern] abbrev recv (ch : String) : Sk := .atom (.recv ch)
@[match_pattern] abbrev close (ch : String) : Sk := .atom (.close ch)
@[match_pattern] abbrev trysend (ch : String) : Sk := .atom (.trysend ch)
@[match_pattern] abbrev brk : Sk := .atom .brk
@[match_pattern] abbrev cont : Sk := .atom .cont
/-- `return` with no tracked call among its results. -/
@[match_pattern] abbrev ret (k : Ret) : Sk := .atom (.ret k [])
/-- `return` whose results contain tracked calls. -/
@[match_pattern] abbrev retc (k : Ret) (calls : List String) : Sk := .atom (.ret k calls)
@[match_pattern] abbrev panic : Sk := .atom .panic
/-- `if c { t }` without else. -/
@[match_pattern] abbrev when (c : Cond) (t : List Sk) : Sk := .ite c t []
end Sk

/-! ## Equality: structural `beq` by mutual recursion, lawful, hence `DecidableEq` -/

mutual
def Sk.beq : Sk → Sk → Bool
  | .atom a, .atom b => decide (a = b)
  | .ite c t e, .ite c' t' e' => decide (c = c') && Sk.beqList t t' && Sk.beqList e e'
  | .loop k b, .loop k' b' => decide (k = k') && Sk.beqList b b'
  | .select a, .select a' => Sk.beqList a a'
  | .arm o b, .arm o' b' => decide (o = o') && Sk.beqList b b'
  | .deferBlock b, .deferBlock b' => Sk.beqList b b'
  | .closure n b, .closure n' b' => decide (n = n') && Sk.beqList b b'
  | .func b, .func b' => Sk.beqList b b'
  | _, _ => false
def Sk.beqList : List Sk → List Sk → Bool
  | [], [] => true
  | a :: as, b :: bs => Sk.beq a b && Sk.beqList as bs
  | _, _ => false
end

instance : BEq Sk := ⟨Sk.beq⟩

mutual
theorem Sk.beq_refl : ∀ a : Sk, Sk.beq a a = true
  | .atom a => by simp [Sk.beq]
  | .ite c t e => by simp [Sk.beq, Sk.beqList_refl t, Sk.beqList_refl e]
  | .loop _ b | .select b | .arm _ b | .deferBlock b | .closure _ b | .func b => by
      simp [Sk.beq, Sk.beqList_refl b]
theorem Sk.beqList_refl : ∀ l : List Sk, Sk.beqList l l = true
  | [] => by simp [Sk.beqList]
  | a :: as => by simp [Sk.beqList, Sk.beq_refl a, Sk.beqList_refl as]
end

mutual
theorem Sk.eq_of_beq : ∀ a b : Sk, Sk.beq a b = true → a = b
  | .atom a, b, h => by
      cases b <;> simp [Sk.beq] at h ⊢; exact h
  | .ite c t e, b, h => by
      cases b <;> simp [Sk.beq] at h ⊢
      exact ⟨h.1.1, Sk.eq_of_beqList _ _ h.1.2, Sk.eq_of_beqList _ _ h.2⟩
  | .loop _ b₁, b, h | .arm _ b₁, b, h | .closure _ b₁, b, h => by
      cases b <;> simp [Sk.beq] at h ⊢
      exact ⟨h.1, Sk.eq_of_beqList _ _ h.2⟩
  | .select b₁, b, h | .deferBlock b₁, b, h | .func b₁, b, h => by
      cases b <;> simp [Sk.beq] at h ⊢
      exact Sk.eq_of_beqList _ _ h
theorem Sk.eq_of_beqList : ∀ l l' : List Sk, Sk.beqList l l' = true → l = l'
  | [], [], _ => rfl
  | [], _ :: _, h => by simp [Sk.beqList] at h
  | _ :: _, [], h => by simp [Sk.beqList] at h
  | a :: as, b :: bs, h => by
      simp [Sk.beqList] at h
      rw [Sk.eq_of_beq a b h.1, Sk.eq_of_beqList as bs h.2]
end

theorem Sk.beq_iff (a b : Sk) : Sk.beq a b = true ↔ a = b :=
  ⟨Sk.eq_of_beq a b, fun h => h ▸ Sk.beq_refl a⟩

instance : LawfulBEq Sk where
  eq_of_beq {a b} h := Sk.eq_of_beq a b h
  rfl {a} := Sk.beq_refl a

instance : DecidableEq Sk := fun a b => decidable_of_iff _ (Sk.beq_iff a b)

/-- The checker: `skEq Gen.skeleton Expected.skeleton = true` is provable by `decide`/`rfl`. -/
def skEq (a b : List (String × Sk)) : Bool := a == b

theorem skEq_iff (a b : List (String × Sk)) : skEq a b = true ↔ a = b := by
  simp [skEq]

/-! ## Liveness (the keep-rule for loops, §5) — reference definition for the extractor -/

mutual
/-- A node that justifies keeping an enclosing loop: anything except `brk`/`cont` and
`ite`/`loop` wrappers around only those. -/
def Sk.live : Sk → Bool
  | .atom .brk => false
  | .atom .cont => false
  | .atom _ => true
  | .ite _ t e => Sk.liveList t || Sk.liveList e
  | .loop (.range x) b => trackedFields.contains x || Sk.liveList b
  | .loop _ b => Sk.liveList b
  | .select _ => true
  | .arm _ _ => true
  | .deferBlock _ => true
  | .closure _ _ => true
  | .func _ => true
def Sk.liveList : List Sk → Bool
  | [] => false
  | a :: as => Sk.live a || Sk.liveList as
end

mutual
/-- Well-formedness w.r.t. the keep-rules: no empty `ite`, no dead loop, no empty deferBlock,
`select` holds only arms, arms occur only in selects, `func` only at top level. -/
def Sk.wf : Sk → Bool
  | .atom _ => true
  | .ite _ t e => (!t.isEmpty || !e.isEmpty) && Sk.wfList t && Sk.wfList e
  | .loop (.range x) b => (trackedFields.contains x || Sk.liveList b) && Sk.wfList b
  | .loop _ b => Sk.liveList b && Sk.wfList b
  | .select arms => Sk.wfArms arms
  | .arm _ _ => false
  | .deferBlock b => !b.isEmpty && Sk.wfList b
  | .closure _ b => Sk.wfList b
  | .func _ => false
def Sk.wfList : List Sk → Bool
  | [] => true
  | a :: as => Sk.wf a && Sk.wfList as
def Sk.wfArms : List Sk → Bool
  | [] => true
  | .arm _ b :: as => Sk.wfList b && Sk.wfArms as
  | _ :: _ => false
end

def wfEntry : String × Sk → Bool
  | (_, .func b) => Sk.wfList b
  | _ => false

/-! ## The skeletons -/

open Sk in
/-- engine.go `func (e *Engine) Catalog() *Catalog` -/
def catalog : Sk := .func
  [ lock "e.mutex", deferUnlock "e.mutex",
    ret (.path "e.catalog") ]

open Sk in
/-- engine.go `func (e *Engine) Begin(ctx, lock bool) (*Transaction, error)` -/
def begin_ : Sk := .func
  [ -- nested-transaction check BEFORE the engine lock (fix 1490243): reading the session takes
    -- s.mutex, which the session methods hold while they call into the engine
    when (.flag "lock")
      [ -- `ctx = ensureContext(ctx)`, `sess, ok := ctx.Value(..).(*Session)` dropped
        when (.flag "ok")
          [ call "sess.Transaction",                   -- takes s.mutex; e.mutex NOT held
            when (.notNil "txn") [ ret .fmtErr ] ] ],
    lock "e.mutex", deferUnlock "e.mutex",             -- (`verifAt(..)` / `defer verifAt(..)` ignored)
    when (.not .alive) [ ret (.named "ErrEngineClosed") ],
    when (.not (.flag "lock")) [ retc .ok ["NewTransaction"] ],
    unlock "e.mutex",
    acquire,                                           -- ok = e.token.Acquire(tombctx.Done(), 1min)
    lock "e.mutex",
    when (.not (.flag "ok"))
      [ when (.not .alive) [ ret (.named "ErrEngineClosed") ],
        call "ctx.Err",
        when .errNotNil [ ret .err ],
        ret .fmtErr ],
    when (.not .alive) [ release, ret (.named "ErrEngineClosed") ],
    when (.notNil "e.txn") [ release, ret .fmtErr ],
    set "e.txn" (.call "NewTransaction"),
    ret .ok ]

open Sk in
/-- engine.go `func (e *Engine) Commit(txn *Transaction) error` -/
def commit : Sk := .func
  [ lock "e.mutex", deferUnlock "e.mutex",
    when (.not .alive) [ ret (.named "ErrEngineClosed") ],
    when (.isNil "e.txn") [ ret .fmtErr ],
    when (.ne "e.txn" "txn") [ ret .fmtErr ],
    deferRelease,
    set "e.txn" .nil,
    when (.not .dirty) [ ret .ok ],
    call "txn.Clean",
    call "e.store.Store",
    when .errNotNil [ ret .err ],
    set "e.catalog" (.call "txn.Catalog"),
    .loop (.range "e.streams") [ trysend "stream.signal" ],
    ret .ok ]

open Sk in
/-- engine.go `func (e *Engine) Abort(txn *Transaction)` -/
def abort : Sk := .func
  [ lock "e.mutex", deferUnlock "e.mutex",
    when (.not .alive) [ ret .void ],
    when (.ne "e.txn" "txn") [ ret .void ],
    set "e.txn" .nil,
    release ]

open Sk in
/-- engine.go `func (e *Engine) Watch(handle, pipeline, resumeAfter, startAfter, startAt) (*Stream, error)`.
The three search loops and the `startAt` block contain no kept statement and vanish. -/
def watch : Sk := .func
  [ lock "e.mutex", deferUnlock "e.mutex",
    when (.not .alive) [ ret (.named "ErrEngineClosed") ],
    when (.notNil "resumeAfter") [ when (.not (.flag "resumed")) [ ret .fmtErr ] ],
    when (.notNil "startAfter") [ when (.not (.flag "resumed")) [ ret .fmtErr ] ],
    .closure "stream.oplog"
      [ lock "e.mutex", deferUnlock "e.mutex",
        ret (.path "e.catalog.Namespaces[_].Documents") ],
    .closure "stream.cancel"
      [ lock "e.mutex", deferUnlock "e.mutex",
        delete "e.streams[_]" ],
    set "e.streams[_]" .fresh,
    ret .ok ]

open Sk in
/-- engine.go `func (e *Engine) Close()` — no defers; explicit unlocks. -/
def close_ : Sk := .func
  [ lock "e.mutex",
    when (.not .alive) [ unlock "e.mutex", ret .void ],
    .loop (.range "e.streams") [],                     -- snapshot of the stream set (body dropped)
    kill,
    unlock "e.mutex",
    .loop (.range "streams")
      [ lock "stream.mutex",
        when (.not (.flag "stream.closed"))
          [ set "stream.closed" .tt, close "stream.signal" ],
        unlock "stream.mutex" ],
    wait ]

open Sk in
/-- engine.go `func (e *Engine) expire(interval, reporter)` -/
def expire : Sk := .func
  [ .loop .forever
      [ .select
          [ .arm (.recv "e.tomb.Dying()") [ ret .void ],
            .arm (.recv "ticker.C") [] ],
        call "e.Begin",
        when .errNotNil
          [ when (.notNil "reporter") [ call "reporter" ], cont ],
        call "txn.Expire",
        when .errNotNil
          [ call "e.Abort", when (.notNil "reporter") [ call "reporter" ], cont ],
        call "e.Commit",
        when .errNotNil
          [ when (.notNil "reporter") [ call "reporter" ], cont ] ] ]

open Sk in
/-- session.go `func (s *Session) startTransaction(ctx, opts...) error` -/
def startTransaction : Sk := .func
  [ lock "s.mutex",
    when (.flag "s.ended") [ unlock "s.mutex", ret (.named "ErrSessionEnded") ],
    when (.or (.notNil "s.txn") (.flag "s.starting")) [ unlock "s.mutex", ret .fmtErr ],
    set "s.starting" .tt,
    unlock "s.mutex",
    call "s.engine.Begin",
    lock "s.mutex", deferUnlock "s.mutex",
    set "s.starting" .ff,
    when .errNotNil [ ret .err ],
    when (.flag "s.ended") [ call "s.engine.Abort", ret (.named "ErrSessionEnded") ],
    set "s.txn" (.var "txn"),
    ret .ok ]

open Sk in
/-- session.go `func (s *Session) CommitTransaction(context.Context) error` -/
def commitTransaction : Sk := .func
  [ lock "s.mutex", deferUnlock "s.mutex",
    when (.flag "s.ended") [ ret (.named "ErrSessionEnded") ],
    when (.isNil "s.txn") [ ret .fmtErr ],
    read "txn" "s.txn",
    set "s.txn" .nil,
    call "s.engine.Commit",
    when .errNotNil [ ret .err ],
    ret .ok ]

open Sk in
/-- session.go `func (s *Session) AbortTransaction(context.Context) error` -/
def abortTransaction : Sk := .func
  [ lock "s.mutex", deferUnlock "s.mutex",
    when (.flag "s.ended") [ ret (.named "ErrSessionEnded") ],
    when (.notNil "s.txn") [ call "s.engine.Abort", set "s.txn" .nil ],
    ret .ok ]

open Sk in
/-- session.go `func (s *Session) EndSession(context.Context)` -/
def endSession : Sk := .func
  [ lock "s.mutex", deferUnlock "s.mutex",
    when (.flag "s.ended") [ ret .void ],
    when (.notNil "s.txn") [ call "s.engine.Abort", set "s.txn" .nil ],
    set "s.ended" .tt ]

open Sk in
/-- session.go `func (s *Session) Transaction() *Transaction` -/
def transaction : Sk := .func
  [ lock "s.mutex", deferUnlock "s.mutex",
    ret (.path "s.txn") ]

open Sk in
/-- session.go `func (s *Session) WithTransaction(ctx, fn, opts...) (interface{}, error)` — takes no locks itself. -/
def withTransaction : Sk := .func
  [ call "s.startTransaction",
    when .errNotNil [ ret .err ],
    .deferBlock [ call "s.AbortTransaction" ],
    call "fn",
    when .errNotNil [ ret .err ],
    call "s.CommitTransaction",
    when .errNotNil [ ret .err ],
    ret .ok ]

open Sk in
/-- utils.go `func useTransaction(ctx, engine, lock, fn) (interface{}, error)` -/
def useTransaction : Sk := .func
  [ when (.flag "ok")
      [ call "sess.Transaction",
        when (.notNil "txn") [ retc .forward ["fn"] ] ],
    call "engine.Begin",
    when .errNotNil [ ret .err ],
    when (.not (.flag "lock")) [ retc .forward ["fn"] ],
    deferCall "engine.Abort",
    call "fn",
    when .errNotNil [ ret .err ],
    call "engine.Commit",
    when .errNotNil [ ret .err ],
    ret .ok ]

open Sk in
/-- stream.go `func (s *Stream) next(ctx, block bool) bool` — no defers. -/
def streamNext : Sk := .func
  [ .loop .forever
      [ lock "s.mutex",
        when (.or (.notNil "s.error") (.flag "s.closed")) [ unlock "s.mutex", ret .ff ],
        when (.flag "s.dropped")
          [ set "s.event" (.call "bsonkit.MustConvert"),
            set "s.token" (.call "bsonkit.Get"),
            call "s.cancel",
            set "s.closed" .tt,
            unlock "s.mutex",
            ret .tt ],
        call "s.oplog",
        when (.notNil "s.last")
          [ when (.not (.flag "ok"))
              [ call "s.cancel",
                set "s.closed" .tt,
                set "s.error" (.named "ErrLostOplogPosition"),
                unlock "s.mutex",
                ret .ff ] ],
        when (.other "len(oplog.List) > index + 1")
          [ .ite (.and (.other "s.handle[0] != \"\"") (.other "s.handle[0] != nsDB"))
              [ set "s.last" (.var "event"), unlock "s.mutex", cont ]
              [ when (.and (.and (.other "s.handle[1] != \"\"") (.other "s.handle[1] != nsColl"))
                           (.other "opType != \"dropDatabase\""))
                  [ set "s.last" (.var "event"), unlock "s.mutex", cont ] ],
            .ite (.and (.and (.other "s.handle[0] != \"\"") (.other "s.handle[1] != \"\""))
                       (.other "opType == \"drop\""))
              [ set "s.dropped" .tt ]
              [ when (.and (.other "s.handle[0] != \"\"") (.other "opType == \"dropDatabase\""))
                  [ set "s.dropped" .tt ] ],
            set "s.last" (.var "event"),
            set "s.event" (.var "event"),
            set "s.token" (.var "token"),
            unlock "s.mutex",
            ret .tt ],
        when (.not (.flag "block"))
          [ call "ctx.Err",
            when .errNotNil [ set "s.error" (.var "err") ],
            unlock "s.mutex",
            ret .ff ],
        read "signal" "s.signal",
        unlock "s.mutex",
        .select
          [ .arm (.recvOk "signal")
              [ when (.not (.flag "ok"))
                  [ lock "s.mutex",
                    call "s.cancel",
                    set "s.closed" .tt,
                    unlock "s.mutex",
                    ret .ff ] ],
            .arm (.recv "ctx.Done()")
              [ lock "s.mutex",
                when (.isNil "s.error") [ set "s.error" (.call "ctx.Err") ],
                unlock "s.mutex",
                ret .ff ] ] ] ]

open Sk in
/-- stream.go `func (s *Stream) Close(context.Context) error` -/
def streamClose : Sk := .func
  [ lock "s.mutex", deferUnlock "s.mutex",
    when (.flag "s.closed") [ ret .ok ],
    call "s.cancel",
    set "s.event" .nil,
    set "s.closed" .tt,
    set "s.error" .nil,
    trysend "s.signal",
    ret .ok ]

open Sk in
/-- dbkit/semaphore.go `func (s *Semaphore) Acquire(cancel <-chan struct{}, timeout) bool`.
The `if timeout > 0 { … deadline = t.C }` block has no kept statement and vanishes. -/
def semAcquire : Sk := .func
  [ .select
      [ .arm (.recv "s.tokens") [ ret .tt ],
        .arm (.recv "cancel") [ ret .ff ],
        .arm (.recv "deadline") [ ret .ff ] ] ]

open Sk in
/-- dbkit/semaphore.go `func (s *Semaphore) Release()` -/
def semRelease : Sk := .func
  [ .select
      [ .arm (.send "s.tokens") [],
        .arm .dflt [ panic ] ] ]

/-- The expected skeletons, in the order of `functions`. -/
def skeleton : List (String × Sk) :=
  [ ("Engine.Catalog", catalog),
    ("Engine.Begin", begin_),
    ("Engine.Commit", commit),
    ("Engine.Abort", abort),
    ("Engine.Watch", watch),
    ("Engine.Close", close_),
    ("Engine.expire", expire),
    ("Session.startTransaction", startTransaction),
    ("Session.CommitTransaction", commitTransaction),
    ("Session.AbortTransaction", abortTransaction),
    ("Session.EndSession", endSession),
    ("Session.Transaction", transaction),
    ("Session.WithTransaction", withTransaction),
    ("useTransaction", useTransaction),
    ("Stream.next", streamNext),
    ("Stream.Close", streamClose),
    ("Semaphore.Acquire", semAcquire),
    ("Semaphore.Release", semRelease) ]

/-- Look a function up by key. -/
def find? (key : String) (sk : List (String × Sk) := skeleton) : Option Sk :=
  (sk.find? (·.1 == key)).map (·.2)

/-- in a list with distinct keys a look-up finds the entry that is there -/
theorem find?_of_mem {sk : List (String × Sk)} {k : String} {v : Sk} (nd : (sk.map (·.1)).Nodup)
    (h : (k, v) ∈ sk) : find? k sk = some v := by
  induction sk with
  | nil => cases h
  | cons e sk ih =>
    rw [List.map_cons, List.nodup_cons] at nd
    rcases List.mem_cons.mp h with rfl | h
    · simp [find?]
    · have : (e.1 == k) = false := beq_false_of_ne fun e' => nd.1 (e' ▸ List.mem_map_of_mem (f := (·.1)) h)
      simpa [find?, List.find?_cons, this] using ih nd.2 h

/-- The keys are compared here, once, for every look-up in the expected skeleton (Ties/Skeleton.lean): the kernel
    runs `String.decEq` on string literals byte by byte, and a look-up evaluated on its own pays for every key
    before the one it finds. -/
theorem skeleton_keys_nodup : (skeleton.map (·.1)).Nodup := by decide +kernel

/-- the look-up of a key of the expected skeleton, given the position of its entry -/
theorem find?_skeleton {i : Nat} {k : String} {v : Sk} (h : skeleton[i]? = some (k, v)) : some v = find? k :=
  (find?_of_mem skeleton_keys_nodup (List.mem_of_getElem? h)).symm

/-! ## Self-tests (these are tests, not theorems about the code) -/

/-- the keys are exactly the configured functions, in order (both sides evaluate to the same list of literals:
    `rfl` compares them as literals, deciding the equality would run `String.decEq` on every key) -/
example : skeleton.map (·.1) = functions.map (·.2) := rfl

/-- every entry respects the keep-rules of §5 -/
example : skeleton.all wfEntry = true := by decide +kernel

/-- the checker accepts the expected skeleton against itself (as it does every skeleton: `Sk.beq_refl`) … -/
example : skEq skeleton skeleton = true := (skEq_iff _ _).2 rfl
/-- … and so does plain decidable equality. -/
example : skeleton = skeleton := rfl

open Sk in
/-- MUTANT: `Commit` with `defer e.token.Release()` hoisted above the transaction checks
(would release a token the caller never held). -/
def commitMutant : Sk := .func
  [ lock "e.mutex", deferUnlock "e.mutex",
    when (.not .alive) [ ret (.named "ErrEngineClosed") ],
    deferRelease,
    when (.isNil "e.txn") [ ret .fmtErr ],
    when (.ne "e.txn" "txn") [ ret .fmtErr ],
    set "e.txn" .nil,
    when (.not .dirty) [ ret .ok ],
    call "txn.Clean",
    call "e.store.Store",
    when .errNotNil [ ret .err ],
    set "e.catalog" (.call "txn.Catalog"),
    .loop (.range "e.streams") [ trysend "stream.signal" ],
    ret .ok ]

def skeletonMutant : List (String × Sk) :=
  skeleton.map fun (k, s) => if k == "Engine.Commit" then (k, commitMutant) else (k, s)

/-- the one evaluation of the checker on the mutant that the next two tests share -/
theorem skEq_mutant : skEq skeletonMutant skeleton = false := by decide +kernel

example : skEq skeletonMutant skeleton = false := skEq_mutant
example : skeletonMutant ≠ skeleton := fun h => Bool.false_ne_true (skEq_mutant.symm.trans ((skEq_iff _ _).2 h))
example : skEq [("Engine.Commit", commitMutant)] [("Engine.Commit", commit)] = false := by decide
/-- only the mutated entry differs: the other entries are the same terms on both sides, so nothing is compared
    for them; `commitMutant` against `commit` is the one evaluation -/
example : (skeletonMutant.zip skeleton).filterMap
    (fun (a, b) => if a == b then none else some a.1) = ["Engine.Commit"] := by
  have h : commitMutant ≠ commit := by decide +kernel
  simp [skeletonMutant, skeleton, h]

end Lungo.Expected
